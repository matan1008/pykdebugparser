import KdVerif.Model.Trace
import KdVerif.Model.IRTyping
/-
  C07: what "an individually well-formed event" means, as executable predicates (the driver evaluates
  them: command `indomain`; the theorems of Props/C07 take them as hypotheses).

  * `wordsOK env e` — the record has four argument words and 32 data bytes (C01) and every *own-field side condition* of the
    decoder registered for its code holds on the record: enum-valued words are members, the ioctl
    direction bits are a key of the table, `chr()` arguments are code points, host-enum words are known
    to the host.  The conditions are those the IR checker collects (`IR.checkDecoder`), evaluated on the
    record alone (`ownWindow`: no lookups, empty context tables) in the role(s) the record can play:
    START conditions unless the record is END-qualified, END conditions unless it is START-qualified.
    For the hand-modelled `MACH_vmfault`: the fault-type word of its END record (only when the result word
    is 0); a `RealFaultAddress*` record must satisfy its decoder's START conditions whatever its qualifier,
    because `handle_mach_vmfault` hands nested records to that decoder as `events[0]`.
  * `textOK env w` — the byte strings the handler of window `w` reassembles and decodes are valid text
    (`Env.dec` succeeds on them).
  * `payloadOK env B e` — per record: the text bytes of a string-carrying record lie in the alphabet `B`.
-/
namespace KdVerif.Trace
open KdVerif.IR

/-- The record seen as a window of its own: its words both as START and as END words, no lookups, no context. -/
def ownWindow (e : Kevent) : Window :=
  { startArgs := e.values, endArgs := e.values, startTid := e.tid, startData := e.data }

def faultTypeOK (env : Env) (x : Nat) : Bool := (enumNameOfValue env "DbgVmFaultType" x).isSome

/-- Own-field conditions of the generated decoder `d` on record `e`, by role. -/
def decoderWordsOK (env : Env) (d : Decoder) (e : Kevent) : Bool :=
  (e.qual == 2 || condsHoldAs .start env.host env.tables d (ownWindow e)) &&
  (e.qual == 1 || condsHoldAs .end_ env.host env.tables d (ownWindow e))

def wordsOKFor (env : Env) (name : String) (e : Kevent) : Bool :=
  if name == "MACH_vmfault" then e.qual == 1 || arg e 2 != 0 || faultTypeOK env (arg e 3)
  else if handNames.contains name then true
  else
    match findDecoder env name with
    | some d => !d.supported || (decoderWordsOK env d e &&
        -- a real-fault record nested in a page-fault window is handed to its decoder as `events[0]` whatever
        -- its qualifier is (`handle_mach_vmfault` -> `parse_event_list(real_events)`)
        (!(realFaultClasses.contains name) || condsHoldAs .start env.host env.tables d (ownWindow e)))
    | none => true

def wordsOK (env : Env) (e : Kevent) : Bool :=
  e.values.length == 4 && e.data.length == 32 &&
  match env.codes e.eventid with
  | none => true
  | some name => wordsOKFor env name e

def decOK (env : Env) (bs : Bytes) : Bool :=
  match env.dec bs with
  | .ok _ => true
  | .error _ => false

def lookupsOK (env : Env) (w : List Kevent) : Bool :=
  match parseVnodes env w with
  | .ok _ => true
  | .error _ => false

def singleStringNames : List String := ["TRACE_STRING_NEWTHREAD", "TRACE_STRING_EXEC", "TRACE_STRING_PROC_EXIT"]
def threadnameNames : List String := ["TRACE_STRING_THREADNAME", "TRACE_STRING_THREADNAME_PREV"]

def textOKFor (env : Env) (name : String) (w : List Kevent) : Bool :=
  if name == "TRACE_STRING_GLOBAL" then
    !hasStart (firstOf w) || decOK env (stripNul (globalLoop (firstOf w).eventid w 0 0 [] []).2.2.1)
  else if singleStringNames.contains name then decOK env (stripNul (firstOf w).data)
  else if threadnameNames.contains name then !hasStart (firstOf w) || decOK env (stripNul (joinData w))
  else if name == "VFS_LOOKUP" then !hasStart (firstOf w) || lookupsOK env w
  else if handNames.contains name then true
  else match findDecoder env name with
    | some d => !usesLookups d || lookupsOK env w
    | none => true

/-- Every byte string the handler of window `w` decodes is valid text. -/
def textOK (env : Env) (w : List Kevent) : Bool :=
  match env.codes (firstOf w).eventid with
  | none => true
  | some name => textOKFor env name w

/-- The text bytes a string-carrying record contributes (`[]` for every other record). -/
def payload (env : Env) (e : Kevent) : Bytes :=
  match env.codes e.eventid with
  | none => []
  | some name =>
    if name == "VFS_LOOKUP" then (if hasStart e then e.data.drop 8 else e.data)
    else if name == "TRACE_STRING_GLOBAL" then (if hasStart e then e.data.drop 16 else e.data)
    else if singleStringNames.contains name || threadnameNames.contains name then e.data
    else []

def payloadOK (env : Env) (B : Nat → Bool) (e : Kevent) : Bool := (payload env e).all B

/-- `MACH_vmfault` hands its nested records with ids 0x1320008..0x1320014 to `parse_event_list` and reads
    `.pid` / `.caller_prot` of the answer: under a code table that names such an id after a handler of
    another kind this raises AttributeError (the bundled `trace.codes` does not). -/
def vmfaultIdOK (env : Env) (eid : Nat) : Bool :=
  match env.codes eid with
  | none => true
  | some n => realFaultClasses.contains n || !isHandled env n

/-- Shape of a `RealFaultAddress*` decoder that `handle_mach_vmfault` relies on (kernel-checked on the generated
    table, `C07.decoders_checked`): the dataclass is one of the three, field 5 (`pid`) is an int, field 2
    (`caller_prot`) a member list, no lookup is read, and every side condition reads the START record. -/
def rfShapeOK (d : Decoder) : Bool :=
  realFaultClasses.contains d.cls && !usesLookups d &&
  match checkDecoder d with
  | some k => (k.fieldTys[5]? == some .nat || k.fieldTys[5]? == some .int) && k.fieldTys[2]? == some .members
      && k.conds.all (·.within startSel)
  | none => false

def vmfaultCodesOK (env : Env) : Bool := (List.range' 0x1320008 13).all (vmfaultIdOK env)

end KdVerif.Trace
