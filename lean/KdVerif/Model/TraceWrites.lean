import KdVerif.Model.Trace
/-
  The context-table WRITES of the `TracesParser` (C05 names half, C14 process-column half).

  Every handler of `Model/Trace.lean` changes the shared tables only by dict assignments `d[k] = v`
  (`Dict.set`).  `handleWrites` lists, handler by handler, the assignments one handler call performs (in the
  order of the Python statements); `Proofs/TraceWrites.handleWith_writes` proves that the tables `handle` returns ARE
  the old tables with exactly these assignments applied, so the list is not a second model but a proved
  description of the first.  `tableWrites` is the sequence of assignments of a whole run, each tagged with
  the thread id of the event whose `feed` caused it.  Core Lean only.
-/
namespace KdVerif.Trace

/-- One dict assignment on one of the six context tables. -/
inductive Write
  | threadsPids (k v : Nat)                 -- parser.threads_pids[k] = v
  | pidsNames (k : Nat) (v : String)        -- parser.pids_names[k] = v
  | tidsNames (k : Nat) (v : String)        -- parser.tids_names[k] = v
  | globalStrings (k : Nat) (v : String)    -- parser.global_strings[k] = v
  | pendingNewthread (k v : Nat)            -- parser.last_data_newthread[k] = <record with .pid = v>
  | pendingExec (k v : Nat)                 -- parser.last_data_exec[k] = <record with .pid = v>
  deriving DecidableEq, Repr, Inhabited

def Write.apply (t : Tabs) : Write → Tabs
  | .threadsPids k v => { t with threadsPids := t.threadsPids.set k v }
  | .pidsNames k v => { t with pidsNames := t.pidsNames.set k v }
  | .tidsNames k v => { t with tidsNames := t.tidsNames.set k v }
  | .globalStrings k v => { t with globalStrings := t.globalStrings.set k v }
  | .pendingNewthread k v => { t with pendingNewthread := t.pendingNewthread.set k v }
  | .pendingExec k v => { t with pendingExec := t.pendingExec.set k v }

def applyWrites (t : Tabs) (ws : List Write) : Tabs := ws.foldl Write.apply t

/-- The assignments performed by `self.handlers[name](self, events)` on tables `t`
    (`t` is read only by the two name-string handlers: the pending record of the string's own thread). -/
def handleWrites (env : Env) (t : Tabs) (name : String) (events : List Kevent) : List Write :=
  let e := firstOf events
  match name with
  | "TRACE_DATA_NEWTHREAD" => [.pendingNewthread e.tid (arg e 1), .threadsPids (arg e 0) (arg e 1)]
  | "TRACE_DATA_EXEC" => [.pendingExec e.tid (arg e 0)]
  | "TRACE_DATA_THREAD_TERMINATE_PID" => [.threadsPids e.tid (arg e 0)]
  | "TRACE_STRING_GLOBAL" =>
    if !hasStart e then [] else
    match env.dec (stripNul (globalLoop (firstOf events).eventid events 0 0 [] []).2.2.1) with
    | .ok s => if s ≠ "" then [.globalStrings (globalLoop (firstOf events).eventid events 0 0 [] []).2.1 s] else []
    | .error _ => []
  | "TRACE_STRING_NEWTHREAD" =>
    match env.dec (stripNul e.data), t.pendingNewthread.get e.tid with
    | .ok n, some pid => [.pidsNames pid n]
    | _, _ => []
  | "TRACE_STRING_EXEC" =>
    match env.dec (stripNul e.data), t.pendingExec.get e.tid with
    | .ok n, some pid => [.pidsNames pid n]
    | _, _ => []
  | "TRACE_STRING_THREADNAME" | "TRACE_STRING_THREADNAME_PREV" =>
    if !hasStart e then [] else
    match env.dec (stripNul (joinData events)) with
    | .ok n => [.tidsNames e.tid n]
    | .error _ => []
  | "PERF_THD_Data" => [.threadsPids (arg e 1) (arg e 0)]
  | "PERF_Event" =>
    if (enumNamesOf env "SamplerAction" (arg e 0)).contains "SAMPLER_TH_INFO" then
      match events.filter (namedIs env "PERF_THD_Data") with
      | s :: _ => [.threadsPids (arg s 1) (arg s 0)]
      | [] => []
    else []
  | _ => []

/-- The assignments caused by one `feed(e)` from state `s`. -/
def feedWrites (env : Env) (s : PState) (e : Kevent) : List Write :=
  match (Pairing.step env.domOf s.pairing e).2 with
  | none => []
  | some [] => []
  | some (x :: xs) =>
    match env.codes x.eventid with
    | none => []
    | some name => if isHandled env name then handleWrites env s.tabs name (x :: xs) else []

/-- **table_writes.**  The context-table assignments of a run (`feed_generator` over `m` from state `s`), in
    order, each tagged with the thread id of the event whose `feed` performed it (up to the first exception). -/
def tableWrites (env : Env) : PState → List Kevent → List (Nat × Write)
  | _, [] => []
  | s, e :: es =>
    match feed env s e with
    | .error _ => []
    | .ok (_, s') => (feedWrites env s e).map (fun w => (e.tid, w)) ++ tableWrites env s' es

/-- `pids_names[k] = v` as a pair. -/
def Write.asName : Write → Option (Nat × String)
  | .pidsNames k v => some (k, v)
  | _ => none

/-- The `pids_names` assignments among tagged writes: `(teaching thread, pid, name)`, in order. -/
def taught (ws : List (Nat × Write)) : List (Nat × Nat × String) :=
  ws.filterMap fun p => p.2.asName.map fun kv => (p.1, kv)

/-- The `(pid, name)` assignments to `pids_names` caused by thread `t`'s events, in order. -/
def namesTaughtBy (t : Nat) (ws : List (Nat × Write)) : List (Nat × String) :=
  ((taught ws).filter fun p => p.1 == t).map (·.2)

/-- Everything a decoder may read EXCEPT the three context tables written by other threads
    (`global_strings`, `threads_pids`, `tids_names`). -/
def ownSel : IR.Sel :=
  { startAll := true, endA := true, tid := true, data := true, lookups := true, host := true, hostErrno := true,
    fields := true }

/-- The generated decoder reads no cross-thread table (constructor arguments and `__str__`). -/
def ownOnly (d : IR.Decoder) : Bool := d.fields.all (IR.within ownSel) && IR.within ownSel d.str

/-- Whether evaluating the expression raises does not depend on the three cross-thread tables: the table getters with
    a default (`dict.get(x, d)`) raise exactly when their arguments do. -/
def errFree : IR.Expr → Bool
  | .globalStrGet x d => IR.within ownSel x && IR.within ownSel d
  | .tidsNamesGet x d => IR.within ownSel x && IR.within ownSel d
  | .threadsPidsGet x => IR.within ownSel x
  | .ite c a b => IR.within ownSel c && errFree a && errFree b
  | e => IR.within ownSel e

/-- The handler call of every decoder of the table raises, or not, independently of the cross-thread tables. -/
def ErrFreeDecoders (env : Env) : Prop := ∀ d ∈ env.decoders, d.fields.all errFree = true

/-- The handlers whose rendering reads a table written by other threads — the property's own exclusion:
    `handle_trace_data_thread_terminate` (reads `threads_pids`, `tids_names`) and the generated decoders that are
    not `ownOnly` (for the current tree exactly the four dyld string readers, `C05.excluded_generated_exact`). -/
def excluded (env : Env) (name : String) : Bool :=
  name == "TRACE_DATA_THREAD_TERMINATE" ||
  (!handNames.contains name && match findDecoder env name with | some d => !ownOnly d | none => false)

/-- A trace with its text (and the decoded dataclass fields behind it) erased when its handler is excluded; name,
    event list and payload are kept. -/
def TraceOut.masked (env : Env) (o : TraceOut) :
    String × List Kevent × Option (Except PyErr String × Option (String × List IR.Val)) × Extra :=
  (o.name, o.events, if excluded env o.name then none else some (o.text, o.obj), o.extra)

/-- The event ids `handle_mach_vmfault` hands to the nested `parse_event_list` call. -/
def vmfaultRange (eid : Nat) : Bool := decide (0x1320008 ≤ eid ∧ eid ≤ 0x1320014)

/-- The handlers that assign to a context table. -/
def writerNames : List String :=
  ["TRACE_DATA_NEWTHREAD", "TRACE_DATA_EXEC", "TRACE_DATA_THREAD_TERMINATE_PID", "TRACE_STRING_GLOBAL",
   "TRACE_STRING_NEWTHREAD", "TRACE_STRING_EXEC", "TRACE_STRING_THREADNAME", "TRACE_STRING_THREADNAME_PREV",
   "PERF_Event", "PERF_THD_Data"]

/-- The code table gives the ids of the page-fault sub-records (`0x1320008 … 0x1320014`, which `handle_mach_vmfault`
    passes to a NESTED `parse_event_list`) no handler that writes a context table and none whose result reads a table
    written by other threads.  True of the bundled table (the ids are the `RealFaultAddress*` decoders or unnamed). -/
def BenignNested (env : Env) : Prop :=
  ∀ eid n, vmfaultRange eid = true → env.codes eid = some n →
    writerNames.contains n = false ∧ excluded env n = false

/-- `trace.ktraces[0].tid`: the thread a trace is attributed to (as `_format_trace` and the process filter do). -/
def TraceOut.tid (o : TraceOut) : Nat := (firstOf o.events).tid

/-- `feed_generator` keeping, with each yielded trace, the tables as they are when it is yielded (what a lazy
    consumer such as `formatted_traces` / the process post-filter sees). -/
def runAnnot (env : Env) : PState → List Kevent → List (TraceOut × Tabs)
  | _, [] => []
  | s, e :: es =>
    match feed env s e with
    | .error _ => []
    | .ok (r, s') => (match r with | some t => [(t, s'.tabs)] | none => []) ++ runAnnot env s' es

end KdVerif.Trace
