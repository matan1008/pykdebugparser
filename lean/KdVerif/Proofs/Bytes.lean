import KdVerif.Model.Bytes
namespace KdVerif

theorem leNat_lt (bs : Bytes) (h : IsBytes bs) : leNat bs < 256 ^ bs.length := by
  induction bs with
  | nil => simp [leNat]
  | cons b bs ih =>
    have hb : b < 256 := h b (by simp)
    have := ih (fun x hx => h x (by simp [hx]))
    simp only [leNat, List.length_cons, Nat.pow_succ]
    omega

theorem toLE_length (n v : Nat) : (toLE n v).length = n := by
  induction n generalizing v with
  | zero => rfl
  | succ n ih => simp [toLE, ih]

theorem toLE_isBytes (n v : Nat) : IsBytes (toLE n v) := by
  induction n generalizing v with
  | zero => intro b hb; simp [toLE] at hb
  | succ n ih =>
    intro b hb
    simp only [toLE, List.mem_cons] at hb
    rcases hb with rfl | hb
    · omega
    · exact ih _ b hb

theorem toLE_leNat (bs : Bytes) (h : IsBytes bs) : toLE bs.length (leNat bs) = bs := by
  induction bs with
  | nil => rfl
  | cons b bs ih =>
    have hb : b < 256 := h b (by simp)
    have ih' := ih (fun x hx => h x (by simp [hx]))
    simp only [List.length_cons, toLE, leNat]
    have h1 : (b + 256 * leNat bs) % 256 = b := by omega
    have h2 : (b + 256 * leNat bs) / 256 = leNat bs := by omega
    rw [h1, h2, ih']

theorem leNat_toLE (n v : Nat) : leNat (toLE n v) = v % 256 ^ n := by
  induction n generalizing v with
  | zero => simp [toLE, leNat, Nat.mod_one]
  | succ n ih =>
    simp only [toLE, leNat, ih, Nat.pow_succ]
    rw [Nat.mul_comm (256 ^ n) 256, Nat.mod_mul]

theorem IsBytes.take {bs : Bytes} (h : IsBytes bs) (n : Nat) : IsBytes (bs.take n) :=
  fun b hb => h b (List.mem_of_mem_take hb)

theorem IsBytes.drop {bs : Bytes} (h : IsBytes bs) (n : Nat) : IsBytes (bs.drop n) :=
  fun b hb => h b (List.mem_of_mem_drop hb)

theorem IsBytes.append {a b : Bytes} (ha : IsBytes a) (hb : IsBytes b) : IsBytes (a ++ b) := by
  intro x hx
  rcases List.mem_append.mp hx with h | h
  · exact ha x h
  · exact hb x h

/-- `0xfffffffc` is `KDBG_EVENTID_MASK` (kevent.py).  The bound is needed: the mask also clears bits 32 and up. -/
theorem and_fffffffc (x : Nat) (h : x < 2 ^ 32) : x &&& 0xfffffffc = x - x % 4 := by
  have e : x - x % 4 = (x >>> 2) <<< 2 := by
    rw [Nat.shiftLeft_eq, Nat.shiftRight_eq_div_pow]; omega
  rw [e]
  apply Nat.eq_of_testBit_eq
  intro i
  rw [Nat.testBit_and, Nat.testBit_shiftLeft, Nat.testBit_shiftRight]
  by_cases hi : i < 32
  · have hm : ∀ j < 32, Nat.testBit 0xfffffffc j = decide (2 ≤ j) := by decide
    rw [hm i hi]
    by_cases h2 : 2 ≤ i
    · have : 2 + (i - 2) = i := by omega
      simp [h2, this]
    · simp [h2]
  · have hx : x.testBit i = false :=
      Nat.testBit_lt_two_pow (Nat.lt_of_lt_of_le h (Nat.pow_le_pow_right (by decide) (by omega)))
    have h2 : 2 ≤ i := by omega
    have : 2 + (i - 2) = i := by omega
    simp [hx, h2, this]

theorem and_three (x : Nat) : x &&& 3 = x % 4 := by
  have := Nat.and_two_pow_sub_one_eq_mod x 2
  simpa using this

end KdVerif
