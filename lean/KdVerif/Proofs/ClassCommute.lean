import KdVerif.Proofs.TracePipeline
import KdVerif.Proofs.PairingFilter
import KdVerif.Proofs.Composite
/-
  C13: the whole-parser run over a stream filtered by a predicate on the event id (class / subclass filter with the
  helper classes) against the run over the unfiltered stream, for code tables CLOSED under the filter
  (`TracePipeline.ClassClosed`).
-/
namespace KdVerif.TracePipeline
open KdVerif.Trace KdVerif.Pairing KdVerif.IR

/-- The two runs' tables agree on everything but `threads_pids`: the unfiltered run also feeds the records the filter
    removes, and the handlers those reach write `threads_pids` only (`handleWrites_nonDomain`, `feed_filter_false`). -/
def AgreeC (a b : Tabs) : Prop :=
  a.pidsNames = b.pidsNames ∧ a.tidsNames = b.tidsNames ∧ a.globalStrings = b.globalStrings ∧
  a.pendingNewthread = b.pendingNewthread ∧ a.pendingExec = b.pendingExec

theorem AgreeC.refl (a : Tabs) : AgreeC a a := ⟨rfl, rfl, rfl, rfl, rfl⟩

theorem filter_filter_of_pass {α : Type} (q r : α → Bool) (w : List α) (h : ∀ y ∈ w, r y = true → q y = true) :
    (w.filter q).filter r = w.filter r := by
  rw [List.filter_filter]
  apply List.filter_congr
  intro y hy
  by_cases hr : r y = true
  · simp [hr, h y hy hr]
  · simp [hr]

theorem filter_window_all (P : Nat → Bool) (x : Kevent) (xs : List Kevent) (hx : P x.eventid = true)
    (hxs : ∀ y ∈ xs, P y.eventid = true) : (x :: xs).filter (Pe P) = x :: xs :=
  List.filter_eq_self.2 fun y hy => (List.mem_cons.1 hy).elim (fun h => h ▸ hx) (hxs y)

theorem firstOf_filter (q : Kevent → Bool) (x : Kevent) (xs : List Kevent) (hx : q x = true) :
    firstOf ((x :: xs).filter q) = firstOf (x :: xs) := by
  simp [firstOf, hx]

theorem lastOf_filter (q : Kevent → Bool) (w : List Kevent) (hl : ∀ y, w.getLast? = some y → q y = true) :
    lastOf (w.filter q) = lastOf w := by
  simp only [lastOf, getLast?_filter_of_last q w hl]

theorem dropLast_filter_of_last (q : Kevent → Bool) (w : List Kevent) (hl : ∀ y, w.getLast? = some y → q y = true) :
    (w.filter q).dropLast = w.dropLast.filter q := by
  induction w using Pairing.snoc_induction with
  | nil => rfl
  | snoc ys y _ =>
    have hy : q y = true := hl y (by simp)
    simp [List.filter_append, hy]

theorem realEvents_filter (q : Kevent → Bool) (x : Kevent) (xs : List Kevent) (hx : q x = true)
    (hl : ∀ y, (x :: xs).getLast? = some y → q y = true)
    (hr : ∀ y, vmfaultRange y.eventid = true → q y = true) :
    realEvents ((x :: xs).filter q) = realEvents (x :: xs) := by
  simp only [realEvents, List.filter_cons, hx, if_true, List.drop_one, List.tail_cons]
  have hl' : ∀ y, xs.getLast? = some y → q y = true := by
    intro y hy
    cases xs with
    | nil => cases hy
    | cons z zs => exact hl y (by rw [List.getLast?_cons_cons]; exact hy)
  rw [dropLast_filter_of_last q xs hl']
  apply filter_filter_of_pass
  intro y _ hy
  exact hr y hy

theorem namedIs_code (env : Env) (n : String) (hn : n ≠ "") (y : Kevent) (h : namedIs env n y = true) :
    env.codes y.eventid = some n := by
  simp only [namedIs, Env.nameOf, beq_iff_eq] at h
  cases hc : env.codes y.eventid with
  | none => rw [hc] at h; exact absurd h.symm hn
  | some m => rw [hc] at h; simp at h; rw [h]

theorem namedExactly_code (env : Env) (n : String) (y : Kevent) (h : namedExactly env n y = true) :
    env.codes y.eventid = some n := by
  simpa [namedExactly, Env.nameOf] using h

theorem isLookup_code (env : Env) (y : Kevent) (h : isLookup env y = true) :
    env.codes y.eventid = some "VFS_LOOKUP" := by
  simpa [isLookup, Env.nameOf] using h


def viewR (r : Except PyErr (Option TraceOut × Tabs)) : Except PyErr (Option (String × Kevent ×
    Option (Except PyErr String × Option (String × List IR.Val)) × Extra)) :=
  r.map fun p => p.1.map TraceOut.viewC

theorem viewR_bind {α : Type} (M : Except PyErr α) (f g : α → Option TraceOut × Tabs)
    (h : ∀ a, (f a).1.map TraceOut.viewC = (g a).1.map TraceOut.viewC) :
    viewR (M.bind fun a => .ok (f a)) = viewR (M.bind fun a => .ok (g a)) := by
  cases M with
  | error e => rfl
  | ok a => simp [viewR, Except.bind, Except.map, h a]

theorem viewR_of_out {r r' : HRes} (h : r.map (·.1) = r'.map (·.1)) : viewR r = viewR r' := by
  have e : ∀ r : HRes, viewR r = (r.map (·.1)).map (Option.map TraceOut.viewC) := fun r => by cases r <;> rfl
  rw [e, e, h]

theorem vmfaultCore_nested_congr (n₁ n₂ : Nested) (env : Env) (t : Tabs) (s e : Kevent) (inner : List Kevent)
    (h : n₁ t inner = n₂ t inner) : vmfaultCore n₁ env t s e inner = vmfaultCore n₂ env t s e inner := by
  unfold vmfaultCore
  simp only [h]

theorem not_domain_hand_cases {name : String} (hh : handNames.contains name = true)
    (hd : traceDomainNames.contains name = false) :
    name = "VFS_LOOKUP" ∨ name = "PERF_Event" ∨ name = "PERF_THD_Data" ∨ name = "MACH_vmfault" ∨
    name = "DBG_DYLD_TIMING_LAUNCH_EXECUTABLE" := by
  simp only [handNames, List.contains_append, hd, Bool.false_or] at hh
  simpa using hh

theorem domain_is_hand {name : String} (hd : traceDomainNames.contains name = true) :
    handNames.contains name = true := by
  simp only [handNames, List.contains_append, Bool.or_eq_true, hd, true_or]

theorem realEvents_length_lt (x : Kevent) (xs : List Kevent) : (realEvents (x :: xs)).length < (x :: xs).length := by
  rcases Composite.realEvents_length (x :: xs) with h | h
  · omega
  · rw [h]; exact Nat.succ_pos _

theorem handleWith_vfs (n : Nested) (env : Env) (t : Tabs) (w : List Kevent) :
    handleWith n env t "VFS_LOOKUP" w = hVfsLookup env t w := by simp [handleWith]

theorem handleWith_thdData (n : Nested) (env : Env) (t : Tabs) (w : List Kevent) :
    handleWith n env t "PERF_THD_Data" w = hPerfThdData env t w := by simp [handleWith]

theorem handleWith_threadTerminate (n : Nested) (env : Env) (t : Tabs) (w : List Kevent) :
    handleWith n env t "TRACE_DATA_THREAD_TERMINATE" w = hDataThreadTerminate env t w := by simp [handleWith]

theorem AgreeC.symm {a b : Tabs} (h : AgreeC a b) : AgreeC b a :=
  ⟨h.1.symm, h.2.1.symm, h.2.2.1.symm, h.2.2.2.1.symm, h.2.2.2.2.symm⟩

theorem AgreeC.trans {a b c : Tabs} (h : AgreeC a b) (h' : AgreeC b c) : AgreeC a c :=
  ⟨h.1.trans h'.1, h.2.1.trans h'.2.1, h.2.2.1.trans h'.2.2.1, h.2.2.2.1.trans h'.2.2.2.1, h.2.2.2.2.trans h'.2.2.2.2⟩

theorem handleWrites_agreeC (env : Env) (a b : Tabs) (n : String) (w : List Kevent) (h : AgreeC a b) :
    handleWrites env a n w = handleWrites env b n w := by
  unfold handleWrites
  simp only [h.2.2.2.1, h.2.2.2.2]

theorem apply_agreeC (a b : Tabs) (x : Write) (h : AgreeC a b) : AgreeC (x.apply a) (x.apply b) := by
  obtain ⟨h1, h2, h3, h4, h5⟩ := h
  cases x <;> simp only [Write.apply, AgreeC, h1, h2, h3, h4, h5, and_self]

theorem applyWrites_agreeC (a b : Tabs) (ws : List Write) (h : AgreeC a b) :
    AgreeC (applyWrites a ws) (applyWrites b ws) := by
  induction ws generalizing a b with
  | nil => exact h
  | cons x xs ih => exact ih _ _ (apply_agreeC a b x h)

def OnlyTp (ws : List Write) : Prop := ∀ x ∈ ws, ∃ k v, x = Write.threadsPids k v

theorem applyWrites_onlyTp (a : Tabs) (ws : List Write) (h : OnlyTp ws) : AgreeC (applyWrites a ws) a := by
  induction ws generalizing a with
  | nil => exact AgreeC.refl a
  | cons x xs ih =>
    obtain ⟨k, v, rfl⟩ := h x (by simp)
    have h1 := ih ((Write.threadsPids k v).apply a) (fun y hy => h y (List.mem_cons_of_mem _ hy))
    exact h1.trans ⟨rfl, rfl, rfl, rfl, rfl⟩

theorem handleWrites_nonDomain (env : Env) (t : Tabs) (n : String) (w : List Kevent)
    (hn : traceDomainNames.contains n = false) : OnlyTp (handleWrites env t n w) := by
  intro x hx
  by_cases hd : n = "PERF_THD_Data"
  · subst hd
    simp only [handleWrites] at hx
    exact ⟨_, _, List.mem_singleton.1 hx⟩
  · by_cases he : n = "PERF_Event"
    · -- the sampler's window: the thread-info record, if the action asks for it and the window has one
      subst he
      simp only [handleWrites] at hx
      split at hx
      · split at hx
        · exact ⟨_, _, List.mem_singleton.1 hx⟩
        · cases hx
      · cases hx
    · simp only [traceDomainNames, List.contains_cons, List.contains_nil, Bool.or_false, Bool.or_eq_false_iff,
        beq_eq_false_iff_ne] at hn
      obtain ⟨h1, h2, h3, h4, h5, h6, h7, h8, h9, h10⟩ := hn
      rw [handleWrites] at hx <;> first | assumption | cases hx

/-- One handler call on a window and on the filtered window, compared through `TraceOut.viewC`.  `hPx`, `hlast`, `hdom`
    are what the pairing gives for a window completed by a record that passes the filter (`feed_filter_true`). -/
theorem handle_filter (env : Env) (hbn : BenignNested env) (P : Nat → Bool) (hcc : ClassClosed env P)
    (hco : ∀ d ∈ env.decoders, classOnly d = true) (T T' : Tabs) (hT : AgreeC T T')
    (name : String) (x : Kevent) (xs : List Kevent)
    (hcode : env.codes x.eventid = some name) (hPx : P x.eventid = true)
    (hlast : ∀ y, (x :: xs).getLast? = some y → P y.eventid = true)
    (hdom : env.domOf x.eventid = true → ∀ y ∈ xs, P y.eventid = true) :
    viewR (handle env T name (x :: xs)) = viewR (handle env T' name ((x :: xs).filter (Pe P))) ∧
      AgreeC (applyWrites T (handleWrites env T name (x :: xs)))
        (applyWrites T' (handleWrites env T' name ((x :: xs).filter (Pe P)))) := by
  obtain ⟨hnw, hni⟩ := parseFuel_benign env hbn (x :: xs).length _ (realEvents_range (x :: xs))
  have hqx : Pe P x = true := hPx
  have hf := firstOf_filter (Pe P) x xs hqx
  have hdomeq : env.domOf x.eventid = traceDomainNames.contains name := by
    simp only [Env.domOf, hcode]
  unfold handle
  by_cases hd : traceDomainNames.contains name = true
  · -- a kernel trace record: the window holds records of that table only, all of them fed
    rw [filter_window_all P x xs hPx (hdom (hdomeq.trans hd))]
    refine ⟨?_, by rw [← handleWrites_agreeC env T T' name _ hT]; exact applyWrites_agreeC _ _ _ hT⟩
    by_cases ht : name = "TRACE_DATA_THREAD_TERMINATE"
    · subst ht
      simp only [handleWith_threadTerminate, viewR, hDataThreadTerminate, Except.map, Option.map_some, TraceOut.viewC,
        mk, beq_self_eq_true, if_true]
    · have hex : excluded env name = false := by
        simp only [excluded, Bool.or_eq_false_iff, beq_eq_false_iff_ne, ne_eq, Bool.and_eq_false_iff,
          Bool.not_eq_false']
        exact ⟨ht, Or.inl (domain_is_hand hd)⟩
      exact viewR_of_out (handleOutWith_indep _ env T T' name (x :: xs) hnw hni hex)
  · -- any other handler writes `threads_pids` only
    have hd' : traceDomainNames.contains name = false := by simpa using hd
    refine ⟨?_, ((applyWrites_onlyTp T _ (handleWrites_nonDomain env _ name _ hd')).trans hT).trans
      (applyWrites_onlyTp T' _ (handleWrites_nonDomain env _ name _ hd')).symm⟩
    by_cases hh : handNames.contains name = true
    · rcases not_domain_hand_cases hh hd' with rfl | rfl | rfl | rfl | rfl
      · -- VFS_LOOKUP
        have hlk : ((x :: xs).filter (Pe P)).filter (isLookup env) = (x :: xs).filter (isLookup env) :=
          filter_filter_of_pass _ _ _ (fun y _ hy => hcc.vfs x.eventid hPx hcode y.eventid (isLookup_code env y hy))
        simp only [handleWith_vfs, viewR, hVfsLookup, hf, parseVnodes_congr env _ _ hlk]
        split
        · rfl
        · simp only [bind, Except.bind, pure, Except.pure]
          cases parseVnodes env (x :: xs) with
          | error e => rfl
          | ok vs => cases vs <;> simp [Except.map, TraceOut.viewC, mk, hf]
      · -- PERF_Event
        have hsub : ∀ n, n ≠ "" → (n = "PERF_THD_Data" ∨ n = "PERF_STK_UHdr" ∨ n = "PERF_STK_UData") →
            ((x :: xs).filter (Pe P)).filter (namedIs env n) = (x :: xs).filter (namedIs env n) :=
          fun n hne hn => filter_filter_of_pass _ _ _ (fun y _ hy =>
            hcc.perf x.eventid hPx hcode y.eventid _ (namedIs_code env _ hne y hy) hn)
        have h1 := hsub "PERF_THD_Data" (by decide) (.inl rfl)
        have h2 := hsub "PERF_STK_UHdr" (by decide) (.inr (.inl rfl))
        have h3 := hsub "PERF_STK_UData" (by decide) (.inr (.inr rfl))
        simp only [Composite.handleWith_perf, viewR, hPerfEvent, hf, h1, h2, h3, Except.map, Option.map_some,
          TraceOut.viewC, mk]
        by_cases hc : (enumNamesOf env "SamplerAction" (arg (firstOf (x :: xs)) 0)).contains "SAMPLER_TH_INFO" = true
        · simp only [hc, if_true]
          cases List.filter (namedIs env "PERF_THD_Data") (x :: xs) <;> simp
        · simp only [hc, if_false, Bool.false_eq_true]
      · -- PERF_THD_Data
        simp only [handleWith_thdData, viewR, hPerfThdData, hf, Except.map, Option.map_some, TraceOut.viewC, mk]
      · -- MACH_vmfault: the sub-records survive the filter, and either window is longer than their list, so both
        -- nested calls have fuel enough
        have hl := lastOf_filter (Pe P) (x :: xs) hlast
        have hr := realEvents_filter (Pe P) x xs hqx hlast
          (fun y hy => hcc.vmfault x.eventid hPx hcode y.eventid hy)
        have hlen : (realEvents (x :: xs)).length < ((x :: xs).filter (Pe P)).length := by
          rw [← hr, List.filter_cons_of_pos hqx]
          exact realEvents_length_lt x _
        simp only [Composite.handleWith_vmfault, viewR, hMachVmfault, hf, hl, hr]
        rw [← vmfaultCore_nested_congr _ _ env T' _ _ _
          (Composite.parseFuel_stable env _ _ T' _ (realEvents_length_lt x xs) hlen)]
        obtain ⟨r, hrt⟩ := vmfaultCore_frame _ env (firstOf (x :: xs)) (lastOf (x :: xs)) (realEvents (x :: xs)) hnw hni
        rw [hrt T, hrt T']
        cases r <;> simp [Except.map, TraceOut.viewC, mk, hf]
      · -- the launch window
        have hsub : ∀ n, (n = "DYLD_uuid_map_a" ∨ n = "DYLD_uuid_shared_cache_a") →
            ((x :: xs).filter (Pe P)).filter (namedExactly env n) = (x :: xs).filter (namedExactly env n) :=
          fun n hn => filter_filter_of_pass _ _ _ (fun y _ hy =>
            hcc.launch x.eventid hPx hcode y.eventid _ (namedExactly_code env _ y hy) hn)
        have h1 := hsub "DYLD_uuid_map_a" (.inl rfl)
        have h2 := hsub "DYLD_uuid_shared_cache_a" (.inr rfl)
        rw [Composite.handleWith_launch, Composite.handleWith_launch]
        unfold hDyldLaunch
        rw [h1, h2, hf]
        exact viewR_bind _ _ _ (fun imgs => by simp [TraceOut.viewC, mk, hf])
    · -- a generated decoder
      have hh' : handNames.contains name = false := by simpa using hh
      rw [handle_generated _ env T name _ hh', handle_generated _ env T' name _ hh']
      cases hfd : findDecoder env name with
      | none => rfl
      | some d =>
        have hmem : d ∈ env.decoders := List.mem_of_find?_eq_some hfd
        have hgo := runGeneratedObj_filter_congr env T T' d (x :: xs) (Pe P)
          (fun y hy => by simp at hy; rw [← hy]; exact hqx) hlast
          (fun hu y _ hy => hcc.lookups x.eventid name d hPx hcode hh' hfd hu y.eventid (isLookup_code env y hy))
          (by rw [hT.2.2.1]) (by rw [hT.2.1]) (hco d hmem)
        simp only [viewR, hgo]
        split
        · rfl
        · cases runGeneratedObj env T' d ((x :: xs).filter (Pe P)) with
          | error e => rfl
          | ok ft => simp [bind, Except.bind, pure, Except.pure, Except.map, TraceOut.viewC, hf]


section
variable (domOf : Nat → Bool)

def DomInv (s : Pairing.PState) : Prop := ∀ k w, s k = some w → ∀ y ∈ w, domOf y.eventid = k.dom

theorem domInv_empty : DomInv domOf Pairing.PState.empty := by
  intro k w h; simp [Pairing.PState.empty] at h

theorem step_domInv (s : Pairing.PState) (e : Kevent) (hs : DomInv domOf s) : DomInv domOf (step domOf s e).1 :=
  step_stored domOf e hs
    (fun k w hd _ hq y hy => (List.mem_append.1 hy).elim (hq y) fun hy => by rw [List.mem_singleton.1 hy, hd])
    (fun y hy => by rw [List.mem_singleton.1 hy]; rfl)

theorem step_output_dom (s : Pairing.PState) (e : Kevent) (hs : DomInv domOf s) (w : List Kevent)
    (hw : (step domOf s e).2 = some w) : ∀ y ∈ w, domOf y.eventid = domOf e.eventid := by
  rcases step_delivered domOf s e w hw with rfl | ⟨w', hw', rfl⟩
  · intro y hy; rw [List.mem_singleton.1 hy]
  · intro y hy
    rcases List.mem_append.1 hy with hy | hy
    · exact hs _ _ hw' y hy
    · rw [List.mem_singleton.1 hy]

end

/-- The simulation relation: the unfiltered run (`s₀`) against the run over the filtered stream (`s₁`).
    `feed_filter_true` steps both runs on a record that passes the filter, `feed_filter_false` steps `s₀` alone. -/
structure RelC (env : Env) (P : Nat → Bool) (s₀ s₁ : Trace.PState) : Prop where
  frel : FRel P s₀.pairing s₁.pairing
  head : HeadInv s₀.pairing
  dom : DomInv env.domOf s₀.pairing
  tid : TidInv s₀.pairing
  tabs : AgreeC s₀.tabs s₁.tabs

theorem RelC.feed {env : Env} {P : Nat → Bool} {s₀ s₁ s₀' s₁' : Trace.PState} (hR : RelC env P s₀ s₁) (e : Kevent)
    (hp₀ : s₀'.pairing = (step env.domOf s₀.pairing e).1) (hfr : FRel P (step env.domOf s₀.pairing e).1 s₁'.pairing)
    (ht : AgreeC s₀'.tabs s₁'.tabs) : RelC env P s₀' s₁' :=
  ⟨hp₀ ▸ hfr, hp₀ ▸ step_headInv env.domOf _ _ hR.head, hp₀ ▸ step_domInv env.domOf _ _ hR.dom,
    hp₀ ▸ step_tidInv env.domOf _ _ hR.tid, ht⟩

theorem handlerOf_some (env : Env) (x : Kevent) (xs : List Kevent) (n : String)
    (h : handlerOf env (x :: xs) = some n) : env.codes x.eventid = some n := by
  simp only [handlerOf] at h
  cases hc : env.codes x.eventid with
  | none => simp [hc] at h
  | some m =>
    simp only [hc] at h
    split at h
    · simp only [Option.some.injEq] at h; rw [h]
    · cases h

theorem handlerOf_head (env : Env) (x : Kevent) (xs ys : List Kevent) :
    handlerOf env (x :: xs) = handlerOf env (x :: ys) := rfl

theorem domOf_of_code (env : Env) (eid : Nat) (n : String) (h : env.codes eid = some n) :
    env.domOf eid = traceDomainNames.contains n := by
  simp only [Env.domOf, h]

theorem viewR_ok {r r' : Option TraceOut} {t t' : Tabs}
    (h : viewR (.ok (r, t)) = viewR (.ok (r', t'))) : r.map TraceOut.viewC = r'.map TraceOut.viewC := by
  simpa [viewR, Except.map] using h

/-- The trace a `feed` yields starts with the first record of the delivered window, which the filter treats like the
    record fed. -/
theorem feed_first (env : Env) (P : Nat → Bool) (s s' : Trace.PState) (e : Kevent) (r : Option TraceOut)
    (hi : HeadInv s.pairing) (h : feed env s e = .ok (r, s')) (o : TraceOut) (ho : r = some o) :
    P (firstOf o.events).eventid = Pe P e := by
  obtain ⟨-, hn, hw⟩ := feed_ok env s s' e r h
  subst ho
  cases hst : (step env.domOf s.pairing e).2 with
  | none => cases (hn hst).1
  | some w =>
    obtain ⟨x, xs, rfl, hx⟩ := step_output_head env.domOf _ e hi w hst
    have h0w := hw (x :: xs) hst (by simp)
    cases hh : handlerOf env (x :: xs) with
    | none => rw [hh] at h0w; cases h0w.1
    | some n =>
      rw [hh] at h0w
      rw [handleOut_shape env _ n (x :: xs) o (handle_to_out h0w)]
      exact congrArg P hx

theorem feed_filter_true (env : Env) (hbn : BenignNested env) (P : Nat → Bool) (hcc : ClassClosed env P)
    (hco : ∀ d ∈ env.decoders, classOnly d = true) (s₀ s₁ s₀' s₁' : Trace.PState) (e : Kevent)
    (r₀ r₁ : Option TraceOut) (hPe : Pe P e = true) (hR : RelC env P s₀ s₁)
    (h₀ : feed env s₀ e = .ok (r₀, s₀')) (h₁ : feed env s₁ e = .ok (r₁, s₁')) :
    RelC env P s₀' s₁' ∧ r₁.map TraceOut.viewC = r₀.map TraceOut.viewC := by
  obtain ⟨hp₀, hn₀, hw₀⟩ := feed_ok env s₀ s₀' e r₀ h₀
  obtain ⟨hp₁, hn₁, hw₁⟩ := feed_ok env s₁ s₁' e r₁ h₁
  obtain ⟨hfr', hout⟩ := step_fRel_true env.domOf P s₀.pairing s₁.pairing e hPe hR.frel
  have mk := hR.feed e hp₀ (hp₁ ▸ hfr')
  cases hst : (step env.domOf s₀.pairing e).2 with
  | none =>
    rw [hst] at hout
    obtain ⟨hr₀, ht₀⟩ := hn₀ hst
    obtain ⟨hr₁, ht₁⟩ := hn₁ hout
    exact ⟨mk (by rw [ht₀, ht₁]; exact hR.tabs), by rw [hr₀, hr₁]⟩
  | some w₀ =>
    have hdomw := step_output_dom env.domOf s₀.pairing e hR.dom w₀ hst
    obtain ⟨⟨b, hb⟩, _⟩ := Pairing.step_output env.domOf s₀.pairing e hR.tid w₀ hst
    obtain ⟨x, xs, rfl, hx⟩ := step_output_head env.domOf _ e hR.head w₀ hst
    have hPx : P x.eventid = true := (congrArg P hx).trans hPe
    have hqx : Pe P x = true := hPx
    rw [hst] at hout
    simp only [Option.map_some] at hout
    have hw₁e : (x :: xs).filter (Pe P) = x :: xs.filter (Pe P) := by simp [hqx]
    have h0w := hw₀ (x :: xs) hst (by simp)
    have h1w := hw₁ _ hout (by rw [hw₁e]; simp)
    have hho : handlerOf env ((x :: xs).filter (Pe P)) = handlerOf env (x :: xs) := by rw [hw₁e]; rfl
    rw [hho] at h1w
    have hlast : ∀ y, (x :: xs).getLast? = some y → P y.eventid = true := by
      intro y hy
      rw [hb] at hy
      simp only [List.getLast?_append, List.getLast?_singleton, Option.some_or, Option.some.injEq] at hy
      rw [← hy]; exact hPe
    cases hh : handlerOf env (x :: xs) with
    | none =>
      simp only [hh] at h0w h1w
      exact ⟨mk (by rw [h0w.2, h1w.2]; exact hR.tabs), by rw [h0w.1, h1w.1]⟩
    | some n =>
      simp only [hh] at h0w h1w
      have hcode := handlerOf_some env x xs n hh
      have hdomall : env.domOf x.eventid = true → ∀ y ∈ xs, P y.eventid = true := by
        intro hdx y hy
        apply hcc.dom
        rw [hdomw y (List.mem_cons_of_mem _ hy), ← hdomw x (by simp)]
        exact hdx
      obtain ⟨hview, htabs⟩ := handle_filter env hbn P hcc hco s₀.tabs s₁.tabs hR.tabs n x xs hcode hPx hlast hdomall
      rw [h0w, h1w] at hview
      rw [← handle_tabs env hbn _ n _ _ _ h0w, ← handle_tabs env hbn _ n _ _ _ h1w] at htabs
      exact ⟨mk htabs, (viewR_ok hview).symm⟩

theorem feed_filter_false (env : Env) (hbn : BenignNested env) (P : Nat → Bool) (hcc : ClassClosed env P)
    (s₀ s₁ s₀' : Trace.PState) (e : Kevent) (r₀ : Option TraceOut) (hPe : Pe P e = false) (hR : RelC env P s₀ s₁)
    (h₀ : feed env s₀ e = .ok (r₀, s₀')) :
    RelC env P s₀' s₁ := by
  obtain ⟨hp₀, hn₀, hw₀⟩ := feed_ok env s₀ s₀' e r₀ h₀
  refine hR.feed e hp₀ (step_fRel_false env.domOf P _ _ e hPe hR.frel) ?_
  -- the tables: a handler that runs is outside the kernel string table, so it writes `threads_pids` only
  cases hst : (step env.domOf s₀.pairing e).2 with
  | none => rw [(hn₀ hst).2]; exact hR.tabs
  | some w₀ =>
    obtain ⟨x, xs, rfl, hx⟩ := step_output_head env.domOf _ e hR.head w₀ hst
    have hPx : P x.eventid = false := (congrArg P hx).trans hPe
    have h0w := hw₀ (x :: xs) hst (by simp)
    cases hh : handlerOf env (x :: xs) with
    | none =>
      simp only [hh] at h0w
      rw [h0w.2]; exact hR.tabs
    | some n =>
      simp only [hh] at h0w
      have hd' : traceDomainNames.contains n = false := by
        cases hd : traceDomainNames.contains n with
        | false => rfl
        | true =>
          have := hcc.dom x.eventid ((domOf_of_code env _ n (handlerOf_some env x xs n hh)).trans hd)
          rw [hPx] at this; cases this
      rw [handle_tabs env hbn _ n _ _ _ h0w]
      exact (applyWrites_onlyTp s₀.tabs _ (handleWrites_nonDomain env _ n _ hd')).trans hR.tabs

/-- The class / subclass half of C13 (`C13` instantiates it at the start states), when neither run raises: the traces of
    the run over the filtered stream are, in order and as `viewC` sees them, the traces of the unfiltered run whose first
    record passes the filter. -/
theorem run_filter_traces (env : Env) (hbn : BenignNested env) (P : Nat → Bool) (hcc : ClassClosed env P)
    (hco : ∀ d ∈ env.decoders, classOnly d = true) (m : List Kevent) (s₀ s₁ : Trace.PState) (hR : RelC env P s₀ s₁)
    (h₀ : (Trace.run env s₀ m).2.1 = none) (h₁ : (Trace.run env s₁ (m.filter (Pe P))).2.1 = none) :
    (Trace.run env s₁ (m.filter (Pe P))).1.map TraceOut.viewC
      = ((Trace.run env s₀ m).1.filter fun o => P (firstOf o.events).eventid).map TraceOut.viewC := by
  induction m generalizing s₀ s₁ with
  | nil => rfl
  | cons e es ih =>
    obtain ⟨r₀, s₀', hf₀, hrest₀⟩ := feed_ok_of_run env s₀ e es h₀
    have hfirst := feed_first env P s₀ s₀' e r₀ hR.head hf₀
    rw [run_cons_ok env s₀ s₀' e es r₀ hf₀]
    by_cases hPe : Pe P e = true
    · have hfil : (e :: es).filter (Pe P) = e :: es.filter (Pe P) := by simp [hPe]
      rw [hfil] at h₁ ⊢
      obtain ⟨r₁, s₁', hf₁, hrest₁⟩ := feed_ok_of_run env s₁ e _ h₁
      rw [run_cons_ok env s₁ s₁' e _ r₁ hf₁]
      obtain ⟨hR', hr⟩ := feed_filter_true env hbn P hcc hco s₀ s₁ s₀' s₁' e r₀ r₁ hPe hR hf₀ hf₁
      simp only [List.filter_append, List.map_append, ih s₀' s₁' hR' hrest₀ hrest₁]
      congr 1
      cases r₀ with
      | none => cases r₁ with
        | none => rfl
        | some o₁ => simp at hr
      | some o₀ => cases r₁ with
        | none => simp at hr
        | some o₁ =>
          simp only [Option.map_some, Option.some.injEq] at hr
          simp [hfirst o₀ rfl, hPe, hr]
    · have hPe' : Pe P e = false := by simpa using hPe
      have hfil : (e :: es).filter (Pe P) = es.filter (Pe P) := by simp [hPe']
      rw [hfil] at h₁ ⊢
      have hR' := feed_filter_false env hbn P hcc s₀ s₁ s₀' e r₀ hPe' hR hf₀
      simp only [List.filter_append, List.map_append, ih s₀' s₁ hR' hrest₀ h₁]
      cases r₀ with
      | none => rfl
      | some o₀ => simp [hfirst o₀ rfl, hPe']

end KdVerif.TracePipeline
