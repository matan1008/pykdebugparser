import KdVerif.Proofs.Pairing
/-
  C05 (window level): a step of an event of thread `t` touches only table entries of thread `t`, hence the
  windows of a thread are a function of that thread's own subsequence.  Core Lean only.
-/
namespace KdVerif.Pairing
section
variable (domOf : Nat → Bool)

def TidInv (s : PState) : Prop := ∀ k w, s k = some w → ∀ x ∈ w, x.tid = k.tid

def Agree (t : Nat) (s₁ s₂ : PState) : Prop := ∀ k, k.tid = t → s₁ k = s₂ k

/-- A window belongs to thread `t`: its first event has thread id `t`. -/
def ofThread (t : Nat) (w : List Kevent) : Bool :=
  match w with
  | [] => false
  | x :: _ => x.tid == t

theorem tidInv_empty : TidInv PState.empty :=
  fun _ _ h => nomatch h

theorem step_tidInv (s : PState) (e : Kevent) (hs : TidInv s) : TidInv (step domOf s e).1 :=
  step_stored domOf e hs
    (fun k w _ ht hq x hx => (List.mem_append.1 hx).elim (hq x) fun hx => by rw [List.mem_singleton.1 hx, ht])
    (fun x hx => by rw [List.mem_singleton.1 hx]; rfl)

theorem step_output (s : PState) (e : Kevent) (hs : TidInv s) (w : List Kevent)
    (hw : (step domOf s e).2 = some w) :
    (∃ b, w = b ++ [e]) ∧ ∀ x ∈ w, x.tid = e.tid := by
  rcases step_delivered domOf s e w hw with rfl | ⟨w', hw', rfl⟩
  · exact ⟨⟨[], rfl⟩, by simp⟩
  · refine ⟨⟨w', rfl⟩, fun x hx => ?_⟩
    rcases List.mem_append.1 hx with hx | hx
    · exact hs _ _ hw' x hx
    · rw [List.mem_singleton.1 hx]

theorem ofThread_output (t : Nat) (s : PState) (e : Kevent) (hs : TidInv s) (w : List Kevent)
    (hw : (step domOf s e).2 = some w) : ofThread t w = (e.tid == t) := by
  obtain ⟨⟨b, rfl⟩, hall⟩ := step_output domOf s e hs _ hw
  cases b with
  | nil => rfl
  | cons x xs => simp [ofThread, hall x]

theorem step_other_thread_frame (s : PState) (e : Kevent) :
    (∀ k, k.tid ≠ e.tid → (step domOf s e).1 k = s k) ∧
    (TidInv s → ∀ w, (step domOf s e).2 = some w → ∀ x ∈ w, x.tid = e.tid) := by
  refine ⟨fun k hk => ?_, fun hs w hw => (step_output domOf s e hs w hw).2⟩
  have hk' : k ≠ keyOf domOf e := fun h => hk (by rw [h]; rfl)
  simp [step_fst_apply, hk, hk']

theorem step_agree (t : Nat) (s₁ s₂ : PState) (e : Kevent) (he : e.tid = t) (ha : Agree t s₁ s₂) :
    Agree t (step domOf s₁ e).1 (step domOf s₂ e).1 ∧ (step domOf s₁ e).2 = (step domOf s₂ e).2 := by
  have hke : s₁ (keyOf domOf e) = s₂ (keyOf domOf e) := ha _ he
  refine ⟨fun k hk => ?_, by rw [step_snd, step_snd, hke]⟩
  rw [step_fst_apply, step_fst_apply, hke, ha k hk]

theorem projection_from (t : Nat) (m : List Kevent) (s₁ s₂ : PState) (hs : TidInv s₁)
    (ha : Agree t s₁ s₂) :
    (runFrom domOf s₁ m).2.filter (ofThread t) =
      (runFrom domOf s₂ (m.filter fun e => e.tid == t)).2 := by
  induction m generalizing s₁ s₂ with
  | nil => rfl
  | cons e es ih =>
    have hinv := step_tidInv domOf s₁ e hs
    have hout : (step domOf s₁ e).2.toList.filter (ofThread t) = if e.tid = t then (step domOf s₁ e).2.toList else [] := by
      cases hw : (step domOf s₁ e).2 with
      | none => simp
      | some w => by_cases he : e.tid = t <;> simp [ofThread_output domOf t s₁ e hs w hw, he]
    rw [runFrom_cons, List.filter_append, hout, List.filter_cons]
    by_cases he : e.tid = t
    · obtain ⟨ha', ho⟩ := step_agree domOf t s₁ s₂ e he ha
      rw [if_pos he, if_pos (beq_iff_eq.2 he), runFrom_cons, ih _ _ hinv ha', ho]
    · have ha' : Agree t (step domOf s₁ e).1 s₂ := fun k hk =>
        ((step_other_thread_frame domOf s₁ e).1 k (by rw [hk]; exact Ne.symm he)).trans (ha k hk)
      rw [if_neg he, if_neg (by simpa using he), ih _ _ hinv ha']
      rfl

/-- The windows of thread `t` in a history are the windows of `t`'s own subsequence. -/
theorem projection_windows (m : List Kevent) (t : Nat) :
    (run domOf m).filter (ofThread t) = run domOf (m.filter fun e => e.tid == t) :=
  projection_from domOf t m _ _ tidInv_empty (fun _ _ => rfl)

/-- All events of an emitted window belong to one thread, so "first event has tid `t`" = "all have". -/
theorem run_window_tid (m : List Kevent) (w : List Kevent) (hw : w ∈ run domOf m) :
    w ≠ [] ∧ ∃ t, ∀ x ∈ w, x.tid = t := by
  obtain ⟨pre, e, post, -, hem⟩ := run_mem domOf m w hw
  obtain ⟨⟨b, hb⟩, hall⟩ := step_output domOf _ e (stateAfter_inv domOf tidInv_empty (step_tidInv domOf) pre) w hem
  exact ⟨by rw [hb]; simp, e.tid, hall⟩

end
end KdVerif.Pairing
