import KdVerif.Proofs.Projection
/-
  C13: START/END pairing of an event stream filtered by a predicate on the EVENT ID (a class / subclass filter).
  The windows delivered for the filtered stream are exactly the windows delivered for the unfiltered stream whose first
  record satisfies the predicate, each with the records that do not satisfy it removed (`run_filter`).  Core Lean only.
-/
namespace KdVerif.Pairing
section
variable (domOf : Nat → Bool) (P : Nat → Bool)

def Pe (e : Kevent) : Bool := P e.eventid

def headP (w : List Kevent) : Bool :=
  match w with
  | [] => false
  | x :: _ => P x.eventid

/-- The tables of the run over the filtered stream (`s'`) against those of the run over the whole stream (`s`). -/
def FRel (s s' : PState) : Prop := ∀ k, s' k = if P k.eid then (s k).map (List.filter (Pe P)) else none

theorem fRel_empty : FRel P PState.empty PState.empty := by
  intro k; simp [PState.empty]

theorem step_fRel_true (s s' : PState) (e : Kevent) (h : Pe P e = true) (hr : FRel P s s') :
    FRel P (step domOf s e).1 (step domOf s' e).1 ∧
    (step domOf s' e).2 = (step domOf s e).2.map (List.filter (Pe P)) := by
  have hke : s' (keyOf domOf e) = (s (keyOf domOf e)).map (List.filter (Pe P)) := by
    rw [hr, if_pos (show P (keyOf domOf e).eid = true from h)]
  have hsnoc : ∀ o : Option (List Kevent),
      (o.map (List.filter (Pe P))).map (· ++ [e]) = (o.map (· ++ [e])).map (List.filter (Pe P)) := by
    intro o; cases o <;> simp [List.filter_append, h]
  -- both sides by the equations of `step`: the same tests, the stored lists filtered
  constructor
  · intro k
    by_cases hpk : P k.eid = true
    · simp only [step_fst_apply, hke, hr k, hpk, if_true, Option.map_eq_none_iff, hsnoc,
        apply_ite (Option.map (List.filter (Pe P))), Option.map_some, Option.map_none, List.filter_cons, h,
        List.filter_nil]
    · have hk : k ≠ keyOf domOf e := fun hk => hpk (hk ▸ h)
      simp [step_fst_apply, hr k, hpk, hk]
  · simp only [step_snd, hke, hsnoc, apply_ite (Option.map (List.filter (Pe P))), Option.map_some, Option.map_none,
      List.filter_cons, h, List.filter_nil, if_true]

theorem step_fRel_false (s s' : PState) (e : Kevent) (h : Pe P e = false) (hr : FRel P s s') :
    FRel P (step domOf s e).1 s' := by
  intro k
  rw [hr k]
  by_cases hpk : P k.eid = true
  · have hk : k ≠ keyOf domOf e :=
      fun hk => Bool.false_ne_true (h.symm.trans (show P (keyOf domOf e).eid = true from hk ▸ hpk))
    have hsnoc : ((s k).map (· ++ [e])).map (List.filter (Pe P)) = (s k).map (List.filter (Pe P)) := by
      cases s k <;> simp [List.filter_append, h]
    simp only [step_fst_apply, hpk, hk, if_true, if_false, apply_ite (Option.map (List.filter (Pe P))), hsnoc,
      ite_self]
  · rw [if_neg hpk, if_neg hpk]

/-- Whether a delivered window counts as passing the filter is decided by the record that completed it. -/
theorem step_output_headP (s : PState) (e : Kevent) (hi : HeadInv s) (w : List Kevent)
    (hw : (step domOf s e).2 = some w) : headP P w = Pe P e := by
  obtain ⟨x, rest, rfl, hx⟩ := step_output_head domOf s e hi w hw
  simp only [headP, Pe, hx]

theorem runFrom_filter (m : List Kevent) (s s' : PState) (hi : HeadInv s) (hr : FRel P s s') :
    (runFrom domOf s' (m.filter (Pe P))).2
      = (((runFrom domOf s m).2.filter (headP P)).map (List.filter (Pe P))) := by
  induction m generalizing s s' with
  | nil => rfl
  | cons e es ih =>
    have hi' := step_headInv domOf s e hi
    have hh := step_output_headP domOf P s e hi
    rw [runFrom_cons domOf s e es, List.filter_append, List.map_append]
    by_cases h : Pe P e = true
    · obtain ⟨hr', ho⟩ := step_fRel_true domOf P s s' e h hr
      have hf : (e :: es).filter (Pe P) = e :: es.filter (Pe P) := by simp [h]
      rw [hf, runFrom_cons, ih _ _ hi' hr', ho]
      congr 1
      cases hw : (step domOf s e).2 with
      | none => rfl
      | some w => simp [hh w hw, h]
    · have hf : (e :: es).filter (Pe P) = es.filter (Pe P) := by simp [h]
      rw [hf, ih _ _ hi' (step_fRel_false domOf P s s' e (by simpa using h) hr)]
      cases hw : (step domOf s e).2 with
      | none => rfl
      | some w => simp [hh w hw, h]

/-- The windows delivered for a stream filtered by a predicate on the event id are the windows of the
    unfiltered stream whose first record passes the filter, in the same order, each with the records that do not pass
    removed. -/
theorem run_filter (m : List Kevent) :
    run domOf (m.filter (Pe P)) = ((run domOf m).filter (headP P)).map (List.filter (Pe P)) :=
  runFrom_filter domOf P m _ _ headInv_empty (fRel_empty P)

end
end KdVerif.Pairing
