import KdVerif.Props.C01
import KdVerif.Proofs.PyIRRd
import KdVerif.Gen.PyIRRd
/-
  The translation tie of the reader code instantiated with the record decoder `fromKdBuf` (C01), shared by the
  property modules C02 / C03 / C06.
-/
namespace KdVerif.PyIRRd

theorem structUnpack_err' {fmt : List FieldSpec} {bs : Bytes} {e : PyErr} (h : structUnpack fmt bs = .error e) :
    e = .structError := by
  unfold structUnpack at h
  split at h <;> simp_all

theorem kd_rejectsShort : RejectsShort fromKdBuf :=
  fun x hx => ⟨_, C01.decode_rejects_other_lengths x hx⟩

/-- `from_kd_buf` fails with the `struct.error` of one of its two `unpack` calls or with a `ValueError` -/
theorem kd_noHang : NoHangDec fromKdBuf := by
  intro x h
  unfold fromKdBuf decodeWith at h
  split at h
  · next h1 =>
    cases h
    cases structUnpack_err' h1
  · split at h
    · next h1 =>
      cases h
      cases structUnpack_err' h1
    · cases h
    · cases h
  · cases h

/-- the statement shared by `C02/C03/C06.source_is_expected_ir` -/
def SourceIsExpected : Prop := Gen.PyIRRd.prog = Expected.prog ∧ Gen.PyIRRd.notes = []

instance : Decidable SourceIsExpected := by unfold SourceIsExpected; infer_instance

theorem parse_eq_parseVia_gen (h : SourceIsExpected) (plist : Bytes → Option PView) (prior : PState) (data : Bytes) :
    KdVerif.parse plist fromKdBuf prior data = parseVia Gen.PyIRRd.prog plist fromKdBuf prior data := by
  rw [h.1]; exact parse_eq_parseVia plist fromKdBuf kd_rejectsShort kd_noHang prior data

end KdVerif.PyIRRd
