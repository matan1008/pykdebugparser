import KdVerif.Proofs.Cost
/-
  Assembly: whole-parse facts (cost, provenance of events, no model hang) for parse_v2, parse_v3, parse.
-/
namespace KdVerif
open Reader

theorem rest_length (r : Reader) : r.rest.length = r.data.length - r.pos := by
  simp [Reader.rest]

theorem parseV2_final {ε : Type} (dec : Bytes → Except PyErr ε) (hdec : RejectsShort dec) (hnh : NoHangDec dec)
    (prior : Tables) (r : Reader) (g : Good r) :
    Step 2 12 r (parseV2 dec prior r).rd ∧
    Slices dec r.data r.pos (parseV2 dec prior r).rd.pos (parseV2 dec prior r).events ∧
    (parseV2 dec prior r).err ≠ some .hang := by
  obtain ⟨s1, _⟩ := linA_headerV2 r g
  unfold parseV2
  cases hh : headerV2 r with
  | mk res r1 =>
  rw [hh] at s1
  dsimp only at s1
  cases res with
  | error e => exact ⟨s1.weaken, .nil s1.mono, fun h => nh_headerV2 r r1 e hh (Option.some.inj h)⟩
  | ok h =>
    obtain ⟨s2, sl2, nh2⟩ := recordLoop_spec dec hdec (r1.rest.length / 64 + 2) r1 s1.good
    rw [s1.data] at sl2
    exact ⟨s1.trans s2, sl2.mono s1.mono (Nat.le_refl _), nh2 hnh (by rw [rest_length]; omega)⟩

theorem ite_ne {α : Type} {c : Prop} [Decidable c] {a b x : α} (ha : a ≠ x) (hb : b ≠ x) :
    (if c then a else b) ≠ x := by
  split <;> assumption

theorem dispatchBlock_nohang (plist : Bytes → Option PView) (s : BlockState) (b : Bytes × Bytes) :
    dispatchBlock plist s b ≠ .error .hang := by
  unfold dispatchBlock
  -- every leaf of the `if` chain is `.ok _` or a literal error other than `.hang`,
  -- directly or under one match on an optional key
  cases plist b.2 <;> dsimp only <;> repeat' apply ite_ne
  all_goals first | (split <;> simp) | simp

theorem dispatchBlocks_nohang (plist : Bytes → Option PView) : ∀ (bs : List (Bytes × Bytes)) (s : BlockState),
    (dispatchBlocks plist s bs).2 ≠ some .hang
  | [], s => by simp [dispatchBlocks]
  | b :: bs, s => by
    simp only [dispatchBlocks]
    cases hd : dispatchBlock plist s b with
    | error e =>
      have := dispatchBlock_nohang plist s b
      rw [hd] at this
      simpa using this
    | ok s' => exact dispatchBlocks_nohang plist bs s'

theorem logLoop_nohang (strings : List (Nat × Bytes)) : ∀ (es : List RawLog) (i : Nat) (t : Tables),
    (logLoop strings i t es).2.1 ≠ some .hang
  | [], i, t => by simp [logLoop]
  | e :: es, i, t => by
    simp only [logLoop]
    cases hf : fromRawLog strings i e with
    | error err =>
      have : err = .keyError := by
        unfold fromRawLog at hf
        repeat' split at hf
        all_goals simp_all
      simp [this]
    | ok lo => exact logLoop_nohang strings es _ _

theorem tailV3_final {ε : Type} (plist : Bytes → Option PView) (evs : List ε) (t : Tables) (m : V3Meta)
    (r : Reader) (g : Good r) :
    (tailV3 plist evs t m r).rd.cost + 3 * r.pos ≤ r.cost + 5 * r.data.length + 38 ∧
    (tailV3 plist evs t m r).err ≠ some .hang := by
  have g' : r.pos ≤ r.data.length := g
  obtain ⟨c, nh⟩ := greedyBlocks_spec ((r.seekTo (r.pos - 8)).rest.length / 16 + 2) (r.seekTo (r.pos - 8))
    (show r.pos - 8 ≤ r.data.length by omega)
  have nh' := nh (by rw [rest_length]; omega)
  unfold tailV3
  dsimp only
  cases hg : greedyRange blockElem ((r.seekTo (r.pos - 8)).rest.length / 16 + 2) (r.seekTo (r.pos - 8)) with
  | mk res r2 =>
  rw [hg] at c nh'
  have hc : r2.cost + 3 * r.pos ≤ r.cost + 5 * r.data.length + 38 := by
    simp only [Reader.cost, Reader.seekTo] at c ⊢; omega
  cases res with
  | error e => exact absurd rfl (nh' e)
  | ok blocks =>
    dsimp only
    unfold tailOfBlocks
    cases hdb : dispatchBlocks plist ⟨m.reset, [], []⟩ blocks with
    | mk s oe =>
    cases oe with
    | some e =>
      have := dispatchBlocks_nohang plist blocks ⟨m.reset, [], []⟩
      rw [hdb] at this
      exact ⟨hc, this⟩
    | none => exact ⟨hc, logLoop_nohang _ _ _ _⟩

theorem parseV3_final {ε : Type} (plist : Bytes → Option PView) (dec : Bytes → Except PyErr ε)
    (hdec : RejectsShort dec) (hnh : NoHangDec dec) (prior : PState) (r : Reader) (g : Good r) :
    (parseV3 plist dec prior r).rd.cost + 3 * r.pos ≤ r.cost + 5 * r.data.length + 66 ∧
    Slices dec r.data r.pos r.data.length (parseV3 plist dec prior r).events ∧
    (parseV3 plist dec prior r).err ≠ some .hang := by
  have g' : r.pos ≤ r.data.length := g
  obtain ⟨s1, _⟩ := linA_headerV3 plist r g
  unfold parseV3
  cases hh : headerV3 plist r with
  | mk res r1 =>
  rw [hh] at s1
  dsimp only at s1
  cases res with
  | error e =>
    have := s1.bound
    exact ⟨by dsimp only; omega, .nil g', fun h => nh_headerV3 plist r r1 e hh (Option.some.inj h)⟩
  | ok hd =>
    dsimp only
    obtain ⟨s2, _⟩ := linA_threadmapV3 r1 s1.good
    cases ht : threadmapV3 r1 with
    | mk res2 r2 =>
    rw [ht] at s2
    dsimp only at s2
    have s12 : Step 2 22 r r2 := s1.weaken.trans s2
    cases res2 with
    | error e =>
      have := s12.bound
      exact ⟨by dsimp only; omega, .nil g', fun h => nh_threadmapV3 r1 r2 e ht (Option.some.inj h)⟩
    | ok tm =>
      dsimp only
      obtain ⟨s3, sl3, nh3⟩ := chunkLoop_spec dec hdec (r2.rest.length / 16 + 2) r2 s2.good
      have s13 : Step 3 28 r (chunkLoop dec (r2.rest.length / 16 + 2) r2).2.2 := s12.weaken.trans s3
      have := s13.bound
      rw [s12.data] at sl3
      have sl := sl3.mono s12.mono (s13.data ▸ s13.good)
      cases hq : (chunkLoop dec (r2.rest.length / 16 + 2) r2).2.1 with
      | some e =>
        exact ⟨by dsimp only; omega, by rw [events_evs]; exact sl, fun h => nh3 hnh (by rw [rest_length]; omega) (hq.trans h)⟩
      | none =>
        dsimp only
        obtain ⟨t1, t2⟩ := tailV3_final plist (chunkLoop dec (r2.rest.length / 16 + 2) r2).1
          (setThreadMap prior.tables tm) { prior.md with header := some hd } _ s3.good
        have := s13.cost
        rw [s13.data] at t1
        dsimp only at t1 t2
        exact ⟨by omega, by rw [(tailV3_events ..).1]; exact sl, t2⟩

theorem parse_final {ε : Type} (plist : Bytes → Option PView) (dec : Bytes → Except PyErr ε)
    (hdec : RejectsShort dec) (hnh : NoHangDec dec) (prior : PState) (data : Bytes) :
    (parse plist dec prior data).rd.cost ≤ 5 * data.length + 67 ∧
    Slices dec data 0 data.length (parse plist dec prior data).events ∧
    (parse plist dec prior data).err ≠ some .hang := by
  have s0 := step_read (Reader.ofBytes data) Gen.Consts.RAW_VERSION_SIZE (Nat.zero_le _)
  have hc0 := s0.cost
  rw [show (Reader.ofBytes data).cost = 0 from rfl, show (Reader.ofBytes data).pos = 0 from rfl] at hc0
  have hg0 : ((Reader.ofBytes data).read Gen.Consts.RAW_VERSION_SIZE).2.pos ≤ data.length := s0.good
  by_cases h2 : ((Reader.ofBytes data).read Gen.Consts.RAW_VERSION_SIZE).1 = Gen.Consts.RAW_VERSION2_BYTES
  · obtain ⟨a1, a2, a3⟩ := parseV2_final dec hdec hnh prior.tables _ s0.good
    have hc := a1.cost
    have hg : _ ≤ data.length := a1.data ▸ a1.good
    simp only [parse_v2 _ _ _ h2, events_evs]
    exact ⟨by omega, a2.mono (Nat.zero_le _) hg, a3⟩
  by_cases h3 : ((Reader.ofBytes data).read Gen.Consts.RAW_VERSION_SIZE).1 = Gen.Consts.RAW_VERSION3_BYTES
  · obtain ⟨a1, a2, a3⟩ := parseV3_final plist dec hdec hnh prior _ s0.good
    have a1' : _ ≤ _ + 5 * data.length + 66 := a1
    rw [parse_v3 _ _ _ h3]
    exact ⟨by omega, a2.mono (Nat.zero_le _) (Nat.le_refl _), a3⟩
  · rw [parse_other _ _ _ h2 h3]
    dsimp only
    exact ⟨by omega, .nil (Nat.zero_le _), nofun⟩

theorem Slices.mem {ε : Type} {dec : Bytes → Except PyErr ε} {data : Bytes} {lo hi : Nat} {es : List ε}
    (h : Slices dec data lo hi es) {e : ε} (he : e ∈ es) :
    ∃ p, p + 64 ≤ data.length ∧ dec ((data.drop p).take 64) = .ok e := by
  induction h with
  | nil _ => simp at he
  | @cons lo hi p e' es h1 h2 h3 _ ih =>
    rcases List.mem_cons.mp he with rfl | hm
    · exact ⟨p, h2, h3⟩
    · exact ih hm

end KdVerif
