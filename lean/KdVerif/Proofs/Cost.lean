import KdVerif.Model.ContainerV3
import KdVerif.Proofs.Trunc
/-
  Position and cost accounting.  `Step a b r r1`: `r1` continues `r` on the same data, not behind it,
  inside the data, and the work done (`cost` = read calls + bytes returned) grew by at most `a` per
  byte advanced plus `b`.  `LinA a b adv m`: every run of `m` from a good reader is such a step, and
  a SUCCESSFUL run advances at least `adv` bytes.
  `Slices dec data lo hi es`: where the events come from — `es` are the decodings of disjoint 64-byte windows of `data`
  inside `[lo, hi)`, in order.  `NH m`: `m` never ends in `.hang`, the model's "out of fuel" (only the fuelled loops
  can, and `…_spec` say with how much fuel they do not).
-/
namespace KdVerif
open Reader

def Good (r : Reader) : Prop := r.pos ≤ r.data.length

structure Step (a b : Nat) (r r1 : Reader) : Prop where
  data : r1.data = r.data
  mono : r.pos ≤ r1.pos
  good : r1.pos ≤ r1.data.length
  cost : r1.cost + a * r.pos ≤ r.cost + a * r1.pos + b

theorem Step.refl (a b : Nat) {r : Reader} (g : Good r) : Step a b r r := ⟨rfl, Nat.le_refl _, g, by omega⟩

theorem Step.trans {a b1 b2 : Nat} {r r1 r2 : Reader} (h1 : Step a b1 r r1) (h2 : Step a b2 r1 r2) :
    Step a (b1 + b2) r r2 :=
  ⟨h2.data.trans h1.data, Nat.le_trans h1.mono h2.mono, h2.good, by have := h1.cost; have := h2.cost; omega⟩

theorem Step.weaken {a b a' b' : Nat} {r r1 : Reader} (h : Step a b r r1) (ha : a ≤ a' := by omega)
    (hb : b ≤ b' := by omega) : Step a' b' r r1 := by
  refine ⟨h.data, h.mono, h.good, ?_⟩
  have h1 := h.cost
  have h2 := h.mono
  obtain ⟨d, rfl⟩ : ∃ d, a' = a + d := ⟨a' - a, by omega⟩
  have : d * r.pos ≤ d * r1.pos := Nat.mul_le_mul_left d h2
  rw [Nat.add_mul, Nat.add_mul]
  omega

/-- a step that advanced at least `b` bytes pays its constant with one more unit per byte. -/
theorem Step.absorb {a b : Nat} {r r1 : Reader} (h : Step a b r r1) (hadv : r.pos + b ≤ r1.pos) :
    Step (a + 1) 0 r r1 := by
  refine ⟨h.data, h.mono, h.good, ?_⟩
  have := h.cost
  rw [Nat.add_mul, Nat.add_mul]
  omega

theorem Step.bound {a b : Nat} {r r1 : Reader} (h : Step a b r r1) :
    r1.cost + a * r.pos ≤ r.cost + a * r.data.length + b := by
  have h1 := h.cost
  have h2 := Nat.mul_le_mul_left a (h.data ▸ h.good : r1.pos ≤ r.data.length)
  omega

theorem Step.good' {a b : Nat} {r r1 : Reader} (h : Step a b r r1) : Good r1 := h.good

def LinA {α : Type} (a b adv : Nat) (m : RM α) : Prop :=
  ∀ r, Good r → Step a b r (m r).2 ∧ ∀ x, (m r).1 = .ok x → r.pos + adv ≤ (m r).2.pos

theorem LinA.weaken {α : Type} {a b adv a' b' adv' : Nat} {m : RM α} (h : LinA a b adv m)
    (ha : a ≤ a' := by omega) (hb : b ≤ b' := by omega) (hv : adv' ≤ adv := by omega) : LinA a' b' adv' m := fun r g =>
  ⟨(h r g).1.weaken ha hb, fun x hx => by have := (h r g).2 x hx; omega⟩

theorem LinA.cases {α : Type} {a b adv : Nat} {m : RM α} (h : LinA a b adv m) {r : Reader} (g : Good r) :
    (∃ e r1, m r = (.error e, r1) ∧ Step a b r r1) ∨
    (∃ x r1, m r = (.ok x, r1) ∧ Step a b r r1 ∧ r.pos + adv ≤ r1.pos) := by
  obtain ⟨s, v⟩ := h r g
  cases hm : m r with
  | mk res r1 =>
  rw [hm] at s v
  cases res with
  | error e => exact .inl ⟨e, r1, rfl, s⟩
  | ok x => exact .inr ⟨x, r1, rfl, s, v x rfl⟩

theorem step_read (r : Reader) (n : Nat) (g : Good r) : Step 1 1 r (r.read n).2 := by
  refine ⟨rfl, by simp, ?_, ?_⟩
  · simp only [read_pos, read_data, Reader.rest, List.length_drop]; unfold Good at g; omega
  · simp only [Reader.cost, Reader.read]; omega

theorem linA_readPlain (n : Nat) : LinA 1 1 0 (readPlain n) := fun r g =>
  ⟨step_read r n g, fun _ _ => by simp [KdVerif.readPlain]⟩

theorem linA_readExact (n : Nat) : LinA 1 1 n (readExact n) := fun r g => by
  rw [readExact_eq]
  split
  · exact ⟨⟨rfl, Nat.le_refl _, g, by simp only [Reader.cost, Reader.bump]; omega⟩, fun _ hx => by simp at hx⟩
  split
  · rename_i h
    refine ⟨step_read r n g, fun _ _ => ?_⟩
    simp only [read_fst, List.length_take] at h
    simp only [read_pos]; omega
  · exact ⟨step_read r n g, fun _ hx => by simp at hx⟩

theorem linA_pure {α : Type} (x : α) : LinA 0 0 0 (pure x : RM α) := fun _ g =>
  ⟨Step.refl 0 0 g, fun _ _ => Nat.le_refl _⟩

theorem linA_throw {α : Type} (e : PyErr) {adv : Nat} : LinA 0 0 adv (RM.throw' e : RM α) := fun r g =>
  ⟨Step.refl 0 0 g, fun _ hx => by simp [RM.throw'] at hx⟩

theorem linA_tell : LinA 0 0 0 tell := fun _ g => ⟨Step.refl 0 0 g, fun _ _ => Nat.le_refl _⟩

theorem linA_restFuel : LinA 0 0 0 restFuel := fun _ g => ⟨Step.refl 0 0 g, fun _ _ => Nat.le_refl _⟩

/-- the constants of a sequence add up (the rate is the larger one); a final `weaken` brings them into the form wanted. -/
theorem linA_bind {α β : Type} {a1 a2 b1 b2 v1 v2 : Nat} {m : RM α} {f : α → RM β}
    (hm : LinA a1 b1 v1 m) (hf : ∀ x, LinA a2 b2 v2 (f x)) : LinA (max a1 a2) (b1 + b2) (v1 + v2) (m >>= f) := by
  intro r g
  rcases hm.cases g with ⟨e, r1, hmr, s1⟩ | ⟨x, r1, hmr, s1, a1⟩
  · rw [RM.bind_err hmr]
    exact ⟨s1.weaken (Nat.le_max_left ..) (Nat.le_add_right ..), fun _ hx => by simp at hx⟩
  · rw [RM.bind_ok hmr]
    obtain ⟨s2, a2⟩ := hf x r1 s1.good
    refine ⟨(s1.weaken (Nat.le_max_left ..) (Nat.le_refl _)).trans (s2.weaken (Nat.le_max_right ..) (Nat.le_refl _)),
      fun y hy => ?_⟩
    have := a2 y hy
    omega

theorem linA_int32ul : LinA 1 1 4 int32ul := (linA_bind (linA_readExact 4) fun _ => linA_pure _).weaken
theorem linA_int64ul : LinA 1 1 8 int64ul := (linA_bind (linA_readExact 8) fun _ => linA_pure _).weaken
theorem linA_padding (n : Nat) : LinA 1 1 n (padding n) := (linA_bind (linA_readExact n) fun _ => linA_pure _).weaken

theorem linA_fixedCString (n : Nat) : LinA 1 1 n (fixedCString n) := by
  rw [fixedCString_eq]
  exact (linA_bind (linA_readExact n) fun b => by
    cases cstringOf b with
    | ok s => exact linA_pure _
    | error e => exact linA_throw _).weaken

theorem linA_threadEntry : LinA 1 3 32 threadEntry :=
  (linA_bind linA_int64ul fun _ => linA_bind linA_int32ul fun _ =>
    linA_bind (linA_fixedCString 0x14) fun _ => linA_pure _).weaken

/-- `Array(n, m)`: each successful element pays for itself. -/
theorem linA_arrayN {α : Type} {a b adv : Nat} {m : RM α} (hm : LinA a b adv m) (hb : b ≤ adv) :
    ∀ n, LinA (a + 1) b 0 (arrayN m n)
  | 0 => (linA_pure _).weaken
  | n + 1 => by
    intro r g
    simp only [KdVerif.arrayN]
    rcases hm.cases g with ⟨e, r1, hmr, s1⟩ | ⟨x, r1, hmr, s1, a1⟩
    · rw [RM.bind_err hmr]
      exact ⟨s1.weaken, fun _ hx => by simp at hx⟩
    · rw [RM.bind_ok hmr]
      have s1' := s1.absorb (by omega)
      obtain ⟨s2, _⟩ := ((linA_bind (linA_arrayN hm hb n) fun l => linA_pure (x :: l)).weaken : LinA (a + 1) b 0 _)
        r1 s1.good
      exact ⟨by simpa using s1'.trans s2, fun _ _ => Nat.le_trans (by omega) (s1'.trans s2).mono⟩


theorem linA_constZeroByte : LinA 1 1 1 constZeroByte :=
  (linA_bind (linA_readExact 1) fun b => by
    split
    · exact linA_pure _
    · exact linA_throw _).weaken

theorem linA_greedyZeros : ∀ fuel, LinA 2 2 0 (greedyRange constZeroByte fuel)
  | 0 => fun r g => ⟨Step.refl 2 2 g, fun _ hx => by simp [greedyRange, RM.throw'] at hx⟩
  | fuel + 1 => by
    intro r g
    have hsnd : (constZeroByte r).2 = (r.read 1).2 := by rw [constZeroByte_eq]; split <;> rfl
    rcases linA_constZeroByte.cases g with ⟨e, r1, hc, s1⟩ | ⟨u, r1, hc, s1, a1⟩
    · by_cases he : e = .hang
      · subst he
        simp only [greedyRange, hc]
        exact ⟨s1.weaken, fun _ => nofun⟩
      · rw [greedyRange_stop hc he]
        refine ⟨⟨s1.data, Nat.le_refl _, by rw [seekTo_data, s1.data]; exact g, ?_⟩, fun _ _ => Nat.le_refl _⟩
        have hc1 := s1.cost
        rw [hc] at hsnd
        dsimp only at hsnd
        have : r1.pos ≤ r.pos + 1 := by rw [hsnd, read_pos]; omega
        simp only [Reader.cost, Reader.seekTo] at hc1 ⊢
        omega
    · have s1' := s1.absorb (by omega)
      obtain ⟨s2, _⟩ := linA_greedyZeros fuel r1 s1.good
      have := s1'.trans s2
      rw [greedyRange_ok hc]
      exact ⟨this, fun _ _ => this.mono⟩

theorem seekAux_count (tag : Bytes) (rest : Bytes) : ∀ (found : Bytes) (n : Nat),
    (seekAux tag rest found n).2 ≤ n + rest.length := by
  induction rest with
  | nil => intro found n; simp [seekAux]
  | cons b t ih =>
    intro found n
    simp only [seekAux]
    split
    · simp
    · have := ih (found.drop 1 ++ [b]) (n + 1); simp only [List.length_cons]; omega

theorem linA_seekUntil (tag : Bytes) : LinA 2 2 tag.length (seekUntil tag) := by
  intro r g
  have sr := step_read r tag.length g
  have hcnt := seekAux_count tag (r.read tag.length).2.rest (r.read tag.length).1 0
  have hgood : (r.read tag.length).2.pos + (r.read tag.length).2.rest.length ≤ r.data.length := by
    have := sr.good
    simp only [Reader.rest, List.length_drop, read_data] at this ⊢
    omega
  have hc := sr.cost
  have hm := sr.mono
  -- `extra` is the empty read that raises at end of file
  have st : ∀ extra ≤ 1, Step 2 2 r ((r.read tag.length).2.stepBytes
      (seekAux tag (r.read tag.length).2.rest (r.read tag.length).1 0).2 extra) := fun extra _ =>
    ⟨rfl, by simp only [stepBytes_pos]; omega, by simp only [stepBytes_pos, stepBytes_data, read_data]; omega,
      by simp only [Reader.cost, Reader.stepBytes] at hc ⊢; omega⟩
  rw [seekUntil_eq]
  split
  · rename_i hs
    refine ⟨st 0 (Nat.zero_le _), fun _ _ => ?_⟩
    by_cases hl : (r.read tag.length).1.length = tag.length
    · simp only [read_fst, List.length_take] at hl
      simp only [stepBytes_pos, read_pos]; omega
    · rw [read_short_rest r _ hl, seekAux_nil_short tag _ 0 hl] at hs
      simp at hs
  · exact ⟨st 1 (Nat.le_refl _), fun _ hx => by simp at hx⟩

inductive Slices {ε : Type} (dec : Bytes → Except PyErr ε) (data : Bytes) : Nat → Nat → List ε → Prop
  | nil {lo hi : Nat} : lo ≤ hi → Slices dec data lo hi []
  | cons {lo hi p : Nat} {e : ε} {es : List ε} : lo ≤ p → p + 64 ≤ data.length →
      dec ((data.drop p).take 64) = .ok e → Slices dec data (p + 64) hi es → Slices dec data lo hi (e :: es)

theorem Slices.le {ε : Type} {dec : Bytes → Except PyErr ε} {data : Bytes} {lo hi : Nat} {es : List ε}
    (h : Slices dec data lo hi es) : lo ≤ hi := by
  induction h with
  | nil h => exact h
  | cons h1 _ _ _ ih => omega

theorem Slices.mono {ε : Type} {dec : Bytes → Except PyErr ε} {data : Bytes} {lo hi lo' hi' : Nat} {es : List ε}
    (h : Slices dec data lo hi es) (hl : lo' ≤ lo) (hh : hi ≤ hi') : Slices dec data lo' hi' es := by
  induction h generalizing lo' with
  | nil h => exact .nil (by omega)
  | cons h1 h2 h3 _ ih => exact .cons (by omega) h2 h3 (ih (Nat.le_refl _) hh)

theorem Slices.append {ε : Type} {dec : Bytes → Except PyErr ε} {data : Bytes} {lo mid hi : Nat} {a b : List ε}
    (h1 : Slices dec data lo mid a) (h2 : Slices dec data mid hi b) : Slices dec data lo hi (a ++ b) := by
  induction h1 with
  | nil h => exact h2.mono h (Nat.le_refl _)
  | cons c1 c2 c3 _ ih => exact .cons c1 c2 c3 (ih h2)

theorem RejectsShort.len {ε : Type} {dec : Bytes → Except PyErr ε} (h : RejectsShort dec) {x : Bytes} {e : ε}
    (hx : dec x = .ok e) : x.length = 64 := by
  by_cases hl : x.length = 64
  · exact hl
  · obtain ⟨e', he⟩ := h x hl; rw [he] at hx; simp at hx

def NoHangDec {ε : Type} (dec : Bytes → Except PyErr ε) : Prop := ∀ x, dec x ≠ .error .hang

theorem read64_slice (r : Reader) (h : (r.read 64).1.length = 64) :
    (r.read 64).1 = (r.data.drop r.pos).take 64 ∧ r.pos + 64 ≤ r.data.length ∧ (r.read 64).2.pos = r.pos + 64 := by
  simp only [read_fst, Reader.rest, List.length_take, List.length_drop] at h
  refine ⟨rfl, by omega, ?_⟩
  simp only [read_pos, Reader.rest, List.length_drop]; omega

def NH {α : Type} (m : RM α) : Prop := ∀ r r' e, m r = (.error e, r') → e ≠ .hang

theorem nh_bind {α β : Type} {m : RM α} {f : α → RM β} (hm : NH m) (hf : ∀ x, NH (f x)) : NH (m >>= f) := by
  intro r r' e h
  cases hmr : m r with
  | mk res r1 =>
  cases res with
  | error e1 =>
    rw [RM.bind_err hmr] at h
    simp only [Prod.mk.injEq, Except.error.injEq] at h
    exact h.1 ▸ hm r r1 e1 hmr
  | ok x => rw [RM.bind_ok hmr] at h; exact hf x r1 r' e h

theorem nh_pure {α : Type} (x : α) : NH (pure x : RM α) := fun _ _ _ h => by simp at h
theorem nh_tell : NH tell := fun _ _ _ h => by simp [tell] at h
theorem nh_restFuel : NH restFuel := fun _ _ _ h => by simp [restFuel] at h
theorem nh_readPlain (n : Nat) : NH (readPlain n) := fun _ _ _ h => by simp [readPlain] at h

theorem nh_readExact (n : Nat) : NH (readExact n) := by
  intro r r' e h
  rw [readExact_err h]; simp

theorem nh_throw {α : Type} (e : PyErr) (he : e ≠ .hang) : NH (RM.throw' e : RM α) := by
  intro r r' e' h
  simp only [RM.throw', Prod.mk.injEq, Except.error.injEq] at h
  exact h.1 ▸ he

theorem nh_int32ul : NH int32ul := nh_bind (nh_readExact 4) fun _ => nh_pure _
theorem nh_int64ul : NH int64ul := nh_bind (nh_readExact 8) fun _ => nh_pure _
theorem nh_padding (n : Nat) : NH (padding n) := nh_bind (nh_readExact n) fun _ => nh_pure _
theorem nh_prefixedBytes : NH prefixedBytes := nh_bind nh_int64ul fun n => nh_readExact n

theorem cstringOf_err {b : Bytes} {e : PyErr} (h : cstringOf b = .error e) : e = .streamError := by
  unfold cstringOf at h
  dsimp only at h
  (repeat' split at h) <;> cases h <;> rfl

theorem nh_fixedCString (n : Nat) : NH (fixedCString n) := by
  rw [fixedCString_eq]
  refine nh_bind (nh_readExact n) fun b => ?_
  cases h : cstringOf b with
  | ok s => exact nh_pure _
  | error e => exact nh_throw _ (by rw [cstringOf_err h]; decide)

theorem nh_threadEntry : NH threadEntry :=
  nh_bind nh_int64ul fun _ => nh_bind nh_int32ul fun _ => nh_bind (nh_fixedCString _) fun _ => nh_pure _

theorem nh_arrayN {α : Type} {m : RM α} (hm : NH m) : ∀ n, NH (arrayN m n)
  | 0 => nh_pure _
  | n + 1 => nh_bind hm fun _ => nh_bind (nh_arrayN hm n) fun _ => nh_pure _

theorem nh_zeroSkip {β : Type} (g : List Unit → β) :
    NH (restFuel >>= fun fuel => (greedyRange constZeroByte fuel >>= fun pad => (pure (g pad) : RM β))) := by
  intro r r' e h
  obtain ⟨l, b1, e1, _⟩ := greedyZeros_spec (r.rest.length + 1) r (Nat.le_refl _)
  have hr : restFuel r = (.ok (r.rest.length + 1), r) := rfl
  rw [RM.bind_ok hr, RM.bind_ok e1] at h
  simp at h

theorem nh_headerV2 : NH headerV2 := by
  unfold headerV2
  exact nh_bind nh_int32ul fun _ => nh_bind (nh_padding _) fun _ => nh_bind (nh_padding _) fun _ =>
    nh_bind nh_int32ul fun _ => nh_bind nh_int64ul fun _ => nh_bind (nh_padding _) fun _ =>
    nh_bind (nh_arrayN nh_threadEntry _) fun _ => nh_zeroSkip _

theorem nh_seekUntil (tag : Bytes) : NH (seekUntil tag) := by
  intro r r' e h
  rw [seekUntil_eq] at h
  split at h <;> simp only [Prod.mk.injEq, Except.error.injEq] at h
  · simp at h
  · rw [← h.1]; simp

theorem nh_readFields : ∀ ns, NH (readFields ns)
  | [] => nh_pure _
  | n :: ns => nh_bind (nh_readExact n) fun _ => nh_bind (nh_readFields ns) fun _ => nh_pure _

theorem nh_aligned {α : Type} (k : Nat) {m : RM α} (hm : NH m) : NH (aligned k m) :=
  nh_bind nh_tell fun _ => nh_bind hm fun _ => nh_bind nh_tell fun _ => nh_bind (nh_readExact _) fun _ => nh_pure _

theorem nh_headerV3 (plist : Bytes → Option PView) : NH (headerV3 plist) := by
  unfold headerV3 headerV3Inner
  refine nh_aligned 8 (nh_bind (nh_readFields _) fun _ => nh_bind nh_prefixedBytes fun p => ?_)
  cases plist p with
  | none => exact nh_throw _ (by simp)
  | some _ => exact nh_pure _

theorem nh_threadmapV3 : NH threadmapV3 := by
  unfold threadmapV3
  exact nh_bind (nh_readPlain _) fun _ => nh_bind (nh_seekUntil _) fun _ => nh_bind (nh_seekUntil _) fun _ =>
    nh_bind nh_prefixedBytes fun _ => nh_pure _

theorem recordLoop_spec {ε : Type} (dec : Bytes → Except PyErr ε) (hdec : RejectsShort dec) :
    ∀ (fuel : Nat) (r : Reader), Good r →
      Step 2 1 r (recordLoop dec fuel r).2.2 ∧
      Slices dec r.data r.pos (recordLoop dec fuel r).2.2.pos (recordLoop dec fuel r).1 ∧
      (NoHangDec dec → r.data.length - r.pos < fuel * 64 → (recordLoop dec fuel r).2.1 ≠ some .hang)
  | 0, r, g => ⟨Step.refl 2 1 g, .nil (Nat.le_refl _), fun _ h => by omega⟩
  | fuel + 1, r, g => by
    have sr := step_read r 64 g
    simp only [recordLoop]
    split
    · exact ⟨sr.weaken, .nil sr.mono, fun _ _ => nofun⟩
    · cases hd : dec (r.read 64).1 with
      | error e => exact ⟨sr.weaken, .nil sr.mono, fun hnh _ h => hnh _ (hd.trans (congrArg _ (Option.some.inj h)))⟩
      | ok ev =>
        obtain ⟨e1, e2, e3⟩ := read64_slice r (hdec.len hd)
        obtain ⟨s2, sl2, nh2⟩ := recordLoop_spec dec hdec fuel (r.read 64).2 sr.good
        rw [read_data, e3] at sl2 nh2
        exact ⟨by simpa using (sr.absorb (by omega)).trans s2, .cons (Nat.le_refl _) e2 (e1 ▸ hd) sl2,
          fun hnh h => nh2 hnh (by omega)⟩

theorem recordLoop_nohang {ε : Type} (dec : Bytes → Except PyErr ε) (hdec : RejectsShort dec) (hnh : NoHangDec dec) :
    ∀ (fuel : Nat) (r : Reader), Good r → r.data.length - r.pos < fuel * 64 →
      (recordLoop dec fuel r).2.1 ≠ some .hang :=
  fun fuel r g h => (recordLoop_spec dec hdec fuel r g).2.2 hnh h

theorem recordsN_spec {ε : Type} (dec : Bytes → Except PyErr ε) (hdec : RejectsShort dec) :
    ∀ (n : Nat) (r : Reader), Good r →
      Step 2 1 r (recordsN dec n r).2.2 ∧
      Slices dec r.data r.pos (recordsN dec n r).2.2.pos (recordsN dec n r).1 ∧
      (NoHangDec dec → (recordsN dec n r).2.1 ≠ some .hang)
  | 0, r, g => ⟨Step.refl 2 1 g, .nil (Nat.le_refl _), fun _ => nofun⟩
  | n + 1, r, g => by
    have sr := step_read r 64 g
    simp only [recordsN, Gen.Consts.keventSize]
    cases hd : dec (r.read 64).1 with
    | error e => exact ⟨sr.weaken, .nil sr.mono, fun hnh h => hnh _ (hd.trans (congrArg _ (Option.some.inj h)))⟩
    | ok ev =>
      obtain ⟨e1, e2, e3⟩ := read64_slice r (hdec.len hd)
      obtain ⟨s2, sl2, nh2⟩ := recordsN_spec dec hdec n (r.read 64).2 sr.good
      rw [read_data, e3] at sl2
      exact ⟨by simpa using (sr.absorb (by omega)).trans s2, .cons (Nat.le_refl _) e2 (e1 ▸ hd) sl2, nh2⟩


theorem chunkLoop_spec {ε : Type} (dec : Bytes → Except PyErr ε) (hdec : RejectsShort dec) :
    ∀ (fuel : Nat) (r : Reader), Good r →
      Step 3 6 r (chunkLoop dec fuel r).2.2 ∧
      Slices dec r.data r.pos (chunkLoop dec fuel r).2.2.pos (chunkLoop dec fuel r).1 ∧
      (NoHangDec dec → r.data.length - r.pos < fuel * 16 → (chunkLoop dec fuel r).2.1 ≠ some .hang)
  | 0, r, g => ⟨Step.refl 3 6 g, .nil (Nat.le_refl _), fun _ h => by omega⟩
  | fuel + 1, r, g => by
    rw [chunkLoop]
    rcases (linA_seekUntil Gen.Consts.TRACEV3_EVENTS_TAG).cases g with ⟨e, r1, hs, s1⟩ | ⟨u, r1, hs, s1, (adv1 : r.pos + 8 ≤ r1.pos)⟩
    · rw [hs]
      exact ⟨s1.weaken, .nil s1.mono, fun _ _ h => nh_seekUntil _ r r1 e hs (Option.some.inj h)⟩
    rw [hs]
    dsimp only
    rcases (linA_int64ul.weaken : LinA 2 1 8 _).cases s1.good with ⟨e, r2, hi, s2⟩ | ⟨size, r2, hi, s2, adv2⟩
    · rw [hi]
      have s12 := s1.trans s2
      exact ⟨s12.weaken, .nil s12.mono, fun _ _ h => nh_int64ul r1 r2 e hi (Option.some.inj h)⟩
    rw [hi]
    dsimp only
    have s12 := s1.trans s2
    have s3 := step_read r2 8 s2.good
    obtain ⟨s4, sl4, nh4⟩ := recordsN_spec dec hdec (size / Gen.Consts.keventSize) (r2.read 8).2 s3.good
    rw [read_data, s12.data] at sl4
    generalize recordsN dec (size / Gen.Consts.keventSize) (r2.read 8).2 = q at s4 sl4 nh4 ⊢
    obtain ⟨evs, oe, r4⟩ := q
    dsimp only at s4 sl4 nh4 ⊢
    have s14 : Step 2 5 r r4 := (s12.trans (s3.weaken (b' := 1))).trans s4
    have sl4' := sl4.mono (Nat.le_trans s12.mono s3.mono) (Nat.le_refl _)
    cases oe with
    | some e => exact ⟨s14.weaken, sl4', fun hnh _ => nh4 hnh⟩
    | none =>
      dsimp only
      have s5 := step_read r4 Gen.Consts.TRACEV3_MORE_EVENTS.length s4.good
      have s15 : Step 2 6 r (r4.read Gen.Consts.TRACEV3_MORE_EVENTS.length).2 := s14.trans (s5.weaken (b' := 1))
      split
      · rename_i hm
        -- the MORE tag was read in full: at least 16 bytes since the start of the chunk
        have hl5 := congrArg List.length hm
        simp only [read_fst, List.length_take] at hl5
        have adv5 : r.pos + 16 ≤ (r4.read Gen.Consts.TRACEV3_MORE_EVENTS.length).2.pos := by
          have h3 := s3.mono
          have h4 := s4.mono
          have : Gen.Consts.TRACEV3_MORE_EVENTS.length = 8 := rfl
          simp only [read_pos]
          omega
        obtain ⟨s6, sl6, nh6⟩ := chunkLoop_spec dec hdec fuel _ s5.good
        rw [s15.data] at sl6 nh6
        refine ⟨by simpa using (s15.absorb (by omega)).trans s6, sl4'.append (sl6.mono s5.mono (Nat.le_refl _)),
          fun hnh h => nh6 hnh ?_⟩
        have h6 := s15.good
        rw [s15.data] at h6
        omega
      · exact ⟨s15.weaken, sl4'.mono (Nat.le_refl _) s5.mono, fun _ _ => nofun⟩

theorem chunkLoop_nohang {ε : Type} (dec : Bytes → Except PyErr ε) (hdec : RejectsShort dec) (hnh : NoHangDec dec) :
    ∀ (fuel : Nat) (r : Reader), Good r → r.data.length - r.pos < fuel * 16 →
      (chunkLoop dec fuel r).2.1 ≠ some .hang :=
  fun fuel r g h => (chunkLoop_spec dec hdec fuel r g).2.2 hnh h

theorem linA_prefixedBytes : LinA 1 2 8 prefixedBytes :=
  (linA_bind linA_int64ul fun n => ((linA_readExact n).weaken : LinA 1 1 0 _)).weaken

theorem aligned_eq {α : Type} (modulus : Nat) (m : RM α) (r : Reader) :
    aligned modulus m r =
      match m r with
      | (.ok a, r1) =>
        (match readExact (padTo modulus (r1.pos - r.pos)) r1 with
         | (.ok _, r2) => (.ok a, r2)
         | (.error e, r2) => (.error e, r2))
      | (.error e, r1) => (.error e, r1) := by
  simp only [aligned, bind, RM.bind', tell]
  cases m r with
  | mk res r1 =>
  cases res with
  | error e => rfl
  | ok a =>
    dsimp only
    cases readExact (padTo modulus (r1.pos - r.pos)) r1 with
    | mk res2 r2 => cases res2 <;> rfl

theorem linA_aligned {α : Type} {b v : Nat} (k : Nat) {m : RM α} (hm : LinA 1 b v m) :
    LinA 1 (b + 1) v (aligned k m) :=
  (linA_bind linA_tell fun p1 => linA_bind hm fun a => linA_bind linA_tell fun p2 =>
    linA_bind ((linA_readExact (padTo k (p2 - p1))).weaken : LinA 1 1 0 _) fun _ => linA_pure a).weaken

theorem readExact_pos_le (n : Nat) (r : Reader) : (readExact n r).2.pos ≤ r.pos + n := by
  rw [readExact_eq]
  split
  · exact Nat.le_add_right _ _
  · split <;> simp only [read_pos] <;> omega

/-- `Select(Aligned(8, p), p)`: when the aligned alternative fails behind `p`, in its padding, the plain
    one re-reads what `p` read (`Det`: same data, same position) and ends where `p` ended, at most 7 bytes before
    the point of failure.
    failure: back at the start, the work bounded by 2 per unread byte plus `2 * b + 1`;
    success: a step of at most 2 per byte plus `2 * b + 8`. -/
theorem select2_aligned_spec {α : Type} {p : RM α} {b v : Nat} (hp : LinA 1 b v p) (dt : Det p) (nh : NH p)
    {r : Reader} (g : Good r) :
    (∃ e r2, select2 (aligned 8 p) p r = (.error e, r2) ∧ e ≠ .hang ∧ r2.data = r.data ∧ r2.pos = r.pos ∧
      r2.cost + 2 * r.pos ≤ r.cost + 2 * r.data.length + (2 * b + 1)) ∨
    (∃ x r2, select2 (aligned 8 p) p r = (.ok x, r2) ∧ Step 2 (2 * b + 8) r r2 ∧ r.pos + v ≤ r2.pos) := by
  rcases (linA_aligned 8 hp).cases g with ⟨e, r1, hA, s1⟩ | ⟨x, r1, hA, s1, a1⟩
  · have he := nh_aligned 8 nh r r1 e hA
    have h1 := s1.bound
    have g' : r.pos ≤ r.data.length := g
    rcases hp.cases (r := r1.seekTo r.pos) (show r.pos ≤ r1.data.length from s1.data ▸ g) with ⟨e2, r2, hp2, s2⟩ | ⟨x, r2, hp2, s2, a2⟩
    · refine .inl ⟨_, _, select2_fail hA he hp2 (nh _ _ _ hp2), by decide, s2.data.trans s1.data, rfl, ?_⟩
      have h2 := s2.bound
      simp only [Reader.cost, Reader.seekTo, s1.data] at h1 h2 ⊢
      omega
    · obtain ⟨rp, hpr, -, hpos⟩ := dt r.data.length r (r1.seekTo r.pos)
        ⟨by rw [seekTo_data, s1.data, List.take_length], rfl⟩ x r2 hp2
      have hA' := aligned_eq 8 p r
      rw [hA, hpr] at hA'
      dsimp only at hA'
      have hq := readExact_pos_le (padTo 8 (rp.pos - r.pos)) rp
      have : padTo 8 (rp.pos - r.pos) < 8 := by unfold padTo; omega
      cases hqe : readExact (padTo 8 (rp.pos - r.pos)) rp with
      | mk resq rq =>
      rw [hqe] at hA' hq
      cases resq with
      | ok _ => simp at hA'
      | error _ =>
        obtain ⟨-, rfl⟩ := Prod.mk.inj hA'
        refine .inr ⟨x, r2, by rw [select2_err hA he, hp2], ⟨s2.data.trans s1.data, s2.mono, s2.good, ?_⟩, a2⟩
        have h1 := s1.cost
        have h2 := s2.cost
        simp only [Reader.cost, Reader.seekTo] at h1 h2 hq ⊢
        omega
  · exact .inr ⟨x, r1, select2_ok hA, s1.weaken, a1⟩

/-- What one element of the additional-data range does to the reader.
    failure: the work is at most 2 per unread byte plus 14;
    success: at least 16 bytes consumed and the work is at most 3 per byte consumed. -/
theorem blockElem_spec {r : Reader} (g : Good r) :
    (∃ e r1, blockElem r = (.error e, r1) ∧ e ≠ .hang ∧ r1.data = r.data ∧ r1.pos ≤ r.data.length ∧
      r1.cost + 2 * r.pos ≤ r.cost + 2 * r.data.length + 14) ∨
    (∃ x r1, blockElem r = (.ok x, r1) ∧ Step 3 0 r r1 ∧ r.pos + 16 ≤ r1.pos) := by
  have g' : r.pos ≤ r.data.length := g
  unfold blockElem
  rcases (linA_readExact 8).cases g with ⟨e, ra, ht, st⟩ | ⟨tag, ra, ht, st, adv_t⟩
  · have := st.bound
    exact .inl ⟨e, ra, RM.bind_err ht, nh_readExact 8 r ra e ht, st.data, st.data ▸ st.good, by omega⟩
  have hc := st.cost
  have hm := st.mono
  rcases select2_aligned_spec linA_prefixedBytes Det.prefixedBytes nh_prefixedBytes st.good with
    ⟨e, rs, hsl, he, d, p, c⟩ | ⟨data, rs, hsl, s, adv⟩
  · rw [st.data] at c
    exact .inl ⟨e, rs, by rw [RM.bind_ok ht, RM.bind_err hsl], he, d.trans st.data, by rw [p]; exact st.data ▸ st.good,
      by omega⟩
  · have := s.cost
    exact .inr ⟨_, rs, by rw [RM.bind_ok ht, RM.bind_ok hsl]; rfl,
      ⟨s.data.trans st.data, Nat.le_trans hm s.mono, s.good, by omega⟩, by omega⟩


/-- 3 per byte for the blocks read (`blockElem_spec`, success), and once 2 per unread byte plus 14 for the element that
    fails last: hence 5 per byte of data. -/
theorem greedyBlocks_spec : ∀ (fuel : Nat) (r : Reader), Good r →
    (greedyRange blockElem fuel r).2.cost + 3 * r.pos ≤ r.cost + 5 * r.data.length + 14 ∧
    (r.data.length - r.pos < fuel * 16 → ∀ e, (greedyRange blockElem fuel r).1 ≠ .error e)
  | 0, r, g => ⟨by have g' : r.pos ≤ r.data.length := g; simp only [greedyRange, RM.throw']; omega, fun h => by omega⟩
  | fuel + 1, r, g => by
    have g' : r.pos ≤ r.data.length := g
    rcases blockElem_spec g with ⟨e, r1, hb, e1, d, gd, e2⟩ | ⟨x, r1, hb, s, o1⟩
    · rw [greedyRange_stop hb e1]
      exact ⟨by simp only [Reader.cost, Reader.seekTo] at e2 ⊢; omega, fun _ _ => nofun⟩
    · obtain ⟨i1, i2⟩ := greedyBlocks_spec fuel r1 s.good
      have o2 := s.cost
      have gd : r1.pos ≤ r.data.length := s.data ▸ s.good
      rw [s.data] at i1 i2
      rw [greedyRange_ok hb]
      refine ⟨by dsimp only; omega, fun h e he => ?_⟩
      cases hg : (greedyRange blockElem fuel r1).1 with
      | ok l => rw [hg] at he; nomatch he
      | error e' => exact i2 (by omega) e' hg

theorem linA_headerV2 : LinA 2 11 0 headerV2 := by
  unfold headerV2
  exact (linA_bind linA_int32ul fun _ => linA_bind (linA_padding _) fun _ =>
    linA_bind (linA_padding _) fun _ => linA_bind linA_int32ul fun _ =>
    linA_bind linA_int64ul fun _ => linA_bind (linA_padding _) fun _ =>
    linA_bind (linA_arrayN linA_threadEntry (by omega) _) fun _ =>
    linA_bind linA_restFuel fun fuel => linA_bind (linA_greedyZeros fuel) fun _ => linA_pure _).weaken

theorem linA_readFields : ∀ ns : List Nat, LinA 1 ns.length 0 (readFields ns)
  | [] => (linA_pure _).weaken
  | n :: ns =>
    (linA_bind (linA_readExact n) fun b => linA_bind (linA_readFields ns) fun l => linA_pure (leNat b :: l)).weaken
      (hb := by simp only [List.length_cons]; omega)

theorem linA_headerInner (plist : Bytes → Option PView) : LinA 1 14 8 (headerV3Inner plist) := by
  unfold headerV3Inner
  exact (linA_bind (linA_readFields v3FieldSizes) fun fs => linA_bind linA_prefixedBytes fun p => by
    cases plist p with
    | some _ => exact linA_pure _
    | none => exact linA_throw _).weaken (hb := by decide)

theorem linA_headerV3 (plist : Bytes → Option PView) : LinA 1 15 0 (headerV3 plist) :=
  (linA_aligned 8 (linA_headerInner plist)).weaken

theorem linA_threadmapV3 : LinA 2 7 0 threadmapV3 := by
  unfold threadmapV3
  exact (linA_bind (linA_readPlain _) fun _ => linA_bind (linA_seekUntil _) fun _ =>
    linA_bind (linA_seekUntil _) fun _ => linA_bind linA_prefixedBytes fun _ => linA_pure _).weaken

end KdVerif
