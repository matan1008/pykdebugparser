import KdVerif.Spec.PyIRRdExpected
import KdVerif.Proofs.Trunc
import KdVerif.Proofs.Final
/-
  The expected IR of the reader code (`Spec/PyIRRdExpected`), run by the interpreter of `Model/PyIRRd`, is the
  hand model of `Model/ContainerV2|V3`: `seekUntil`, `setThreadMap`, `parseV2`, the whole of `parseV3` (prefix up to
  the end of the chunk loop: `chunk_loop`; tail: `tail_exec` = `tailV3`, with `block_body` = `dispatchBlock`,
  `blocks_loop` = `dispatchBlocks`, `log_loop` = `logLoop`), and the dispatch of `parse` — for every reader state.
  The interpreter's `while` loops run on their own fuel `f` (`loopFuel`), the model's on `g`: the loop lemmas assume
  `g ≤ f` and that the model's loop does not end in `.hang` (`Proofs/Final`), so the extra fuel is never looked at.
-/
namespace KdVerif.PyIRRd
open Reader Expected

attribute [local simp] exec execPrim evalB evalC Env.set

theorem read1_cons (r : Reader) (b : Nat) (t : Bytes) (h : r.rest = b :: t) :
    (r.read 1).1 = [b] ∧ (r.read 1).2 = r.stepBytes 1 0 ∧ (r.read 1).2.rest = t := by
  refine ⟨by simp [h], ?_, by rw [read_rest, h]; rfl⟩
  simp [Reader.read, Reader.stepBytes, h]

theorem read1_nil (r : Reader) (h : r.rest = []) : (r.read 1).1 = [] ∧ (r.read 1).2 = r.stepBytes 0 1 := by
  refine ⟨by simp [h], ?_⟩
  simp [Reader.read, Reader.stepBytes, h]

theorem stepBytes_stepBytes (r : Reader) (a k e : Nat) : (r.stepBytes a 0).stepBytes k e = r.stepBytes (a + k) e := by
  simp [Reader.stepBytes, Nat.add_assoc]

theorem stepBytes_zero (r : Reader) : r.stepBytes 0 0 = r := by
  simp [Reader.stepBytes]

theorem seekAux_shift (tag : Bytes) : ∀ (rest found : Bytes) (n : Nat),
    seekAux tag rest found (n + 1) = ((seekAux tag rest found n).1, (seekAux tag rest found n).2 + 1)
  | [], found, n => by simp [seekAux]
  | b :: t, found, n => by
    simp only [seekAux]
    split
    · rfl
    · exact seekAux_shift tag t _ (n + 1)

theorem seekAux_found (tag rest : Bytes) (n : Nat) : seekAux tag rest tag n = (true, n) := by
  cases rest <;> simp [seekAux]

theorem seek_loop (tag : Bytes) : ∀ (rest : Bytes) (fuel : Nat) (found : Bytes) (st : St Unit),
    st.rd.rest = rest → rest.length + 1 ≤ fuel →
    st.env 0 = some (.bytes tag) → st.env 1 = some (.bytes found) →
    ∃ st', whileLoop (fun s => evalC s.env seekCond) (fun s => exec leafParams seekBody s) fuel st =
        ((if (seekAux tag rest found 0).1 then Signal.normal else Signal.err .eof), st') ∧
      st'.rd = st.rd.stepBytes (seekAux tag rest found 0).2 (if (seekAux tag rest found 0).1 then 0 else 1)
  | _, 0, _, _, _, hf, _, _ => by simp at hf
  | rest, f + 1, found, st, hr, hf, h0, h1 => by
    by_cases hm : found = tag
    · refine ⟨st, ?_, ?_⟩
      · simp [whileLoop, seekCond, h0, h1, hm, seekAux_found]
      · simp [seekAux_found, hm, stepBytes_zero]
    · match rest, hr, hf with
      | [], hr, _ =>
        obtain ⟨e1, e2⟩ := read1_nil st.rd hr
        refine ⟨{ st with rd := (st.rd.read 1).2, env := st.env.set 2 (.bytes (st.rd.read 1).1) }, ?_, ?_⟩
        · simp [whileLoop, seekCond, h0, h1, hm, seekAux, seekBody, evalI, hr]
        · simp [seekAux, hm, e2]
      | b :: t, hr, hf =>
        obtain ⟨e1, e2, e3⟩ := read1_cons st.rd b t hr
        let st1 : St Unit :=
          { st with rd := (st.rd.read 1).2,
                    env := ((st.env.set 2 (.bytes [b])).set 1 (.bytes (found.drop 1 ++ [b]))) }
        have hbody : exec leafParams seekBody st = (.normal, st1) := by
          simp [seekBody, evalI, hr, h1, st1]
        obtain ⟨st', hl, hrd⟩ := seek_loop tag t f (found.drop 1 ++ [b]) st1 e3 (by simp at hf; omega)
          (by simp [st1, h0]) (by simp [st1])
        refine ⟨st', ?_, ?_⟩
        · have hc : evalC st.env seekCond = .ok true := by simp [seekCond, h0, h1, hm]
          rw [whileLoop]
          simp only [hc, hbody, hl]
          simp [seekAux, hm, seekAux_shift]
        · rw [hrd]
          simp only [seekAux, hm, if_false, seekAux_shift, st1, e2]
          rw [stepBytes_stepBytes, Nat.add_comm]

/-- `seek_until`, interpreted, is the model's `seekUntil`: same result, same reader, same read counters. -/
theorem runSeek_expected (tag : Bytes) (r : Reader) : runSeek Expected.seekUntil tag r = KdVerif.seekUntil tag r := by
  rw [seekUntil_eq]
  let st1 : St Unit :=
    ⟨(Env.empty.set 0 (.bytes tag)).set 1 (.bytes (r.read tag.length).1), (r.read tag.length).2, Tables.empty, Tables.empty, {}, []⟩
  obtain ⟨st', hl, hrd⟩ := seek_loop tag (r.read tag.length).2.rest (loopFuel st1) (r.read tag.length).1 st1 rfl
    (by simp [loopFuel, st1]) (by simp [st1]) (by simp [st1])
  have hexec : exec leafParams Expected.seekUntil.body ⟨Env.empty.set 0 (.bytes tag), r, Tables.empty, Tables.empty, {}, []⟩ =
      ((if (seekAux tag (r.read tag.length).2.rest (r.read tag.length).1 0).1 then Signal.normal else Signal.err .eof), st') := by
    simp [Expected.seekUntil, evalI]
    exact hl
  rw [runSeek, if_neg (fun h => h rfl), hexec]
  cases hb : (seekAux tag (r.read tag.length).2.rest (r.read tag.length).1 0).1
  · simp only [hb, Bool.false_eq_true, if_false] at hrd ⊢
    rw [hrd]
  · simp only [hb, if_true] at hrd ⊢
    rw [hrd]

theorem storeAll_expected (t : Tables) (e : ThreadEntry) :
    storeAll t e [(.threadsPids, .tid, .pid), (.pidsNames, .pid, .process)] = .ok (t.add e) := by
  simp [storeAll, storeOne, natField, Tables.add]

theorem forThreads_expected : ∀ (l : List ThreadEntry) (t : Tables),
    forThreads [(.threadsPids, .tid, .pid), (.pidsNames, .pid, .process)] t l = .ok (l.foldl Tables.add t)
  | [], t => rfl
  | e :: es, t => by
    rw [forThreads, storeAll_expected]
    exact forThreads_expected es (t.add e)

/-- `set_thread_map`, interpreted, is the model's `setThreadMap` (clear both tables, then fill in order). -/
theorem execTm_expected (l : List ThreadEntry) (t : Tables) :
    execTm l Expected.setThreadMap t = .ok (KdVerif.setThreadMap t l) := by
  simp only [Expected.setThreadMap, execTm, forThreads_expected, KdVerif.setThreadMap]
  rfl

theorem params_seek {ε : Type} (dec : Bytes → Except PyErr ε) (plist : Bytes → Option PView) :
    (Expected.prog.params dec plist).seek = KdVerif.seekUntil := by
  funext tag r
  exact runSeek_expected tag r

theorem params_setTm {ε : Type} (dec : Bytes → Except PyErr ε) (plist : Bytes → Option PView) :
    (Expected.prog.params dec plist).setTm = KdVerif.setThreadMap := by
  funext t l
  simp [Program.params, Expected.prog, execTm_expected]

theorem find_versions (v : Bytes) :
    (List.find? (fun kv : BConst × Method => kv.1.val == v) [(.v2, .parseV2), (.v3, .parseV3)]).map (·.2) =
      if v = Gen.Consts.RAW_VERSION2_BYTES then some Method.parseV2
      else if v = Gen.Consts.RAW_VERSION3_BYTES then some Method.parseV3 else none := by
  by_cases h2 : v = Gen.Consts.RAW_VERSION2_BYTES
  · subst h2; simp [List.find?, BConst.val]
  · have b2 : (Gen.Consts.RAW_VERSION2_BYTES == v) = false := by
      rw [beq_eq_false_iff_ne]; exact fun e => h2 e.symm
    by_cases h3 : v = Gen.Consts.RAW_VERSION3_BYTES
    · subst h3; simp [List.find?, BConst.val, b2, h2]
    · have b3 : (Gen.Consts.RAW_VERSION3_BYTES == v) = false := by
        rw [beq_eq_false_iff_ne]; exact fun e => h3 e.symm
      simp [List.find?, BConst.val, b2, b3, h2, h3]

theorem runDispatch_expected (data : Bytes) :
    runDispatch Expected.parse data =
      .ok ((if ((Reader.ofBytes data).read Gen.Consts.RAW_VERSION_SIZE).1 = Gen.Consts.RAW_VERSION2_BYTES then some Method.parseV2
            else if ((Reader.ofBytes data).read Gen.Consts.RAW_VERSION_SIZE).1 = Gen.Consts.RAW_VERSION3_BYTES then some Method.parseV3
            else none),
           ((Reader.ofBytes data).read Gen.Consts.RAW_VERSION_SIZE).2) := by
  simp only [runDispatch, Expected.parse, evalI, IConst.val]
  rw [find_versions]

def sigOf : Option PyErr → Signal
  | none => .normal
  | some e => .err e

theorem record_loop {ε : Type} (P : Params ε) : ∀ (g f : Nat) (st : St ε), g ≤ f →
    (recordLoop P.dec g st.rd).2.1 ≠ some .hang →
    ∃ st', whileLoop (fun s => evalC s.env .tt) (fun s => exec P recordBody s) f st =
        (sigOf (recordLoop P.dec g st.rd).2.1, st') ∧
      st'.rd = (recordLoop P.dec g st.rd).2.2 ∧ st'.outs = st.outs ++ (recordLoop P.dec g st.rd).1.map .ev ∧
      st'.tables = st.tables ∧ st'.tmTables = st.tmTables ∧ st'.md = st.md
  | 0, f, st, _, h => by simp [recordLoop] at h
  | g + 1, f, st, hgf, h => by
    obtain ⟨f', rfl⟩ : ∃ f', f = f' + 1 := ⟨f - 1, by omega⟩
    have hk : evalI st.env (.const .keventSize) = .ok 64 := rfl
    by_cases hp : (st.rd.read 64).1 = []
    · refine ⟨{ st with rd := (st.rd.read 64).2, env := st.env.set 1 (.bytes (st.rd.read 64).1) }, ?_, ?_⟩
      · simp [-read_fst, whileLoop, recordBody, hk, hp, decide_true, recordLoop, sigOf]
      · simp only [recordLoop, hp, if_true, List.map_nil, List.append_nil, and_self]
    · cases hd : P.dec (st.rd.read 64).1 with
      | error e =>
        refine ⟨{ st with rd := (st.rd.read 64).2, env := st.env.set 1 (.bytes (st.rd.read 64).1) }, ?_, ?_⟩
        · simp [-read_fst, whileLoop, recordBody, hk, hp, decide_false, recordLoop, hd, sigOf]
        · simp only [recordLoop, hp, if_false, hd, List.map_nil, List.append_nil, and_self]
      | ok ev =>
        let st2 : St ε :=
          { st with rd := (st.rd.read 64).2, env := st.env.set 1 (.bytes (st.rd.read 64).1), outs := st.outs ++ [.ev ev] }
        have hbody : exec P recordBody st = (.normal, st2) := by
          simp [-read_fst, recordBody, hk, hp, decide_false, hd, st2]
        simp only [recordLoop, hp, if_false, hd] at h ⊢
        obtain ⟨st', hl, h1, h2, h3, h4, h5⟩ := record_loop P g f' st2 (by omega) h
        refine ⟨st', ?_, h1, ?_, h3, h4, h5⟩
        · rw [whileLoop]
          simp only [evalC, hbody]
          exact hl
        · rw [h2]; simp [st2]

theorem filterMap_ev_comp {ε : Type} (l : List ε) : l.filterMap (Out.ev? ∘ (Out.ev : ε → Out ε)) = l := by
  rw [← List.filterMap_map]; exact filterMap_ev l

/-- `parse_v2`, interpreted, is the model's `parseV2`: same events, same final exception, same tables, same reader
    (position and read counters) — for every reader state and every record decoder that rejects short records. -/
theorem runGen_parseV2 {ε : Type} (dec : Bytes → Except PyErr ε) (plist : Bytes → Option PView)
    (hdec : RejectsShort dec) (hnh : NoHangDec dec) (prior : Tables) (hdr : Option (List Nat × Bytes)) (r : Reader)
    (g : Good r) :
    let x := runGen (Expected.prog.params dec plist) Expected.parseV2 prior hdr r
    let y := KdVerif.parseV2 dec prior r
    x.events = y.events ∧ x.err = y.err ∧ x.tables = y.tables ∧ x.rd = y.rd ∧ x.hdr = hdr := by
  dsimp only
  have hnohang := (parseV2_final dec hdec hnh prior r g).2.2
  cases hh : headerV2 r with
  | mk res r1 =>
  cases res with
  | error e =>
    simp [runGen, runFrom, St.init, Expected.parseV2, hh, errOf, Run3.events, KdVerif.parseV2]
  | ok h =>
    let st1 : St ε :=
      ⟨Env.empty.set 0 (.tmap h.threadmap), r1, KdVerif.setThreadMap prior h.threadmap,
        KdVerif.setThreadMap prior h.threadmap, { header := hdr }, []⟩
    simp only [KdVerif.parseV2, hh] at hnohang
    obtain ⟨st', hl, h1, h2, h3, h4, h5⟩ := record_loop (Expected.prog.params dec plist) (r1.rest.length / 64 + 2)
      (loopFuel st1) st1 (by simp only [loopFuel, st1]; omega) hnohang
    simp only [show (Expected.prog.params dec plist).dec = dec from rfl] at hl h1 h2
    have hexec : exec (Expected.prog.params dec plist) Expected.parseV2 (St.init ⟨prior, { header := hdr }⟩ r) =
        (sigOf (recordLoop dec (r1.rest.length / 64 + 2) r1).2.1, st') := by
      simp [Expected.parseV2, St.init, hh, params_setTm]
      exact hl
    simp only [runGen, runFrom, hexec, KdVerif.parseV2, hh, Run3.events]
    cases hq : (recordLoop dec (r1.rest.length / 64 + 2) r1).2.1 with
    | none | some e => simp [sigOf, errOf, h1, h2, h3, h5, st1, filterMap_ev_comp]

theorem exec_seq_normal {ε : Type} (P : Params ε) (a b : Stmt) (st st1 : St ε) (h : exec P a st = (.normal, st1)) :
    exec P (.seq a b) st = exec P b st1 := by
  rw [exec, h]

theorem exec_seq_err {ε : Type} (P : Params ε) (a b : Stmt) (st st1 : St ε) (e : PyErr)
    (h : exec P a st = (.err e, st1)) : exec P (.seq a b) st = (.err e, st1) := by
  rw [exec, h]

/-- the body of `for _ in range(size // KEVENT_SIZE)` -/
def recBody : Stmt := .seq (.read 2 (.const .keventSize)) (.yieldKd (.var 2))

theorem records_n {ε : Type} (P : Params ε) : ∀ (n : Nat) (st : St ε),
    ∃ st', forLoop (fun s => exec P recBody s) n st = (sigOf (recordsN P.dec n st.rd).2.1, st') ∧
      st'.rd = (recordsN P.dec n st.rd).2.2 ∧ st'.outs = st.outs ++ (recordsN P.dec n st.rd).1.map .ev ∧
      st'.tables = st.tables ∧ st'.tmTables = st.tmTables ∧ st'.md = st.md
  | 0, st => ⟨st, by simp [forLoop, recordsN, sigOf]⟩
  | n + 1, st => by
    have hk : evalI st.env (.const .keventSize) = .ok Gen.Consts.keventSize := rfl
    cases hd : P.dec (st.rd.read Gen.Consts.keventSize).1 with
    | error e =>
      simp only [recordsN, hd]
      refine ⟨{ st with rd := (st.rd.read Gen.Consts.keventSize).2,
                        env := st.env.set 2 (.bytes (st.rd.read Gen.Consts.keventSize).1) }, ?_, rfl, ?_, rfl, rfl, rfl⟩
      · simp [-read_fst, forLoop, recBody, hk, hd, sigOf]
      · simp only [List.map_nil, List.append_nil]
    | ok ev =>
      simp only [recordsN, hd]
      let st2 : St ε :=
        { st with rd := (st.rd.read Gen.Consts.keventSize).2,
                  env := st.env.set 2 (.bytes (st.rd.read Gen.Consts.keventSize).1), outs := st.outs ++ [.ev ev] }
      have hbody : exec P recBody st = (.normal, st2) := by
        simp [-read_fst, recBody, hk, hd, st2]
      obtain ⟨st', hl, h1, h2, h3, h4, h5⟩ := records_n P n st2
      refine ⟨st', ?_, h1, ?_, h3, h4, h5⟩
      · rw [forLoop]; simp only [hbody]; exact hl
      · rw [h2]; simp [st2]

theorem chunk_loop {ε : Type} (P : Params ε) (hseek : P.seek = KdVerif.seekUntil) :
    ∀ (g f : Nat) (st : St ε), g ≤ f → (chunkLoop P.dec g st.rd).2.1 ≠ some .hang →
    ∃ st', whileLoop (fun s => evalC s.env .tt) (fun s => exec P chunkBody s) f st =
        (sigOf (chunkLoop P.dec g st.rd).2.1, st') ∧
      st'.rd = (chunkLoop P.dec g st.rd).2.2 ∧ st'.outs = st.outs ++ (chunkLoop P.dec g st.rd).1.map .ev ∧
      st'.tables = st.tables ∧ st'.tmTables = st.tmTables ∧ st'.md = st.md
  | 0, f, st, _, h => by simp [chunkLoop] at h
  | g + 1, f, st, hgf, h => by
    obtain ⟨f', rfl⟩ : ∃ f', f = f' + 1 := ⟨f - 1, by omega⟩
    have h64 : Gen.Consts.keventSize = 64 := rfl
    rw [chunkLoop, h64] at h ⊢
    cases hs : KdVerif.seekUntil Gen.Consts.TRACEV3_EVENTS_TAG st.rd with
    | mk res1 r1 =>
    rw [hs] at h
    cases res1 with
    | error e =>
      refine ⟨{ st with rd := r1 }, ?_, rfl, by simp, rfl, rfl, rfl⟩
      simp [whileLoop, chunkBody, BConst.val, hseek, hs, sigOf]
    | ok u =>
      dsimp only at h ⊢
      cases hi : int64ul r1 with
      | mk res2 r2 =>
      rw [hi] at h
      cases res2 with
      | error e =>
        refine ⟨{ st with rd := r2 }, ?_, rfl, by simp, rfl, rfl, rfl⟩
        simp [whileLoop, chunkBody, BConst.val, hseek, hs, hi, sigOf]
      | ok size =>
        dsimp only at h ⊢
        obtain ⟨st4, hl, r4, o4, t4, m4, d4⟩ := records_n P (size / 64)
          { st with rd := (r2.read 8).2, env := st.env.set 1 (.int size) }
        dsimp only at hl r4 o4
        have h4 : exec P chunkRecords { st with rd := (r2.read 8).2, env := st.env.set 1 (.int size) } =
            (sigOf (recordsN P.dec (size / 64) (r2.read 8).2).2.1, st4) := by
          have hn : evalI (st.env.set 1 (.int size)) (.div (.var 1) (.const .keventSize)) = .ok (size / 64) := by
            simp [evalI, IConst.val, h64]
          rw [chunkRecords, exec, hn]
          exact hl
        cases hq : (recordsN P.dec (size / 64) (r2.read 8).2).2.1 with
        | some e =>
          rw [hq] at h4
          refine ⟨st4, ?_, r4, o4, t4, m4, d4⟩
          simp [whileLoop, chunkBody, evalI, BConst.val, hseek, hs, hi, h4, sigOf]
        | none =>
          rw [hq] at h4 h
          dsimp only at h ⊢
          rw [← r4] at h ⊢
          let st5 : St ε :=
            { st4 with rd := (st4.rd.read Gen.Consts.TRACEV3_MORE_EVENTS.length).2,
                       env := st4.env.set 3 (.bytes (st4.rd.read Gen.Consts.TRACEV3_MORE_EVENTS.length).1) }
          have hb : exec P chunkBody st =
              ((if (st4.rd.read Gen.Consts.TRACEV3_MORE_EVENTS.length).1 = Gen.Consts.TRACEV3_MORE_EVENTS
                then Signal.normal else Signal.brk), st5) := by
            by_cases hm : (st4.rd.read Gen.Consts.TRACEV3_MORE_EVENTS.length).1 = Gen.Consts.TRACEV3_MORE_EVENTS <;>
              simp [-read_fst, chunkBody, evalI, BConst.val, hseek, hs, hi, h4, sigOf, hm, st5]
          rw [whileLoop]
          simp only [evalC, hb]
          by_cases hm : (st4.rd.read Gen.Consts.TRACEV3_MORE_EVENTS.length).1 = Gen.Consts.TRACEV3_MORE_EVENTS
          · simp only [if_pos hm] at h ⊢
            obtain ⟨st', hl', k1, k2, k3, k4, k5⟩ := chunk_loop P hseek g f' st5 (by omega) h
            refine ⟨st', hl', k1, ?_, k3.trans t4, k4.trans m4, k5.trans d4⟩
            rw [k2, show st5.outs = st4.outs from rfl, o4, List.append_assoc, List.map_append]
          · simp only [if_neg hm]
            exact ⟨st5, rfl, rfl, o4, t4, m4, d4⟩

/-- the parts of the state the block loop leaves alone -/
def SameIO {ε : Type} (a b : St ε) : Prop :=
  b.rd = a.rd ∧ b.tables = a.tables ∧ b.tmTables = a.tmTables ∧ b.outs = a.outs

theorem exec_tag_ite {ε : Type} (P : Params ε) (c : BConst) (t e : Stmt) (st : St ε) (b : Bytes × Bytes)
    (h : st.env 7 = some (.block b)) :
    exec P (.ite (.eq (.blockTag 7) (.const c)) t e) st = if b.1 = c.val then exec P t st else exec P e st := by
  by_cases hc : b.1 = c.val
  · simp [h, hc, decide_true]
  · simp [h, hc, decide_false]

theorem evalP_loads {ε : Type} (P : Params ε) (st : St ε) (b : Bytes × Bytes) (h : st.env 7 = some (.block b)) :
    evalP P.plist st.env (.loads (.blockData 7)) =
      match P.plist b.2 with | some v => .ok (b.2, v) | none => .error .valueError := by
  cases hp : P.plist b.2 <;> simp only [evalP, evalB, h, hp]

/-- what `block_body` says about one branch -/
def BlockStep {ε : Type} (st : St ε) (x : Signal × St ε) : Except PyErr BlockState → Prop
  | .error e => ∃ st', x = (.err e, st') ∧ st'.md = st.md ∧ SameIO st st'
  | .ok s' => ∃ st', x = (.normal, st') ∧ st'.md = s'.md ∧
      st'.env 5 = some (.events s'.logEvents) ∧ st'.env 6 = some (.strings s'.logStrings) ∧ SameIO st st'

section branches
variable {ε : Type} (P : Params ε) (s : BlockState) (b : Bytes × Bytes) (st : St ε)
  (h7 : st.env 7 = some (.block b)) (hm : st.md = s.md)
  (h5 : st.env 5 = some (.events s.logEvents)) (h6 : st.env 6 = some (.strings s.logStrings))
include h7 hm h5 h6

theorem branch_dyld :
    BlockStep st
      (exec P (.seq (.assignP 8 (.loads (.blockData 7)))
        (.iteAttrEmpty .dyldModules (.attrUpdate .dyldModules (.var 8)) (.binExtend .dyldModules (.var 8)))) st)
      (match P.plist b.2 with
        | none => .error .valueError
        | some v =>
          if s.md.dyldEmpty then
            .ok { s with md := { s.md with dyldBase := some v.others, dyldEmpty := v.isEmpty, dyldBin := v.binaries } }
          else
            match s.md.dyldBin, v.binaries with
            | some l, some l2 => .ok { s with md := { s.md with dyldBin := some (l ++ l2) } }
            | _, _ => .error .keyError) := by
  have hl := evalP_loads P st b h7
  cases hp : P.plist b.2 with
  | none =>
    refine ⟨st, ?_, rfl, rfl, rfl, rfl, rfl⟩
    simp [hl, hp]
  | some v =>
    simp [hl, hp, metaIsEmpty, hm]
    cases hd : s.md.dyldEmpty with
    | true =>
      simp only [evalP, Env.set, if_true, metaStep, metaUpdate, hd]
      exact ⟨_, rfl, rfl, by simp [h5], by simp [h6], rfl, rfl, rfl, rfl⟩
    | false =>
      simp only [evalP, Env.set, if_true, metaBinExtend, Bool.false_eq_true, if_false]
      cases h1 : s.md.dyldBin with
      | none => exact ⟨_, rfl, by simp [hm], rfl, rfl, rfl, rfl⟩
      | some l =>
        cases h2 : v.binaries with
        | none => exact ⟨_, rfl, by simp [hm], rfl, rfl, rfl, rfl⟩
        | some l2 =>
          exact ⟨_, rfl, by simp [hd], by simp [h5], by simp [h6], rfl, rfl, rfl, rfl⟩

theorem branch_codes :
    BlockStep st (exec P (.strAppendDecoded .traceCodes (.blockData 7)) st)
      (if validUtf8 b.2 then .ok { s with md := { s.md with traceCodes := s.md.traceCodes ++ b.2 } }
       else .error .unicodeError) := by
  simp [h7, metaAppendDecoded, hm]
  cases hv : validUtf8 b.2 with
  | true => exact ⟨_, rfl, rfl, h5, h6, rfl, rfl, rfl, rfl⟩
  | false => exact ⟨_, rfl, rfl, rfl, rfl, rfl, rfl⟩

theorem branch_setP (a : Attr) (f : V3Meta → Bytes → V3Meta)
    (ha : ∀ m q, metaSetP m q a = .ok (f m q.1)) :
    BlockStep st (exec P (.setAttrP a (.loads (.blockData 7))) st)
      (match P.plist b.2 with
        | none => .error .valueError
        | some _ => .ok { s with md := f s.md b.2 }) := by
  have hl := evalP_loads P st b h7
  simp [hl, ha, hm]
  cases hp : P.plist b.2 with
  | none => exact ⟨_, rfl, rfl, rfl, rfl, rfl, rfl⟩
  | some v => exact ⟨_, rfl, rfl, h5, h6, rfl, rfl, rfl, rfl⟩

theorem branch_kexts :
    BlockStep st (exec P (.binExtend .kernelExtensions (.loads (.blockData 7))) st)
      (match P.plist b.2 with
        | none => .error .valueError
        | some v =>
          match v.binaries with
          | none => .error .keyError
          | some l => .ok { s with md := { s.md with kexts := s.md.kexts ++ l } }) := by
  have hl := evalP_loads P st b h7
  simp [hl, metaBinExtend, hm]
  cases hp : P.plist b.2 with
  | none => exact ⟨_, rfl, rfl, rfl, rfl, rfl, rfl⟩
  | some v =>
    dsimp only
    cases h2 : v.binaries with
    | none => exact ⟨_, rfl, rfl, rfl, rfl, rfl, rfl⟩
    | some l2 => exact ⟨_, rfl, rfl, h5, h6, rfl, rfl, rfl, rfl⟩

theorem branch_events :
    BlockStep st (exec P (.eventsExtend 5 (.loads (.blockData 7))) st)
      (match P.plist b.2 with
        | none => .error .valueError
        | some v =>
          match v.events with
          | none => .error .keyError
          | some l => .ok { s with logEvents := s.logEvents ++ l }) := by
  have hl := evalP_loads P st b h7
  simp [hl, h5]
  cases hp : P.plist b.2 with
  | none => exact ⟨_, rfl, rfl, rfl, rfl, rfl, rfl⟩
  | some v =>
    dsimp only
    cases h2 : v.events with
    | none => exact ⟨_, rfl, rfl, rfl, rfl, rfl, rfl⟩
    | some l2 => exact ⟨_, rfl, hm, by simp, by simp [h6], rfl, rfl, rfl, rfl⟩

omit h6 in
theorem branch_strings :
    BlockStep st (exec P (.assignInvIndex 6 (.loads (.blockData 7))) st)
      (match P.plist b.2 with
        | none => .error .valueError
        | some v =>
          match v.stringIndex with
          | none => .error .keyError
          | some items => .ok { s with logStrings := invertIndex items }) := by
  have hl := evalP_loads P st b h7
  simp [hl]
  cases hp : P.plist b.2 with
  | none => exact ⟨_, rfl, rfl, rfl, rfl, rfl, rfl⟩
  | some v =>
    dsimp only
    cases h2 : v.stringIndex with
    | none => exact ⟨_, rfl, rfl, rfl, rfl, rfl, rfl⟩
    | some items => exact ⟨_, rfl, hm, by simp [h5], by simp, rfl, rfl, rfl, rfl⟩

omit h7 hm h5 h6 in
theorem blockStep_ite {c : Prop} [Decidable c] {x y : Signal × St ε} {a a' : Except PyErr BlockState}
    (h1 : c → BlockStep st x a) (h2 : ¬c → BlockStep st y a') :
    BlockStep st (if c then x else y) (if c then a else a') := by
  by_cases h : c
  · rw [if_pos h, if_pos h]; exact h1 h
  · rw [if_neg h, if_neg h]; exact h2 h

/-- one block: the `if / elif` chain on `block.tag` is `dispatchBlock` -/
theorem block_body : BlockStep st (exec P blockBody st) (dispatchBlock P.plist s b) := by
  unfold dispatchBlock
  rw [blockBody, exec_tag_ite P _ _ _ st b h7]
  refine blockStep_ite st (fun _ => branch_dyld P s b st h7 hm h5 h6) (fun _ => ?_)
  rw [exec_tag_ite P _ _ _ st b h7]
  refine blockStep_ite st (fun _ => branch_codes P s b st h7 hm h5 h6) (fun _ => ?_)
  rw [exec_tag_ite P _ _ _ st b h7]
  refine blockStep_ite st (fun _ => branch_setP P s b st h7 hm h5 h6 .processes
    (fun m q => { m with processes := some q }) (fun _ _ => rfl)) (fun _ => ?_)
  rw [exec_tag_ite P _ _ _ st b h7]
  refine blockStep_ite st (fun _ => branch_kexts P s b st h7 hm h5 h6) (fun _ => ?_)
  rw [exec_tag_ite P _ _ _ st b h7]
  refine blockStep_ite st (fun _ => branch_setP P s b st h7 hm h5 h6 .images
    (fun m q => { m with images := some q }) (fun _ _ => rfl)) (fun _ => ?_)
  rw [exec_tag_ite P _ _ _ st b h7]
  refine blockStep_ite st (fun _ => branch_events P s b st h7 hm h5 h6) (fun _ => ?_)
  rw [exec_tag_ite P _ _ _ st b h7]
  refine blockStep_ite st (fun _ => branch_strings P s b st h7 hm h5) (fun _ => ?_)
  exact ⟨st, rfl, hm, h5, h6, rfl, rfl, rfl, rfl⟩

end branches

theorem blocks_loop {ε : Type} (P : Params ε) : ∀ (bs : List (Bytes × Bytes)) (s : BlockState) (st : St ε),
    st.md = s.md → st.env 5 = some (.events s.logEvents) → st.env 6 = some (.strings s.logStrings) →
    ∃ st', forEach (fun a s => exec P blockBody { s with env := s.env.set 7 a }) (bs.map Val.block) st =
        (sigOf (dispatchBlocks P.plist s bs).2, st') ∧
      st'.md = (dispatchBlocks P.plist s bs).1.md ∧ SameIO st st' ∧
      ((dispatchBlocks P.plist s bs).2 = none →
        st'.env 5 = some (.events (dispatchBlocks P.plist s bs).1.logEvents) ∧
        st'.env 6 = some (.strings (dispatchBlocks P.plist s bs).1.logStrings))
  | [], s, st, hm, h5, h6 => ⟨st, rfl, hm, ⟨rfl, rfl, rfl, rfl⟩, fun _ => ⟨h5, h6⟩⟩
  | b :: bs, s, st, hm, h5, h6 => by
    have hb := block_body P s b { st with env := st.env.set 7 (.block b) } (by simp) hm
      (by simp [h5]) (by simp [h6])
    rw [dispatchBlocks]
    cases hd : dispatchBlock P.plist s b with
    | error e =>
      rw [hd] at hb
      obtain ⟨st', he, k1, k2⟩ := hb
      refine ⟨st', ?_, by rw [k1]; exact hm, k2, fun h => by simp at h⟩
      simp only [List.map_cons, forEach, he, sigOf]
    | ok s' =>
      rw [hd] at hb
      obtain ⟨st1, he, k1, k5, k6, k2⟩ := hb
      obtain ⟨st', hl, j1, j2, j3⟩ := blocks_loop P bs s' st1 k1 k5 k6
      refine ⟨st', ?_, j1, ?_, j3⟩
      · simp only [List.map_cons, forEach, he]; exact hl
      · obtain ⟨a1, a2, a3, a4⟩ := k2
        obtain ⟨b1, b2, b3, b4⟩ := j2
        exact ⟨by rw [b1, a1], by rw [b2, a2], by rw [b3, a3], by rw [b4, a4]⟩

theorem log_loop {ε : Type} (P : Params ε) (strings : List (Nat × Bytes)) : ∀ (es : List RawLog) (i : Nat) (st : St ε),
    st.env 6 = some (.strings strings) →
    ∃ st', forEach (fun a s => exec P logBody { s with env := s.env.set 9 a })
          ((es.zipIdx i).map fun p => Val.rawLog p.2 p.1) st =
        (sigOf (logLoop strings i st.tables es).2.1, st') ∧
      st'.outs = st.outs ++ (logLoop strings i st.tables es).1.map .log ∧
      st'.tables = (logLoop strings i st.tables es).2.2 ∧
      st'.rd = st.rd ∧ st'.tmTables = st.tmTables ∧ st'.md = st.md
  | [], i, st, _ => ⟨st, rfl, by simp [logLoop], rfl, rfl, rfl, rfl⟩
  | e :: es, i, st, h6 => by
    rw [logLoop]
    cases hf : KdVerif.fromRawLog strings i e with
    | error err =>
      refine ⟨{ st with env := st.env.set 9 (.rawLog i e) }, ?_, by simp, rfl, rfl, rfl, rfl⟩
      simp [List.zipIdx_cons, forEach, logBody, h6, hf, sigOf]
    | ok lo =>
      dsimp only
      let env10 : Env := (st.env.set 9 (.rawLog i e)).set 10 (.logOut lo)
      let t' : Tables := if lo.process ≠ [] ∧ lo.tid ≠ 0 then st.tables.add ⟨lo.tid, lo.pid, lo.process⟩ else st.tables
      let st2 : St ε := { st with env := env10, tables := t', outs := st.outs ++ [.log lo] }
      have hbody : exec P logBody { st with env := st.env.set 9 (.rawLog i e) } = (.normal, st2) := by
        by_cases hp : lo.process = [] <;> by_cases ht : lo.tid = 0 <;>
          simp [logBody, h6, hf, hp, ht, st2, env10, t', storeOne, natField, Tables.add]
      obtain ⟨st', hl, k1, k2, k3, k4, k5⟩ := log_loop P strings es (i + 1) st2 (by simp [st2, env10, h6])
      refine ⟨st', ?_, ?_, k2, by rw [k3], by rw [k4], by rw [k5]⟩
      · simp only [List.zipIdx_cons, List.map_cons, forEach, hbody]; exact hl
      · rw [k1]; simp [st2, t']

theorem exec_resets {ε : Type} (P : Params ε) (k : Stmt) (st : St ε) :
    exec P (v3Resets k) st =
      exec P k { st with md := st.md.reset, env := (st.env.set 5 (.events [])).set 6 (.strings []) } := by
  simp [v3Resets, metaInit, metaStep]
  rfl

/-- **the tail of `parse_v3`, interpreted, is the model's `tailV3`** — from any state behind the chunk loop (any reader,
    tables, parser attributes, local variables) that has yielded the records `evs`. -/
theorem tail_exec {ε : Type} (P : Params ε) (evs : List ε) (st : St ε) (ho : st.outs = evs.map .ev)
    (ht : st.tmTables = st.tables) :
    runFrom P v3Tail st = tailV3 P.plist evs st.tables st.md st.rd := by
  unfold tailV3
  dsimp only
  cases hg : greedyRange blockElem ((st.rd.seekTo (st.rd.pos - 8)).rest.length / 16 + 2) (st.rd.seekTo (st.rd.pos - 8)) with
  | mk res r2 =>
  cases res with
  | error e => simp [runFrom, v3Tail, hg, errOf, ho, ht]
  | ok blocks =>
    dsimp only
    let st3 : St ε :=
      { st with rd := r2, md := st.md.reset
                env := ((st.env.set 4 (.blocks blocks)).set 5 (.events [])).set 6 (.strings []) }
    have hrun : exec P v3Tail st = exec P (.seq (.forIn 7 4 blockBody) (.forIn 9 5 logBody)) st3 := by
      simp [v3Tail, exec_resets, hg, st3]
    obtain ⟨st4, hl, m4, ⟨r4, t4, tm4, o4⟩, env4⟩ := blocks_loop P blocks ⟨st.md.reset, [], []⟩ st3 rfl
      (by simp [st3]) (by simp [st3])
    have e3 : exec P (.forIn 7 4 blockBody) st3 = (sigOf (dispatchBlocks P.plist ⟨st.md.reset, [], []⟩ blocks).2, st4) := by
      have : (st3.env 4).bind itemsOf = some (blocks.map Val.block) := by simp [st3, itemsOf]
      simp [this]
      exact hl
    unfold tailOfBlocks
    cases hd : dispatchBlocks P.plist ⟨st.md.reset, [], []⟩ blocks with
    | mk s oe =>
    rw [hd] at e3 m4 env4
    cases oe with
    | some e =>
      have hx := hrun.trans (exec_seq_err _ _ _ _ _ _ e3)
      simp only [runFrom, hx, errOf, m4, r4, t4, tm4, o4, st3, ho, ht]
    | none =>
      dsimp only
      obtain ⟨h5, h6⟩ := env4 rfl
      obtain ⟨st5, hl5, o5, t5, r5, tm5, m5⟩ := log_loop P s.logStrings s.logEvents 0 st4 h6
      have e4 : exec P (.forIn 9 5 logBody) st4 = (sigOf (logLoop s.logStrings 0 st4.tables s.logEvents).2.1, st5) := by
        have : (st4.env 5).bind itemsOf = some ((s.logEvents.zipIdx 0).map fun p => Val.rawLog p.2 p.1) := by
          simp [h5, itemsOf]
        simp [this]
        exact hl5
      have hx := hrun.trans ((exec_seq_normal _ _ _ _ _ e3).trans e4)
      rw [t4] at hx o5 t5
      have ht3 : st3.tables = st.tables := rfl
      rw [ht3] at hx o5 t5
      cases hq : (logLoop s.logStrings 0 st.tables s.logEvents).2.1 with
      | none | some e =>
        rw [hq] at hx
        simp only [runFrom, hx, sigOf, errOf, o5, t5, r5, tm5, m5, m4, r4, tm4, o4, st3, ho, ht]

/-- the statements of `parse_v3` behind the header, as one sequence -/
def v3AfterHeader : Stmt :=
  .seq (.readDrop (.sub (.lit 8) (.const .rawVersionSize)))
    (.seq (.callSeek (.const .stackshotEnd))
      (.seq (.callSeek (.const .threadmapTag))
        (.seq (.prim .threadmapV3 0)
          (.seq (.setThreadMap 0)
            (.seq (.while .tt chunkBody) v3Tail)))))

theorem parseV3_eq : Expected.parseV3 = .seq (.prim .headerV3 0) v3AfterHeader := rfl

/-- the four statements from `reader.read(8 - RAW_VERSION_SIZE)` to `kd_v3_threadmap.parse_stream(reader)` are the
    model's `threadmapV3` -/
theorem exec_threadmap {ε : Type} (P : Params ε) (hseek : P.seek = KdVerif.seekUntil) (k : Stmt) (st : St ε) :
    exec P (.seq (.readDrop (.sub (.lit 8) (.const .rawVersionSize)))
        (.seq (.callSeek (.const .stackshotEnd)) (.seq (.callSeek (.const .threadmapTag)) (.seq (.prim .threadmapV3 0) k)))) st =
      match threadmapV3 st.rd with
      | (.error e, r) => (.err e, { st with rd := r })
      | (.ok tm, r) => exec P k { st with rd := r, env := st.env.set 0 (.tmap tm) } := by
  have h0 : readPlain (8 - Gen.Consts.RAW_VERSION_SIZE) st.rd = (.ok (st.rd.read 4).1, (st.rd.read 4).2) := rfl
  rw [threadmapV3, RM.bind_ok h0]
  cases ha : KdVerif.seekUntil Gen.Consts.TRACEV3_STACKSHOT_END (st.rd.read 4).2 with
  | mk resa ra =>
  cases resa with
  | error e => simp [RM.bind_err ha, evalI, BConst.val, IConst.val, hseek, Gen.Consts.RAW_VERSION_SIZE, ha]
  | ok ua =>
    rw [RM.bind_ok ha]
    cases hb : KdVerif.seekUntil Gen.Consts.TRACEV3_THREADMAP_TAG ra with
    | mk resb rb =>
    cases resb with
    | error e => simp [RM.bind_err hb, evalI, BConst.val, IConst.val, hseek, Gen.Consts.RAW_VERSION_SIZE, ha, hb]
    | ok ub =>
      rw [RM.bind_ok hb]
      cases hc : prefixedBytes rb with
      | mk resc rc =>
      cases resc with
      | error e =>
        simp [RM.bind_err hc, evalI, BConst.val, IConst.val, hseek, Gen.Consts.RAW_VERSION_SIZE, ha, hb, hc]
      | ok p =>
        simp [RM.bind_ok hc, evalI, BConst.val, IConst.val, hseek, Gen.Consts.RAW_VERSION_SIZE, ha, hb, hc]

/-- **the WHOLE `parse_v3`, interpreted, is the model's `parseV3`**: header, realignment read, both scans, thread-map
    chunk, `set_thread_map`, the chunk loop, `reader.seek(-8, 1)`, the additional-data blocks and their dispatch, the log
    loop — for every reader state and every prior parser state. -/
theorem parseV3_via_ir {ε : Type} (plist : Bytes → Option PView) (dec : Bytes → Except PyErr ε)
    (hdec : RejectsShort dec) (hnh : NoHangDec dec) (prior : PState) (r : Reader) (g : Good r) :
    KdVerif.parseV3 plist dec prior r = viaV3 Expected.prog plist dec prior r := by
  have hP : (Expected.prog.params dec plist).plist = plist := rfl
  have hnohang := (parseV3_final plist dec hdec hnh prior r g).2.2
  unfold KdVerif.parseV3 viaV3 runFrom
  rw [show Expected.prog.parseV3 = _ from parseV3_eq]
  cases hh : headerV3 plist r with
  | mk res r1 =>
  cases res with
  | error e => simp [hP, hh, St.init, errOf]
  | ok h =>
    have e1 : exec (Expected.prog.params dec plist) (.prim .headerV3 0) (St.init prior r) =
        (.normal, ⟨Env.empty, r1, prior.tables, prior.tables, { prior.md with header := some h }, []⟩) := by
      simp [hP, hh, St.init]
    rw [exec_seq_normal _ _ _ _ _ e1, v3AfterHeader, exec_threadmap _ (params_seek dec plist)]
    dsimp only
    cases ht : threadmapV3 r1 with
    | mk rest r2 =>
    cases rest with
    | error e => rfl
    | ok tm =>
      dsimp only
      let st6 : St ε :=
        ⟨Env.empty.set 0 (.tmap tm), r2, KdVerif.setThreadMap prior.tables tm, KdVerif.setThreadMap prior.tables tm,
          { prior.md with header := some h }, []⟩
      have e6 : exec (Expected.prog.params dec plist) (.setThreadMap 0)
          ⟨Env.empty.set 0 (.tmap tm), r2, prior.tables, prior.tables, { prior.md with header := some h }, []⟩ =
          (.normal, st6) := by
        simp [st6, params_setTm]
      obtain ⟨st', hl, k1, k2, k3, k4, k5⟩ := chunk_loop (Expected.prog.params dec plist) (params_seek dec plist)
        (r2.rest.length / 16 + 2) (loopFuel st6) st6 (by simp only [loopFuel, st6]; omega)
        (fun hq => by
          simp only [KdVerif.parseV3, hh, ht, show (chunkLoop dec (r2.rest.length / 16 + 2) r2).2.1 = _ from hq] at hnohang
          exact hnohang rfl)
      simp only [show (Expected.prog.params dec plist).dec = dec from rfl] at hl k1 k2
      have hw : exec (Expected.prog.params dec plist) (.while .tt chunkBody) st6 =
          (sigOf (chunkLoop dec (r2.rest.length / 16 + 2) r2).2.1, st') := by
        rw [exec]; exact hl
      rw [exec_seq_normal _ _ _ _ _ e6]
      cases hq : (chunkLoop dec (r2.rest.length / 16 + 2) r2).2.1 with
      | some e =>
        rw [hq] at hw
        rw [exec_seq_err _ _ _ _ _ _ hw]
        simp only [errOf, k1, k2, k3, k4, k5, st6, List.nil_append]
      | none =>
        rw [hq] at hw
        have ht := tail_exec (Expected.prog.params dec plist) (chunkLoop dec (r2.rest.length / 16 + 2) r2).1 st'
          (by rw [k2]; rfl) (by rw [k3, k4])
        simp only [runFrom] at ht
        rw [exec_seq_normal _ _ _ _ _ hw, ht, hP, k1, k3, k5]

/-- **`KdBufParser.parse(reader)`, exhausted, is the interpreted source** (dispatch, `parse_v2` and `parse_v3` entirely,
    `seek_until`, `set_thread_map`) — for every byte string and every prior parser state. -/
theorem parse_eq_parseVia {ε : Type} (plist : Bytes → Option PView) (dec : Bytes → Except PyErr ε)
    (hdec : RejectsShort dec) (hnh : NoHangDec dec) (prior : PState) (data : Bytes) :
    KdVerif.parse plist dec prior data = parseVia Expected.prog plist dec prior data := by
  have g0 : Good (Reader.ofBytes data) := Nat.zero_le _
  have g1 : Good ((Reader.ofBytes data).read Gen.Consts.RAW_VERSION_SIZE).2 :=
    (step_read _ Gen.Consts.RAW_VERSION_SIZE g0).good
  unfold KdVerif.parse parseVia
  have hd : Expected.prog.parse = Expected.parse := rfl
  rw [hd, runDispatch_expected]
  by_cases h2 : ((Reader.ofBytes data).read Gen.Consts.RAW_VERSION_SIZE).1 = Gen.Consts.RAW_VERSION2_BYTES
  · simp only [h2, if_true]
    obtain ⟨a, b, c, d, _⟩ := runGen_parseV2 dec plist hdec hnh prior.tables prior.md.header _ g1
    simp only [viaV2]
    have hp : Expected.prog.parseV2 = Expected.parseV2 := rfl
    rw [hp, a, b, c, d]
  · simp only [h2, if_false]
    by_cases h3 : ((Reader.ofBytes data).read Gen.Consts.RAW_VERSION_SIZE).1 = Gen.Consts.RAW_VERSION3_BYTES
    · simp only [h3, if_true]
      rw [parseV3_via_ir plist dec hdec hnh prior _ g1]
    · simp only [h3, if_false]

end KdVerif.PyIRRd
