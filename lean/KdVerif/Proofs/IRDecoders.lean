import KdVerif.Proofs.IR
import KdVerif.Gen.Decoders
import KdVerif.Gen.Host
/-
  Definitions and non-reflective lemmas shared by the property files that reason about the generated
  decoder table (C09, C10, C18).  No `decide` over the table here: each property file states the
  reflective facts it needs itself (the one that C09 and C10 share is in `IRCallPart`), so that a change
  breaking one property does not break the build of another.
-/
namespace KdVerif.DecoderFacts
open KdVerif.IR

abbrev decoders := Gen.Decoders.decoders

/-- BSD syscalls (BSC_*) and Mach traps (MSC_*) rendered as `name(p0, p1, …)`. -/
def syscallLike (d : Decoder) : Bool := (d.kind == 0 || d.kind == 1) && d.shape.isSome

/-- What a call part may read: START words, nested lookups, host constant tables — not the END record,
    not the context tables. -/
def callSel : Sel := { startAll := true, lookups := true, host := true }

/-- What the parameter at position `k` may read: START word `k` only (plus lookups / host tables). -/
def paramSel (k : Nat) : Sel := { start := [k], lookups := true, host := true }

/-- The four parameters whose *form* is chosen by another argument (the value shown is still word `k`):
    `(decoder key, position, START words read)`.
    set/getsockopt: the option at position 2 is shown by name when the level (word 1) is SOL_SOCKET;
    shm_open/sem_open: the mode (word 2) is shown only when the flags (word 1) contain O_CREAT. -/
def crossArg : List (Nat × Nat × List Nat) :=
  [ (6537532680753076367895112599957620, 2, [1, 2])   -- BSC_setsockopt
  , (6537532680696407970100676857393268, 2, [1, 2])   -- BSC_getsockopt
  , (99754832164812182588115412334, 2, [1, 2])        -- BSC_shm_open
  , (99754832164811338163185280366, 2, [1, 2]) ]      -- BSC_sem_open

def selFor (key k : Nat) : Sel :=
  match crossArg.find? (fun x => x.1 == key && x.2.1 == k) with
  | some x => { start := x.2.2, lookups := true, host := true }
  | none => paramSel k

def paramsOK (fs : List Expr) (key : Nat) : Nat → List (Option Expr × Expr) → Bool
  | _, [] => true
  | k, (c, p) :: rest =>
    within (selFor key k) (subst fs p)
      && (match c with | none => true | some c => within (selFor key k) (subst fs c))
      && paramsOK fs key (k + 1) rest

def callPiecesOf (d : Decoder) (s : Shape) : List Expr := s.callPieces.map (subst d.fields)

def shapeAgrees (d : Decoder) : Bool :=
  match d.shape with | some s => s.agrees d.str | none => true

def callReadsStartOnly (d : Decoder) : Bool :=
  match d.shape with
  | some s => !syscallLike d || (callPiecesOf d s).all (within callSel)
  | none => true

def wellIndexed (d : Decoder) : Bool :=
  match d.shape with
  | some s => !syscallLike d || paramsOK d.fields d.key 0 s.params
  | none => true

def fieldsClosed (d : Decoder) : Bool :=
  d.fields.all (within { startAll := true, endA := true, tid := true, data := true, lookups := true,
                         gstr := true, tpids := true, tnames := true, host := true, hostErrno := true })


/-- The fifteen handlers that keep state or look inside their window: modelled by hand in `Model/Trace.lean`
    (the translator flags them `supported := false`): DBG_DYLD_TIMING_LAUNCH_EXECUTABLE, MACH_vmfault, PERF_Event, PERF_THD_Data, TRACE_DATA_EXEC, TRACE_DATA_NEWTHREAD, TRACE_DATA_THREAD_TERMINATE, TRACE_DATA_THREAD_TERMINATE_PID, TRACE_STRING_EXEC, TRACE_STRING_GLOBAL, TRACE_STRING_NEWTHREAD, TRACE_STRING_PROC_EXIT, TRACE_STRING_THREADNAME, TRACE_STRING_THREADNAME_PREV, VFS_LOOKUP. -/
def handModelled : List Nat :=
  [ 37546615664547125651042111325787225986218523288483642591170362114896390145592389,
    103137406182381590122369215604,
    1587993892115998174441076,
    26642116534711866307916144407649,
    1767049260139265681342534041007048003,
    1942891208376100481746263316617007171995661844804,
    140000065953024301223128056095114041869180602355049241755728827461,
    601295704706082446046587799748568275218505397432517073810452934591020812612,
    115805340312486933916040246495158147237187,
    7589418782719143701121613594306686484987658572,
    127329318232136141208756753540219778027995684091019588,
    127329318232136141208756753540219815855962161059219796,
    32596305467426852149441728906296291564341506714900712773,
    35840016883974226753044359759421547713261427485660917055673234244950,
    1616346616830909783692624 ]

def ctx (h : Host) (t : Tables) (w : Window) : Ctx := { host := h, tables := t, win := w }

theorem evalS_subst (c : Ctx) (hc : c.fields = []) (fs : List Expr) (vs : List Val)
    (h : evalFields c fs = .ok vs) (e : Expr) :
    evalS { c with fields := vs } e = evalS c (subst fs e) := by
  simp only [evalS, eval_subst c hc fs vs h e]

theorem evalPieces_subst (c : Ctx) (hc : c.fields = []) (fs : List Expr) (vs : List Val)
    (h : evalFields c fs = .ok vs) (ps : List Expr) :
    evalPieces { c with fields := vs } ps = evalPieces c (ps.map (subst fs)) := by
  induction ps with
  | nil => rfl
  | cons p ps ih => simp only [evalPieces, List.map_cons, evalS_subst c hc fs vs h, ih]

theorem render_splits (h : Host) (t : Tables) (d : Decoder) (s : Shape) (w : Window)
    (hs : d.shape = some s) (hag : shapeAgrees d = true) (text : String)
    (hr : render h t d w = .ok text) :
    ∃ call tail, text = call ++ tail ∧
      evalPieces (ctx h t w) (callPiecesOf d s) = .ok call ∧
      evalS (ctx h t w) (subst d.fields s.tail) = .ok tail := by
  have hag' : s.agrees d.str = true := by simpa [shapeAgrees, hs] using hag
  rw [render_eq] at hr
  obtain ⟨vs, hf, hr⟩ := bind_eq_ok hr
  rw [evalS_of_agrees _ s d.str hag', Shape.pieces, evalPieces_append, evalS_flatten,
    evalPieces_subst { host := h, tables := t, win := w } rfl d.fields vs hf,
    evalS_subst { host := h, tables := t, win := w } rfl d.fields vs hf] at hr
  obtain ⟨call, hc, hr⟩ := bind_eq_ok hr
  obtain ⟨tail, ht, hr⟩ := bind_eq_ok hr
  cases hr
  exact ⟨call, tail, rfl, hc, ht⟩

theorem evalS_congr (s : Sel) (c c' : Ctx) (h : Agree s c c') (e : Expr) (hw : within s e = true) :
    evalS c e = evalS c' e := by simp only [evalS, eval_congr s c c' h e hw]

theorem evalPieces_congr (s : Sel) (c c' : Ctx) (h : Agree s c c') (ps : List Expr)
    (hw : ps.all (within s) = true) : evalPieces c ps = evalPieces c' ps := by
  induction ps with
  | nil => rfl
  | cons p ps ih =>
    simp only [List.all_cons, Bool.and_eq_true] at hw
    simp only [evalPieces, evalS_congr s c c' h p hw.1, ih hw.2]

structure SameStart (w w' : Window) : Prop where
  start : w.startArgs = w'.startArgs
  lookups : w.lookups = w'.lookups
  rest : w.restFirst = w'.restFirst

theorem selFor_eq (key k : Nat) : ∃ l, selFor key k = { start := l, lookups := true, host := true } := by
  unfold selFor
  split <;> exact ⟨_, rfl⟩

theorem agree_params (l : List Nat) (h : Host) (t : Tables) (w w' : Window)
    (hk : ∀ j, l.contains j = true → w.startArgs[j]? = w'.startArgs[j]?)
    (hl : w.lookups = w'.lookups) (hr : w.restFirst = w'.restFirst) :
    Agree { start := l, lookups := true, host := true } (ctx h t w) (ctx h t w') :=
  { tables := rfl, start := hk, startAll := nofun, endA := nofun, endL := nofun, tid := nofun, data := nofun,
    lookups := fun _ => ⟨hl, hr⟩, gstr := nofun, tpids := nofun, tnames := nofun,
    host := fun _ => ⟨rfl, rfl, rfl, rfl⟩, hostErrno := nofun, fields := nofun }

end KdVerif.DecoderFacts
