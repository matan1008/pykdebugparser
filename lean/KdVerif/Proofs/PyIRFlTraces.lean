import KdVerif.Proofs.PyIRFl
import KdVerif.Model.TracePipeline
/-
  The expected IR of `traces()` (`Spec/PyIRFlExpected`), run by the interpreter of `Model/PyIRFl`: for every
  configuration the frame returns the stream `TracesParser(codes, shared tables).feed_generator(self.kevents(kdebug,
  <the copy of filter_class with the helper classes appended = TracePipeline.effectiveClasses>))` with exactly the
  post-filter stages of `TracePipeline.postFilter`, in that order, and leaves the parser's filter attributes alone.
  The proof walks the body statement by statement (`tr2` … `tr12`) with the values of `has_filters`,
  `add_trace_class`, `add_fs_class` written out as OPERANDS of `and`/`or` (`val4`, `val5`, `val8`: a list or a bool),
  whose truthiness is stable under the later `append`s.  Core Lean only.
-/
namespace KdVerif.PyIRFl
open KdVerif.Filters KdVerif.TracePipeline

/-- The heap of a `traces()` frame: `self.filter_class` copied, `extra` appended to the copy. -/
def H (cfg : Cfg) (extra : List Nat) : Heap := { cfg := cfg, locs := [cfg.filterClass ++ extra] }

theorem H_deref_loc (cfg : Cfg) (extra : List Nat) : (H cfg extra).deref (.loc 0) = some (cfg.filterClass ++ extra) := rfl
theorem H_deref_sub (cfg : Cfg) (extra : List Nat) : (H cfg extra).deref .selfSubclass = some cfg.filterSubclass := rfl
theorem H_append (cfg : Cfg) (extra : List Nat) (n : Nat) :
    (H cfg extra).append (.loc 0) n = some (H cfg (extra ++ [n])) := by
  simp [H, Heap.append]

/-- `if <var k>: filter_class.append(n)` followed by `next`, in a frame whose `filter_class` (v3) is the copy -/
theorem exec_if_append (call : CallFn) (cfg : Cfg) (extra extra' : List Nat) (env : Env) (k : Nat) (n : Int)
    (next : Stmt) (vk : Val) (b : Bool) (hk : env k = some vk) (ht : truthy { heap := H cfg extra } vk = .ok b)
    (h3 : env 3 = some (.ref (.loc 0))) (hn : 0 ≤ n) (hx : extra' = extra ++ if b then [n.toNat] else []) :
    exec call (.ite (.var k) (.append (.var 3) (.int n) .done) .done next) env { heap := H cfg extra }
      = exec call next env { heap := H cfg extra' } := by
  subst hx
  cases b <;>
    simp only [exec, eval, hk, ht, h3, hn, H_append, bindE_ok, if_true, if_false, Bool.false_eq_true, List.append_nil]

def hasF (cfg : Cfg) : Bool := !cfg.filterClass.isEmpty || !cfg.filterSubclass.isEmpty

/-- `has_filters`: an OPERAND of `filter_class or self.filter_subclass` -/
def val4 (cfg : Cfg) : Val := if cfg.filterClass.isEmpty then .ref .selfSubclass else .ref (.loc 0)

theorem truthy_val4 (cfg : Cfg) (extra : List Nat) (t : Tables) :
    truthy { heap := H cfg extra, tabs := t } (val4 cfg) = .ok (hasF cfg) := by
  cases hfc : cfg.filterClass with
  | nil => simp [val4, hasF, hfc, truthy, H, Heap.deref]
  | cons a l => simp [val4, hasF, hfc, truthy, H, Heap.deref]

/-- `add_trace_class` -/
def val5 (cfg : Cfg) : Val := if hasF cfg then .bool (!cfg.filterClass.contains 7) else val4 cfg

theorem truthy_val5 (cfg : Cfg) (extra : List Nat) (t : Tables) :
    truthy { heap := H cfg extra, tabs := t } (val5 cfg) = .ok (addTraceClass cfg) := by
  show _ = Except.ok (hasF cfg && !cfg.filterClass.contains 7)
  cases h : hasF cfg <;> simp [val5, h, truthy_val4]

def x1 (cfg : Cfg) : List Nat := if addTraceClass cfg then [7] else []

theorem contains_x1 (cfg : Cfg) (n : Nat) (hn : n ≠ 7) :
    (cfg.filterClass ++ x1 cfg).contains n = cfg.filterClass.contains n := by
  unfold x1; split <;> simp [hn]

/-- `add_fs_class` -/
def val8 (cfg : Cfg) : Val :=
  if hasF cfg then (if hasBsd cfg then .bool (!cfg.filterClass.contains 3) else .bool false) else val4 cfg

theorem truthy_val8 (cfg : Cfg) (extra : List Nat) (t : Tables) :
    truthy { heap := H cfg extra, tabs := t } (val8 cfg) = .ok (addFsClass cfg) := by
  show _ = Except.ok (hasF cfg && hasBsd cfg && !cfg.filterClass.contains 3)
  cases h : hasF cfg <;> cases hb : hasBsd cfg <;> simp [val8, h, hb, truthy_val4]

def x2 (cfg : Cfg) : List Nat := x1 cfg ++ if addFsClass cfg then [3] else []

theorem classes_x2 (cfg : Cfg) : cfg.filterClass ++ x2 cfg = effectiveClasses cfg := by
  simp only [x2, x1, effectiveClasses, Gen.Consts.DBG_TRACE, Gen.Consts.DBG_FSYSTEM]
  cases addTraceClass cfg <;> cases addFsClass cfg <;> simp

theorem anyE_bsd (call : CallFn) (w : World) (env : Env) (l : List Nat) :
    anyE (fun n => bindE (eval call w (env.set 6 (.int n)) Expected.bsdTest) (truthy w)) l
      = .ok (l.any fun sc => sc >>> 8 == Gen.Consts.DBG_BSD) := by
  induction l with
  | nil => rfl
  | cons n ns ih =>
    have hn : bindE (eval call w (env.set 6 (.int n)) Expected.bsdTest) (truthy w)
        = .ok (n >>> 8 == 4) := by
      have : ((n : Int) >>> 8) = ((n >>> 8 : Nat) : Int) := rfl
      simp only [Expected.bsdTest, eval, Env.set, if_true, bindE_ok, this, pyEq_int, truthy_bool]
      exact congrArg _ (natCast_beq (n >>> 8) 4)
    simp only [anyE, hn, bindE_ok, ih, List.any_cons, Gen.Consts.DBG_BSD]
    by_cases h : n >>> 8 = 4
    · have : n ≠ 0 := by rintro rfl; simp at h
      simp [h, this]
    · simp [h]


def stT1 : Stage := ⟨10, .call1 .filterProcessCallback (.var 10)⟩
def stT2 : Stage := ⟨11, .not (.eq (.shr (.field (Expected.firstRecord 11) .eventid) 24) (.int 7))⟩
def stT3 : Stage := ⟨12, .not (.eq (.shr (.field (Expected.firstRecord 12) .eventid) 24) (.int 3))⟩

def stagesT (cfg : Cfg) : List Stage :=
  (if cfg.filterProcess.isNone then [] else [stT1]) ++ (if addTraceClass cfg then [stT2] else []) ++
    (if addFsClass cfg then [stT3] else [])

def tr12 : Stmt := .ite (.var 8) (.assignFilter 9 stT3.param stT3.body (.var 9) .done) .done (.ret (.var 9))
def tr11 : Stmt := .ite (.var 5) (.assignFilter 9 stT2.param stT2.body (.var 9) .done) .done tr12
def tr10 : Stmt :=
  .ite (.isNone (.self .filterProcess)) .done (.assignFilter 9 stT1.param stT1.body (.var 9) .done) tr11
def tr9 : Stmt :=
  .assign 9 (.feedKevents (.var 2) (.self .threadsPids) (.self .pidsNames) (.var 0) (.var 3)) tr10
def tr8 : Stmt := .ite (.var 8) (.append (.var 3) (.int 3) .done) .done tr9
def e8 : Expr := .and (.var 4) (.and (.var 7) (.not (.isIn (.int 3) (.var 3))))
def tr7 : Stmt := .assign 8 e8 tr8
def e7 : Expr := .or (.isIn (.int 4) (.var 3)) (.anyFilter 6 Expected.bsdTest (.self .filterSubclass))
def tr6 : Stmt := .assign 7 e7 tr7
def tr5 : Stmt := .ite (.var 5) (.append (.var 3) (.int 7) .done) .done tr6
def e5 : Expr := .and (.var 4) (.not (.isIn (.int 7) (.var 3)))
def tr4 : Stmt := .assign 5 e5 tr5
def e4 : Expr := .or (.var 3) (.self .filterSubclass)
def tr3 : Stmt := .assign 4 e4 tr4
def tr2 : Stmt := .assignList 3 (.self .filterClass) tr3

theorem traces_body :
    Expected.traces.body = .assign 2 (.ifExp (.isNone (.var 1)) .defaultTraceCodes (.var 1)) tr2 := rfl

theorem eval_e4 (call : CallFn) (cfg : Cfg) (env : Env) (h3 : env 3 = some (.ref (.loc 0))) :
    eval call { heap := H cfg [] } env e4 = .ok (val4 cfg) := by
  have ht := truthy_ref { heap := H cfg [] } (.loc 0) _ (H_deref_loc cfg [])
  simp only [e4, eval, h3, bindE_ok, ht, getAttr, val4, List.append_nil]
  cases cfg.filterClass <;> rfl

theorem eval_e5 (call : CallFn) (cfg : Cfg) (env : Env) (h3 : env 3 = some (.ref (.loc 0)))
    (h4 : env 4 = some (val4 cfg)) :
    eval call { heap := H cfg [] } env e5 = .ok (val5 cfg) := by
  simp only [e5, eval, h3, h4, bindE_ok, truthy_val4, H_deref_loc, val5, List.append_nil, truthy_bool]
  have : memNat 7 cfg.filterClass = cfg.filterClass.contains 7 := memNat_natCast 7 _
  cases hasF cfg <;> simp [this]

theorem eval_e7 (call : CallFn) (cfg : Cfg) (env : Env) (h3 : env 3 = some (.ref (.loc 0))) :
    eval call { heap := H cfg (x1 cfg) } env e7 = .ok (.bool (hasBsd cfg)) := by
  have hm : memNat 4 (cfg.filterClass ++ x1 cfg) = cfg.filterClass.contains 4 := by
    rw [← contains_x1 cfg 4 (by decide)]; exact memNat_natCast 4 _
  simp only [e7, eval, h3, bindE_ok, H_deref_loc, H_deref_sub, hm, truthy_bool, getAttr, anyE_bsd, hasBsd,
    Gen.Consts.DBG_BSD]
  cases cfg.filterClass.contains 4 <;> simp

theorem eval_e8 (call : CallFn) (cfg : Cfg) (env : Env) (h3 : env 3 = some (.ref (.loc 0)))
    (h4 : env 4 = some (val4 cfg)) (h7 : env 7 = some (.bool (hasBsd cfg))) :
    eval call { heap := H cfg (x1 cfg) } env e8 = .ok (val8 cfg) := by
  have hm : memNat 3 (cfg.filterClass ++ x1 cfg) = cfg.filterClass.contains 3 := by
    rw [← contains_x1 cfg 3 (by decide)]; exact memNat_natCast 3 _
  simp only [e8, eval, h3, h4, h7, bindE_ok, truthy_val4, H_deref_loc, hm, truthy_bool, val8]
  cases hasF cfg <;> cases hasBsd cfg <;> simp

theorem runBlock_traces (call : CallFn) (cfg : Cfg) (given : Bool) :
    ∃ env : Env,
      runBlock call Expected.traces [.kdebug, if given then .codes true else .none] { heap := { cfg := cfg } }
        = .ok (.stream (.traces given (some (.loc 0))) (stagesT cfg), env, { heap := H cfg (x2 cfg) }) := by
  have hpad : padArgs Expected.traces [.kdebug, if given then .codes true else .none]
      = some [.kdebug, if given then .codes true else .none] := by cases given <;> rfl
  -- trace_codes_map = …
  have h2 : eval call { heap := { cfg := cfg } } (Env.ofArgs [.kdebug, if given then .codes true else .none])
      (.ifExp (.isNone (.var 1)) .defaultTraceCodes (.var 1)) = .ok (.codes given) := by cases given <;> rfl
  -- filter_class = list(self.filter_class)
  have h3 : ∀ env : Env, exec call tr2 env { heap := { cfg := cfg } }
      = exec call tr3 (env.set 3 (.ref (.loc 0))) { heap := H cfg [] } := by
    intro env
    simp [tr2, exec, eval, getAttr, Heap.deref, Heap.alloc, H]
  simp only [runBlock, hpad]
  rw [traces_body, exec_assign _ _ _ _ _ _ _ h2, h3,
    tr3, exec_assign _ _ _ _ _ _ _ (eval_e4 call cfg _ rfl),
    tr4, exec_assign _ _ _ _ _ _ _ (eval_e5 call cfg _ rfl rfl),
    tr5, exec_if_append call cfg [] (x1 cfg) _ 5 7 _ _ _ rfl (truthy_val5 cfg [] {}) rfl (by decide) rfl,
    tr6, exec_assign _ _ _ _ _ _ _ (eval_e7 call cfg _ rfl),
    tr7, exec_assign _ _ _ _ _ _ _ (eval_e8 call cfg _ rfl rfl rfl),
    tr8, exec_if_append call cfg (x1 cfg) (x2 cfg) _ 8 3 _ _ _ rfl (truthy_val8 cfg _ {}) rfl (by decide) rfl,
    tr9, exec_assign _ _ _ _ _ _ (.stream (.traces given (some (.loc 0))) []) rfl,
    tr10, exec_stage_unless _ _ _ _ _ _ _ _ _ _ _ _ (eval_isNone_filterProcess ..) (truthy_bool ..),
    tr11, exec_stage_if _ _ _ _ _ _ _ _ (val5 cfg) _ _ _ rfl (truthy_val5 cfg _ {}),
    tr12, exec_stage_if _ _ _ _ _ _ _ _ (val8 cfg) _ _ _ rfl (truthy_val8 cfg _ {})]
  simp only [exec, eval, Env.set_same, bindE_ok]
  exact ⟨_, rfl⟩


/-- `TracePipeline.postFilter` for any representation of the yielded traces: `view` shows of each its first record
    (`trace.ktraces[0]`) and the two shared tables at the moment it is yielded. -/
def postFilterV {α : Type} (view : α → Kevent × Tables) (cfg : Cfg) (l : List α) : List α :=
  let l := match cfg.filterProcess with
    | some fp => l.filter fun x => procMatches fp (view x).2 (view x).1.tid
    | none => l
  let l := if addTraceClass cfg then l.filter fun x => (view x).1.eventid >>> 24 != Gen.Consts.DBG_TRACE else l
  let l := if addFsClass cfg then l.filter fun x => (view x).1.eventid >>> 24 != Gen.Consts.DBG_FSYSTEM else l
  l

theorem stage_T1 (p : Prog) (hC : p.filterProcessCallback = Expected.filterProcessCallback) (d : Nat) (env : Env) (w : World) (fp : String) (hfp : w.heap.cfg.filterProcess = some fp)
    (k : Kevent) :
    bindE (eval (callAt p (d + 1)) w (env.set stT1.param (.trace k)) stT1.body) (truthy w)
      = .ok (procMatches fp w.tabs k.tid) := by
  have hv : (env.set 10 (.trace k)) 10 = some (.trace k) := by simp [Env.set]
  simp only [stT1, eval, hv, bindE_ok, callAt_filterProcessCallback p hC d w k, hfp, truthy_bool]

theorem stage_class (call : CallFn) (env : Env) (w : World) (t c : Nat) (k : Kevent) :
    bindE (eval call w (env.set t (.trace k))
        (.not (.eq (.shr (.field (Expected.firstRecord t) .eventid) 24) (.int c)))) (truthy w)
      = .ok (k.eventid >>> 24 != c) := by
  have hr := eval_firstRecord call w (env.set t (.trace k)) t k (by simp [Env.set])
  have : ((k.eventid : Int) >>> 24) = ((k.eventid >>> 24 : Nat) : Int) := rfl
  simp only [eval, hr, bindE_ok, getField, this, pyEq_int, truthy_bool]
  exact congrArg (fun b => Except.ok (!b)) (natCast_beq (k.eventid >>> 24) c)

theorem runTraces_expected {α : Type} (view : α → Kevent × Tables) (p : Prog) (hT : p.traces = Expected.traces)
    (hC : p.filterProcessCallback = Expected.filterProcessCallback) (cfg : Cfg) (given : Bool) (l : List α) :
    runTraces view p cfg given l
      = .ok { codesGiven := given, classArg := some (effectiveClasses cfg), cfgAfter := cfg,
              out := postFilterV view cfg l } := by
  obtain ⟨env, hrun⟩ := runBlock_traces (callAt p depth) cfg given
  have hk : p.traces = Expected.traces := hT
  have hcfg : (H cfg (x2 cfg)).cfg = cfg := rfl
  simp only [runTraces, hk, hrun, bindE_ok, H_deref_loc, classes_x2, stagesT, applyStages_append]
  rw [applyStages_unlessNone cfg.filterProcess _ _ (fun fp x => procMatches fp (view x).2 (view x).1.tid) ?_, bindE_ok,
    applyStages_if _ _ _ (fun x => (view x).1.eventid >>> 24 != 7) ?_, bindE_ok,
    applyStages_if _ _ _ (fun x => (view x).1.eventid >>> 24 != 3) ?_]
  · simp only [bindE_ok, postFilterV, Gen.Consts.DBG_TRACE, Gen.Consts.DBG_FSYSTEM, hcfg]
    cases cfg.filterProcess <;> rfl
  · exact fun _ x _ => stage_class _ env _ 12 3 (view x).1
  · exact fun _ x _ => stage_class _ env _ 11 7 (view x).1
  · exact fun fp hfp x _ => stage_T1 p hC 1 env _ fp hfp (view x).1

end KdVerif.PyIRFl
