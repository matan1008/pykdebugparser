import KdVerif.Model.PyIRCn
import KdVerif.Spec.PyIRCnExpected
import KdVerif.Proofs.Reader
import KdVerif.Proofs.Cost
/-
  Lemmas of the translation tie of the construct DECLARATIONS (`Model/PyIRCn`): the expected declarations, run by
  `Con.parse`, are the hand models of `Model/Construct` / `Model/ContainerV2` / `Model/ContainerV3`.
-/
namespace KdVerif.PyIRCn
open KdVerif Reader

theorem RM.bind_assoc' {α β γ : Type} (m : RM α) (f : α → RM β) (g : β → RM γ) :
    (m >>= f) >>= g = m >>= fun a => f a >>= g := by
  funext r
  show RM.bind' (RM.bind' m f) g r = RM.bind' m (fun a => RM.bind' (f a) g) r
  unfold RM.bind'
  cases m r with
  | mk x r' => cases x <;> rfl

theorem RM.pure_bind' {α β : Type} (a : α) (f : α → RM β) : (pure a : RM α) >>= f = f a := rfl

theorem RM.bind_pure' {α : Type} (m : RM α) : m >>= (fun a => (pure a : RM α)) = m := by
  funext r
  show RM.bind' m RM.pure' r = m r
  unfold RM.bind' RM.pure'
  cases m r with
  | mk x r' => cases x <;> rfl

theorem mapRM_bind {α β γ : Type} (f : α → β) (m : RM α) (g : β → RM γ) :
    mapRM f m >>= g = m >>= fun a => g (f a) := by
  unfold mapRM
  rw [RM.bind_assoc']
  rfl

theorem mapRM_apply {α β : Type} (f : α → β) (m : RM α) (r : Reader) :
    mapRM f m r = match m r with
      | (.ok a, r') => (.ok (f a), r')
      | (.error e, r') => (.error e, r') := by
  show RM.bind' m (fun a => RM.pure' (f a)) r = _
  unfold RM.bind'
  cases m r with
  | mk x r' => cases x <;> rfl

theorem project_bind {α β : Type} (p : CVal → Option β) (m : RM α) (k : α → RM CVal) :
    project p (m >>= k) = m >>= fun a => project p (k a) := by
  unfold project
  rw [RM.bind_assoc']

theorem project_pure {β : Type} (p : CVal → Option β) (v : CVal) (b : β) (h : p v = some b) :
    project p (pure v) = pure b := by
  unfold project
  rw [RM.pure_bind', h]

theorem project_mapRM {α β : Type} (p : CVal → Option β) (f : α → CVal) (g : α → β) (m : RM α)
    (h : ∀ a, p (f a) = some (g a)) : project p (mapRM f m) = mapRM g m := by
  unfold project
  rw [mapRM_bind]
  unfold mapRM
  congr 1
  funext a
  rw [h]

theorem cstringRM_ofBytes (b : Bytes) : (mapRM CVal.str cstringRM (Reader.ofBytes b)).1 = (cstringOf b).map CVal.str := by
  show (RM.bind' cstringRM (fun a => RM.pure' (CVal.str a)) (Reader.ofBytes b)).1 = _
  unfold RM.bind' cstringRM cstringOf
  have hr : (Reader.ofBytes b).rest = b := rfl
  simp only [hr]
  by_cases h1 : (List.takeWhile (fun x => x ≠ 0) b).length = b.length
  · simp only [h1, if_true]; rfl
  · simp only [h1, if_false]
    by_cases h2 : validUtf8 (List.takeWhile (fun x => x ≠ 0) b) = true
    · simp only [h2, if_true]; rfl
    · simp only [h2]; rfl

theorem fixedCString_eq (n : Nat) :
    (readExact n >>= fun b => onSub b (mapRM CVal.str cstringRM)) = mapRM CVal.str (fixedCString n) := by
  funext r
  show RM.bind' (readExact n) (fun b => onSub b (mapRM CVal.str cstringRM)) r
     = RM.bind' (fixedCString n) (fun a => RM.pure' (CVal.str a)) r
  unfold RM.bind' fixedCString
  cases readExact n r with
  | mk x r' =>
    cases x with
    | error e => rfl
    | ok b =>
      show ((mapRM CVal.str cstringRM (Reader.ofBytes b)).1, r') = _
      rw [cstringRM_ofBytes]
      dsimp only
      cases cstringOf b <;> rfl

theorem toThreadEntry_toCVal (e : ThreadEntry) : (ThreadEntry.toCVal e).toThreadEntry = some e := by
  cases e; rfl

theorem parse_kd_threadmap (env : Env) (ctx : List (String × CVal)) :
    Expected.kd_threadmap.parse env ctx = mapRM ThreadEntry.toCVal threadEntry := by
  simp only [Expected.kd_threadmap, Con.parse, Fields.parse, fixedCString_eq, mapRM_bind, List.nil_append,
    List.cons_append]
  unfold threadEntry mapRM
  simp only [RM.bind_assoc', RM.pure_bind']
  rfl

theorem project_kd_threadmap (env : Env) (ctx : List (String × CVal)) :
    project CVal.toThreadEntry (Expected.kd_threadmap.parse env ctx) = threadEntry := by
  rw [parse_kd_threadmap, project_mapRM _ _ id _ toThreadEntry_toCVal]
  exact RM.bind_pure' _

theorem arrayN_mapRM {α β : Type} (f : α → β) (m : RM α) :
    ∀ n, arrayN (mapRM f m) n = mapRM (List.map f) (arrayN m n)
  | 0 => rfl
  | n + 1 => by
    simp only [arrayN, arrayN_mapRM f m n, mapRM_bind]
    unfold mapRM
    simp only [RM.bind_assoc', RM.pure_bind', List.map_cons]

theorem greedyRange_mapRM {α β : Type} (f : α → β) (m : RM α) :
    ∀ fuel, greedyRange (mapRM f m) fuel = mapRM (List.map f) (greedyRange m fuel)
  | 0 => rfl
  | fuel + 1 => by
    funext r
    simp only [mapRM_apply, greedyRange, greedyRange_mapRM f m fuel]
    cases m r with
    | mk x r1 =>
      cases x with
      | error e => cases e <;> rfl
      | ok a =>
        dsimp only
        cases greedyRange m fuel r1 with
        | mk y r2 => cases y <;> rfl

theorem toThreadList_map : ∀ l : List ThreadEntry, CVal.toThreadList (l.map ThreadEntry.toCVal) = some l
  | [] => rfl
  | e :: l => by
    simp only [List.map_cons, CVal.toThreadList, toThreadEntry_toCVal, toThreadList_map l]

/-- `kd_header_v2` once the module has run: the reference is the `kd_threadmap` object. -/
def kd_header_v2R : Con :=
  .struct (.cons (some "number_of_treads") .int32ul
          (.cons none (.padding 8)
          (.cons none (.padding 4)
          (.cons (some "is_64bit") .int32ul
          (.cons (some "tick_frequency") .int64ul
          (.cons none (.padding 0x100)
          (.cons (some "threadmap") (.array "number_of_treads" Expected.kd_threadmap)
          (.cons (some "_pad") (.greedyRange .const0Byte)
           .nil))))))))

theorem project_toHeaderV2 (n i t : Nat) (tm : List ThreadEntry) (pad : List CVal) :
    project CVal.toHeaderV2 (pure (CVal.struct [("number_of_treads", .int n), ("is_64bit", .int i),
      ("tick_frequency", .int t), ("threadmap", .list (tm.map ThreadEntry.toCVal)), ("_pad", .list pad)]))
      = pure ⟨n, i, t, tm, pad.length⟩ := by
  refine project_pure _ _ _ ?_
  show (match CVal.toThreadList (tm.map ThreadEntry.toCVal) with
    | some es => some (HeaderV2.mk n i t es pad.length)
    | none => none) = _
  rw [toThreadList_map]

theorem ctxCount_v2 (n i t : Nat) :
    ctxCount [("number_of_treads", .int n), ("is_64bit", .int i), ("tick_frequency", .int t)] "number_of_treads"
      = some n := rfl

theorem project_kd_header_v2 (plist : Bytes → Option PView) (ctx : List (String × CVal)) :
    project CVal.toHeaderV2 (kd_header_v2R.parse ⟨plist, fun r => r.rest.length + 1⟩ ctx) = headerV2 := by
  simp only [kd_header_v2R, Con.parse, Fields.parse, mapRM_bind, List.nil_append, List.cons_append, ctxCount_v2,
    parse_kd_threadmap, arrayN_mapRM, greedyRange_mapRM, RM.bind_assoc', project_bind]
  unfold headerV2
  simp only [RM.pure_bind', project_toHeaderV2, List.length_map]
  rfl

theorem RM.bind_congr' {α β : Type} (m : RM α) (f g : α → RM β) (h : ∀ a, f a = g a) : m >>= f = m >>= g := by
  have : f = g := funext h
  rw [this]

/-- `Prefixed`'s sub-stream handed to `BplistAdapter(GreedyBytes)`: the whole payload goes to `plistlib.loads`. -/
theorem onSub_bplist (plist : Bytes → Option PView) (b : Bytes) :
    onSub b (greedyBytesRM >>= fun a => decodePlist plist (CVal.bytes a)) =
      (match plist b with
       | none => RM.throw' .valueError
       | some _ => pure (CVal.plist b)) := by
  funext r
  show ((RM.bind' greedyBytesRM (fun a => decodePlist plist (CVal.bytes a)) (Reader.ofBytes b)).1, r) = _
  unfold RM.bind' greedyBytesRM
  have hr : (Reader.ofBytes b).rest = b := rfl
  simp only [hr, decodePlist]
  cases plist b <;> rfl

theorem project_kd_header_v3 (env : Env) (ctx : List (String × CVal)) :
    project CVal.toHeaderV3 (Expected.kd_header_v3.parse env ctx) = headerV3Inner env.plist := by
  simp only [Expected.kd_header_v3, Con.parse, Fields.parse, mapRM_bind, List.nil_append, List.cons_append,
    RM.bind_assoc', project_bind]
  unfold headerV3Inner
  simp only [v3FieldSizes, readFields, int32ul, int64ul, prefixedBytes, RM.bind_assoc', RM.pure_bind']
  iterate 14 (apply RM.bind_congr'; intro _)
  rw [onSub_bplist]
  rename_i payload
  cases plist_payload : env.plist payload with
  | none => rfl
  | some v =>
    simp only [RM.pure_bind']
    exact project_pure _ _ _ rfl

/-- a `readExact n` in front of any continuation: short input raises StreamError, otherwise the continuation runs on
    the first `n` bytes -/
theorem readExact_bind {n : Nat} (hn : n < ssizeLimit) (r : Reader) :
    (r.rest.length < n ∧ ∃ r', ∀ {β : Type} (k : Bytes → RM β), (readExact n >>= k) r = (.error .streamError, r')) ∨
    (n ≤ r.rest.length ∧ ∃ r', r'.rest = r.rest.drop n ∧
      ∀ {β : Type} (k : Bytes → RM β), (readExact n >>= k) r = k (r.rest.take n) r') := by
  by_cases h : n ≤ r.rest.length
  · right
    refine ⟨h, (r.read n).2, read_rest r n, fun k => RM.bind_ok ?_⟩
    have : (r.read n).1.length = n := by simp [List.length_take]; omega
    rw [readExact_small hn, if_pos this]; rfl
  · left
    refine ⟨by omega, (r.read n).2, fun k => RM.bind_err ?_⟩
    have : ¬ (r.read n).1.length = n := by simp [List.length_take]; omega
    rw [readExact_small hn, if_neg this]

/-- `kd_threadmap` reads 8 + 4 + 0x14 = 32 bytes: with fewer left it raises StreamError at whichever field runs short,
    otherwise the 32 bytes are consumed and the outcome is `threadEntryOf` of them. -/
theorem threadEntry_case (r : Reader) :
    (r.rest.length < 32 ∧ ∃ r', threadEntry r = (.error .streamError, r')) ∨
    (32 ≤ r.rest.length ∧ ∃ r', r'.rest = r.rest.drop 32 ∧
      ((∃ e, threadEntryOf (r.rest.take 32) = some e ∧ threadEntry r = (.ok e, r')) ∨
       (threadEntryOf (r.rest.take 32) = none ∧ threadEntry r = (.error .streamError, r')))) := by
  unfold threadEntry int64ul int32ul
  rw [KdVerif.fixedCString_eq]
  simp only [RM.bind_assoc', RM.pure_bind']
  rcases readExact_bind (n := 8) (by decide) r with ⟨h8, r1, e1⟩ | ⟨h8, r1, c1, e1⟩
  · exact .inl ⟨by omega, r1, e1 _⟩
  rcases readExact_bind (n := 4) (by decide) r1 with ⟨h4, r2, e2⟩ | ⟨h4, r2, c2, e2⟩
  · rw [c1, List.length_drop] at h4
    exact .inl ⟨by omega, r2, by rw [e1, e2]⟩
  rcases readExact_bind (n := 0x14) (by decide) r2 with ⟨h20, r3, e3⟩ | ⟨h20, r3, c3, e3⟩
  · rw [c2, c1, List.length_drop, List.length_drop] at h20
    exact .inl ⟨by omega, r3, by rw [e1, e2, e3]⟩
  rw [c1, List.length_drop] at h4
  rw [c2, c1, List.length_drop, List.length_drop] at h20
  refine .inr ⟨by omega, r3, by rw [c3, c2, c1]; simp [List.drop_drop], ?_⟩
  have hname : r2.rest.take 0x14 = ((r.rest.take 32).drop 12).take 20 := by
    rw [c2, c1]; simp [List.drop_drop, List.take_drop, List.take_take]
  have ht : r.rest.take 8 = (r.rest.take 32).take 8 := by simp [List.take_take]
  have hp : r1.rest.take 4 = ((r.rest.take 32).drop 8).take 4 := by
    rw [c1]; simp [List.take_drop, List.take_take]
  rw [e1, e2, e3, hname, ht, hp]
  unfold threadEntryOf
  cases hc : cstringOf (((r.rest.take 32).drop 12).take 20) with
  | ok s => exact .inl ⟨_, rfl, rfl⟩
  | error err =>
    cases cstringOf_err hc
    exact .inr ⟨rfl, rfl⟩

theorem greedyRange_threadEntry : ∀ (fuel : Nat) (r : Reader), r.rest.length / 32 + 1 ≤ fuel →
    (greedyRange threadEntry fuel r).1 = .ok (greedyEntriesAux (r.rest.length / 32 + 1) r.rest)
  | 0, _, h => by omega
  | fuel + 1, r, h => by
    rcases threadEntry_case r with ⟨hlt, r', e⟩ | ⟨hge, r', c, ⟨e, he, e1⟩ | ⟨he, e1⟩⟩
    · simp only [greedyRange, e, greedyEntriesAux, if_pos hlt]
    · have hlen : r'.rest.length / 32 + 1 = r.rest.length / 32 := by
        rw [c, List.length_drop]; omega
      have ih := greedyRange_threadEntry fuel r' (by omega)
      have hnlt : ¬ r.rest.length < 32 := by omega
      simp only [greedyRange, e1, greedyEntriesAux, if_neg hnlt, he]
      cases hg : greedyRange threadEntry fuel r' with
      | mk y r'' =>
        rw [hg, hlen, c] at ih
        simp only at ih
        subst ih
        rfl
    · have hnlt : ¬ r.rest.length < 32 := by omega
      simp only [greedyRange, e1, greedyEntriesAux, if_neg hnlt, he]

/-- `kd_v3_threadmap` once the module has run -/
def kd_v3_threadmapR : Con :=
  .struct (.cons (some "threadmap") (.prefixed64 (.greedyRange Expected.kd_threadmap)) .nil)

theorem onSub_greedyEntries (f : Reader → Nat) (b : Bytes) (hf : b.length / 32 + 1 ≤ f (Reader.ofBytes b)) :
    onSub b (fuelM f >>= fun fuel => greedyRange threadEntry fuel >>= fun l =>
      (pure (CVal.list (l.map ThreadEntry.toCVal)) : RM CVal)) =
    pure (CVal.list ((greedyEntries b).map ThreadEntry.toCVal)) := by
  funext r
  have hr : (Reader.ofBytes b).rest = b := rfl
  have hg := greedyRange_threadEntry (f (Reader.ofBytes b)) (Reader.ofBytes b) (by rw [hr]; exact hf)
  rw [hr] at hg
  show ((RM.bind' (fuelM f) (fun fuel => RM.bind' (greedyRange threadEntry fuel) (fun l =>
      RM.pure' (CVal.list (l.map ThreadEntry.toCVal)))) (Reader.ofBytes b)).1, r) = _
  unfold RM.bind' fuelM
  dsimp only
  cases hx : greedyRange threadEntry (f (Reader.ofBytes b)) (Reader.ofBytes b) with
  | mk y r2 =>
    rw [hx] at hg
    simp only at hg
    subst hg
    rfl

theorem project_kd_v3_threadmap (env : Env) (ctx : List (String × CVal))
    (hf : ∀ b : Bytes, b.length / 32 + 1 ≤ env.fuel (Reader.ofBytes b)) :
    project CVal.toThreadmapV3 (kd_v3_threadmapR.parse env ctx) =
      (prefixedBytes >>= fun payload => pure (greedyEntries payload)) := by
  simp only [kd_v3_threadmapR, Con.parse, Fields.parse, mapRM_bind, List.nil_append, parse_kd_threadmap,
    greedyRange_mapRM, RM.bind_assoc', project_bind]
  unfold prefixedBytes
  simp only [RM.bind_assoc']
  iterate 2 (apply RM.bind_congr'; intro _)
  rename_i b
  rw [onSub_greedyEntries _ _ (hf b), RM.pure_bind']
  exact project_pure _ _ _ (toThreadList_map _)

def blockToCVal (b : Bytes × Bytes) : CVal := .struct [("tag", .bytes b.1), ("data", .bytes b.2)]

theorem onSub_greedyBytes (b : Bytes) : onSub b (mapRM CVal.bytes greedyBytesRM) = pure (CVal.bytes b) := rfl

theorem parse_prefixedBytes (env : Env) (ctx : List (String × CVal)) :
    (Con.prefixed64 .greedyBytes).parse env ctx = mapRM CVal.bytes prefixedBytes := by
  simp only [Con.parse, onSub_greedyBytes]
  unfold prefixedBytes mapRM
  simp only [RM.bind_assoc']

theorem aligned_mapRM {α β : Type} (f : α → β) (n : Nat) (m : RM α) :
    aligned n (mapRM f m) = mapRM f (aligned n m) := by
  unfold aligned mapRM
  simp only [RM.bind_assoc', RM.pure_bind']

theorem select2_mapRM {α β : Type} (f : α → β) (m1 m2 : RM α) :
    select2 (mapRM f m1) (mapRM f m2) = mapRM f (select2 m1 m2) := by
  funext r
  simp only [mapRM_apply, select2]
  cases m1 r with
  | mk x r1 =>
    cases x with
    | ok a => rfl
    | error e =>
      cases e <;> dsimp only <;>
        (cases m2 (r1.seekTo r.pos) with
         | mk y r2 =>
           cases y with
           | ok a => rfl
           | error e2 => cases e2 <;> rfl)

theorem parse_blockStruct (env : Env) (ctx : List (String × CVal)) :
    Expected.blockStruct.parse env ctx = mapRM blockToCVal blockElem := by
  simp only [Expected.blockStruct, Con.parse, Fields.parse, onSub_greedyBytes, List.nil_append, List.cons_append]
  have hp : (int64ul >>= fun n => readExact n >>= fun b => (pure (CVal.bytes b) : RM CVal))
      = mapRM CVal.bytes prefixedBytes := by
    unfold prefixedBytes mapRM
    simp only [RM.bind_assoc']
  simp only [hp, aligned_mapRM, select2_mapRM, mapRM_bind]
  unfold blockElem mapRM
  simp only [RM.bind_assoc', RM.pure_bind']
  rfl

theorem toBlockList_map : ∀ l : List (Bytes × Bytes), CVal.toBlockList (l.map blockToCVal) = some l
  | [] => rfl
  | b :: l => by
    have hb : (blockToCVal b).toBlock = some b := by cases b; rfl
    simp only [List.map_cons, CVal.toBlockList, hb, toBlockList_map l]

theorem project_kd_v3_additional_data (env : Env) (ctx : List (String × CVal)) (r : Reader) :
    project CVal.toBlocks (Expected.kd_v3_additional_data.parse env ctx) r = greedyRange blockElem (env.fuel r) r := by
  have hb : Expected.kd_v3_additional_data = .greedyRange Expected.blockStruct := rfl
  rw [hb]
  simp only [Con.parse, parse_blockStruct, greedyRange_mapRM, mapRM_bind, project_bind]
  have hp : ∀ l : List (Bytes × Bytes),
      project CVal.toBlocks (pure (CVal.list (l.map blockToCVal))) = (pure l : RM _) :=
    fun l => project_pure _ _ _ (toBlockList_map l)
  simp only [hp, RM.bind_pure']
  rfl

theorem decl_kd_threadmap : Expected.module.decl "kd_threadmap" = Expected.kd_threadmap := rfl

theorem decl_kd_header_v2 : Expected.module.decl "kd_header_v2" = kd_header_v2R := rfl

theorem decl_kd_header_v3 : Expected.module.decl "kd_header_v3" = Expected.kd_header_v3 := rfl

theorem decl_kd_v3_threadmap : Expected.module.decl "kd_v3_threadmap" = kd_v3_threadmapR := rfl

theorem decl_kd_v3_additional_data :
    Expected.module.decl "kd_v3_additional_data" = Expected.kd_v3_additional_data := rfl

end KdVerif.PyIRCn
