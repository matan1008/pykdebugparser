import KdVerif.Proofs.Reassembly
import KdVerif.Proofs.Projection
import KdVerif.Proofs.TraceProjection
/-
  C08 lemmas: the records of one split text fed through the whole parser (`Trace.run`), interleaved
  with other records.  Generic in the handler: `Reasm` collects what is needed from a handler
  (continuation records are swallowed; the complete window yields the trace).
-/
namespace KdVerif.Reassembly
open KdVerif.Pairing

section pairing
variable (domOf : Nat → Bool)

def GoodList (k : Key) (w : List Kevent) : Prop :=
  (∃ y ys, w = y :: ys ∧ y.eventid = k.eid) ∧ ∀ x ∈ w, x.tid = k.tid ∧ domOf x.eventid = k.dom

def WF (s : Pairing.PState) : Prop := ∀ k w, s k = some w → GoodList domOf k w

theorem wf_empty : WF domOf Pairing.PState.empty :=
  fun _ _ h => nomatch h

theorem goodList_snoc (k : Key) (w : List Kevent) (e : Kevent) (h : GoodList domOf k w)
    (ht : e.tid = k.tid) (hd : domOf e.eventid = k.dom) : GoodList domOf k (w ++ [e]) := by
  obtain ⟨⟨y, ys, rfl, hy⟩, hall⟩ := h
  refine ⟨⟨y, ys ++ [e], by simp, hy⟩, ?_⟩
  intro x hx
  rcases List.mem_append.1 hx with hx | hx
  · exact hall x hx
  · simp only [List.mem_singleton] at hx; subst hx; exact ⟨ht, hd⟩

theorem goodList_single (e : Kevent) : GoodList domOf (keyOf domOf e) [e] :=
  ⟨⟨e, [], rfl, rfl⟩, by simp⟩

theorem wf_step (s : Pairing.PState) (e : Kevent) (hs : WF domOf s) : WF domOf (step domOf s e).1 :=
  step_stored domOf e hs (fun k w hd ht h => goodList_snoc domOf k w e h ht.symm hd.symm) (goodList_single domOf e)

theorem step_out_first (s : Pairing.PState) (e : Kevent) (hs : WF domOf s) (w : List Kevent)
    (hw : (step domOf s e).2 = some w) : ∃ y ys, w = y :: ys ∧ y.eventid = e.eventid ∧ y.tid = e.tid := by
  rcases step_delivered domOf s e w hw with rfl | ⟨w', hw', rfl⟩
  · exact ⟨e, [], rfl, rfl, rfl⟩
  · obtain ⟨⟨y, ys, rfl, hy⟩, hall⟩ := hs _ _ hw'
    exact ⟨y, ys ++ [e], rfl, hy, (hall y (by simp)).1⟩

end pairing

section trace
open KdVerif.Trace
variable (env : Env)

theorem parseEventList_first (t : Tabs) (w : List Kevent) (tr : TraceOut) (t' : Tabs)
    (h : parseEventList env t w = .ok (some tr, t')) : firstOf tr.events = firstOf w := by
  cases w with
  | nil => cases h
  | cons x xs =>
    rw [parseEventList_eq] at h
    cases hh : handlerOf env (x :: xs) with
    | none => rw [hh] at h; cases h
    | some n => rw [hh] at h; exact handleOut_shape env t n _ tr (handle_to_out h)

theorem feed_eq (s : Trace.PState) (e : Kevent) :
    feed env s e =
      match (Pairing.step env.domOf s.pairing e).2 with
      | none => .ok (none, { s with pairing := (Pairing.step env.domOf s.pairing e).1 })
      | some w =>
        match parseEventList env s.tabs w with
        | .error err => .error err
        | .ok (r, t') => .ok (r, { pairing := (Pairing.step env.domOf s.pairing e).1, tabs := t' }) := by
  unfold feed
  cases hst : Pairing.step env.domOf s.pairing e with
  | mk p' o =>
    cases o with
    | none => rfl
    | some w =>
      simp only [bind, Except.bind, pure, Except.pure]
      cases parseEventList env s.tabs w with
      | error err => rfl
      | ok v => rfl

theorem feed_pairing (s s' : Trace.PState) (e : Kevent) (r : Option TraceOut)
    (h : feed env s e = .ok (r, s')) : s'.pairing = (Pairing.step env.domOf s.pairing e).1 :=
  (feed_ok env s s' e r h).1

theorem feed_out_first (s s' : Trace.PState) (e : Kevent) (tr : TraceOut) (hwf : WF env.domOf s.pairing)
    (h : feed env s e = .ok (some tr, s')) :
    (firstOf tr.events).eventid = e.eventid ∧ (firstOf tr.events).tid = e.tid := by
  rw [feed_eq] at h
  split at h
  · cases h
  · rename_i w hw
    split at h
    · cases h
    · rename_i r t' hp
      cases h
      obtain ⟨y, ys, rfl, hy1, hy2⟩ := step_out_first env.domOf s.pairing e hwf w hw
      rw [parseEventList_first env _ _ tr t' hp]
      exact ⟨hy1, hy2⟩

theorem run_cons (s : Trace.PState) (e : Kevent) (es : List Kevent) :
    run env s (e :: es) =
      match feed env s e with
      | .error err => ([], some err, s)
      | .ok (r, s') => (r.toList ++ (run env s' es).1, (run env s' es).2.1, (run env s' es).2.2) := by
  rw [Trace.run]
  cases feed env s e with
  | error err => rfl
  | ok v =>
    obtain ⟨r, s'⟩ := v
    cases r <;> rfl

/-- The records a text's handler looks at on thread `t`: code in `B`. -/
def textRec (t : Nat) (B : Nat → Bool) (x : Kevent) : Bool := x.tid == t && B x.eventid

/-- The traces attributed to such a record: `TraceOut.tid` and the code are read off the first record. -/
def textTrace (t : Nat) (B : Nat → Bool) (o : TraceOut) : Bool := textRec t B (firstOf o.events)

theorem run_cons_other (t : Nat) (B : Nat → Bool) (x : Kevent) (xs : List Kevent) (s : Trace.PState)
    (hbx : textRec t B x = false) (hwf : WF env.domOf s.pairing) (herr : (run env s (x :: xs)).2.1 = none) :
    ∃ r s', feed env s x = .ok (r, s') ∧ WF env.domOf s'.pairing ∧ (run env s' xs).2.1 = none ∧
      (run env s (x :: xs)).1.filter (textTrace t B) = (run env s' xs).1.filter (textTrace t B) := by
  rw [run_cons] at herr ⊢
  cases hf : feed env s x with
  | error err => simp [hf] at herr
  | ok v =>
    obtain ⟨r, s'⟩ := v
    simp only [hf] at herr ⊢
    refine ⟨r, s', rfl, by rw [feed_pairing env s s' x r hf]; exact wf_step _ _ _ hwf, herr, ?_⟩
    cases r with
    | none => rfl
    | some tr =>
      obtain ⟨h1, h2⟩ := feed_out_first env s s' x tr hwf hf
      have : textTrace t B tr = false := by simpa [textTrace, textRec, h1, h2] using hbx
      simp [this]

theorem run_skip (t : Nat) (B : Nat → Bool) (stream : List Kevent) (s : Trace.PState)
    (hst : ∀ x ∈ stream, ¬ textRec t B x = true) (hwf : WF env.domOf s.pairing)
    (herr : (run env s stream).2.1 = none) : (run env s stream).1.filter (textTrace t B) = [] := by
  induction stream generalizing s with
  | nil => rfl
  | cons x xs ih =>
    obtain ⟨r, s', _, hwf', herr', h⟩ :=
      run_cons_other env t B x xs s (Bool.eq_false_iff.2 (hst x (List.mem_cons_self ..))) hwf herr
    rw [h]
    exact ih s' (fun y hy => hst y (List.mem_cons_of_mem _ hy)) hwf' herr'

/-- What the generic theorem needs from a handler: records of key `k` (thread `t`, code in `B`); a continuation
    record alone is swallowed; a window whose `B`-records are exactly `all` yields a trace with property `P`. -/
structure Reasm (t : Nat) (B : Nat → Bool) (k : Key) (all : List Kevent) (P : TraceOut → Prop) : Prop where
  ktid : k.tid = t
  kB : B k.eid = true
  cont : ∀ tabs m, keyOf env.domOf m = k → m.qual = 0 → parseEventList env tabs [m] = .ok (none, tabs)
  final : ∀ tabs w, w.filter (fun x => B x.eventid) = all → GoodList env.domOf k w →
    ∃ tr tabs', parseEventList env tabs w = .ok (some tr, tabs') ∧ P tr

section
variable {env} {t : Nat} {B : Nat → Bool} {k : Key} {all : List Kevent} {P : TraceOut → Prop}
  (R : Reasm env t B k all P)
include R

theorem Reasm.B_of_key (x : Kevent) (hx : keyOf env.domOf x = k) : B x.eventid = true := by
  have := R.kB; rw [← hx] at this; exact this

theorem Reasm.textRec_of_key (x : Kevent) (hx : keyOf env.domOf x = k) : textRec t B x = true := by
  have h1 : x.tid = t := by rw [← R.ktid, ← hx]; rfl
  simp [textRec, h1, R.B_of_key x hx]

theorem Reasm.run_cons_final (x : Kevent) (xs : List Kevent) (s : Trace.PState)
    (w : List Kevent) (hst : (Pairing.step env.domOf s.pairing x).2 = some w)
    (hw : w.filter (fun x => B x.eventid) = all) (hgl : GoodList env.domOf k w)
    (hxs : xs.filter (textRec t B) = []) (hwf : WF env.domOf s.pairing)
    (herr : (run env s (x :: xs)).2.1 = none) :
    ∃ tr, (run env s (x :: xs)).1.filter (textTrace t B) = [tr] ∧ P tr := by
  obtain ⟨tr, tabs', hpe, hP⟩ := R.final s.tabs w hw hgl
  have hf : feed env s x = .ok (some tr, { pairing := (Pairing.step env.domOf s.pairing x).1, tabs := tabs' }) := by
    rw [feed_eq, hst]; simp only [hpe]
  rw [run_cons] at herr ⊢
  simp only [hf] at herr ⊢
  have hskip := run_skip env t B xs _ (List.filter_eq_nil_iff.1 hxs) (wf_step env.domOf s.pairing x hwf) herr
  have hmine : textTrace t B tr = true := by
    obtain ⟨⟨y, ys, rfl, hye⟩, hallw⟩ := hgl
    have hfo : firstOf tr.events = y := parseEventList_first env _ _ tr tabs' hpe
    have h1 : y.tid = t := by rw [← R.ktid]; exact (hallw y (List.mem_cons_self ..)).1
    have h2 : B y.eventid = true := by rw [hye]; exact R.kB
    simp [textTrace, hfo, textRec, h1, h2]
  exact ⟨tr, by simp [hskip, hmine], hP⟩

/-- The records of one text, all of key `k`, the first START-qualified and the last END-qualified (a single record is
    both), interleaved with records that are not `textRec`: exactly one `textTrace` trace, and it has property `P`.
    Stated at any moment of the text: the records `fed` have been fed, `rem` are to come, and once a record has
    been fed key `k` holds a list `w` whose `B`-records are `fed`. -/
theorem Reasm.run_chunks (stream : List Kevent) (s : Trace.PState) (fed rem w : List Kevent)
    (hq : ∀ a x b, all = a ++ x :: b → x.qual = (if a = [] then 1 else 0) + (if b = [] then 2 else 0))
    (hkeys : ∀ c ∈ all, keyOf env.domOf c = k)
    (hall : all = fed ++ rem) (hrem : rem ≠ []) (hstream : stream.filter (textRec t B) = rem)
    (hs : if fed = [] then w = [] else s.pairing k = some w) (hw : w.filter (fun x => B x.eventid) = fed)
    (hwf : WF env.domOf s.pairing) (herr : (run env s stream).2.1 = none) :
    ∃ tr, (run env s stream).1.filter (textTrace t B) = [tr] ∧ P tr := by
  induction stream generalizing s fed rem w with
  | nil => exact absurd hstream.symm hrem
  | cons x xs ih =>
    cases hbx : textRec t B x with
    | false =>
      have hxs : xs.filter (textRec t B) = rem := by simpa [List.filter_cons, hbx] using hstream
      obtain ⟨r, s', hf, hwf', herr', h⟩ := run_cons_other env t B x xs s hbx hwf herr
      rw [h]
      by_cases hfed : fed = []
      · exact ih s' fed rem w hall hrem hxs (by rwa [if_pos hfed] at hs ⊢) hw hwf' herr'
      · rw [if_neg hfed] at hs
        have hk : k ≠ keyOf env.domOf x := by
          intro hk; rw [R.textRec_of_key x hk.symm] at hbx; cases hbx
        -- the stored list of `k` is unchanged or extended by `x`, which is not a `B`-record
        have hBx : k.tid = x.tid → B x.eventid = false := by
          intro ht
          have h1 : x.tid = t := by rw [← ht, R.ktid]
          simpa [textRec, h1] using hbx
        have hs' : ∃ w', s'.pairing k = some w' ∧ w'.filter (fun x => B x.eventid) = fed := by
          rw [feed_pairing env s s' x r hf, step_fst_apply, if_neg hk, hs]
          split
          · exact ⟨w, rfl, hw⟩
          · split
            next hc => exact ⟨w ++ [x], rfl, by simp [List.filter_append, hw, hBx hc.2]⟩
            · exact ⟨w, rfl, hw⟩
        obtain ⟨w', hs', hw'⟩ := hs'
        exact ih s' fed rem w' hall hrem hxs (by rwa [if_neg hfed]) hw' hwf' herr'
    | true =>
      have hallx : all = fed ++ x :: xs.filter (textRec t B) := by
        rw [hall, ← hstream, List.filter_cons, hbx, if_pos rfl]
      have hkx : keyOf env.domOf x = k := hkeys x (by rw [hallx]; simp)
      have hqx := hq fed x _ hallx
      have hwx : (w ++ [x]).filter (fun x => B x.eventid) = fed ++ [x] := by
        simp [List.filter_append, hw, R.B_of_key x hkx]
      -- whichever record of the text `x` is, the list of `k` it completes or extends is `w ++ [x]`
      have hgl : GoodList env.domOf k (w ++ [x]) := by
        by_cases hfed : fed = []
        · rw [if_pos hfed] at hs; rw [hs, ← hkx]; exact goodList_single env.domOf x
        · rw [if_neg hfed] at hs
          exact goodList_snoc _ _ _ _ (hwf k w hs) (by rw [← hkx]; rfl) (by rw [← hkx]; rfl)
      by_cases hr : xs.filter (textRec t B) = []
      · have hst : (Pairing.step env.domOf s.pairing x).2 = some (w ++ [x]) := by
          by_cases hfed : fed = [] <;> simp [hfed] at hs <;> simp [step_snd, hqx, hfed, hr, hkx, hs]
        exact R.run_cons_final x xs s (w ++ [x]) hst (by rw [hwx, hallx, hr]) hgl hr hwf herr
      · have hf : feed env s x = .ok (none, { pairing := (Pairing.step env.domOf s.pairing x).1, tabs := s.tabs }) := by
          rw [feed_eq, step_snd, hqx, if_neg hr]
          by_cases hfed : fed = []
          · simp [hfed]
          · simp [hfed, R.cont s.tabs x hkx (by simp [hqx, hfed, hr])]
        have hown : (Pairing.step env.domOf s.pairing x).1 k = some (w ++ [x]) := by
          by_cases hfed : fed = [] <;> simp [hfed] at hs <;> simp [step_fst_apply, hqx, hfed, hr, hkx, hs]
        rw [run_cons] at herr ⊢
        simp only [hf, Option.toList_none, List.nil_append] at herr ⊢
        exact ih _ (fed ++ [x]) _ (w ++ [x]) (by rw [hallx]; simp) hr rfl (by rw [if_neg (by simp)]; exact hown) hwx
          (wf_step _ _ _ hwf) herr

/-- `run_chunks` for the records of one kernel-encoded text: `hq` and `hkeys` hold of `chunkEvents`. -/
theorem Reasm.run_text {eid : Nat} {ts : Nat → Nat} {hdr b : Bytes} (hk : k = ⟨env.domOf eid, t, eid⟩)
    (hall : all = chunkEvents t eid ts (splitChunks hdr b)) (stream : List Kevent) (s : Trace.PState)
    (hstream : stream.filter (textRec t B) = all)
    (hwf : WF env.domOf s.pairing) (herr : (run env s stream).2.1 = none) :
    ∃ tr, (run env s stream).1.filter (textTrace t B) = [tr] ∧ P tr := by
  have hne : all ≠ [] := by simp [hall, splitChunks, chunkEvents, tagFrom_cons]
  refine R.run_chunks stream s [] all [] (fun a x b h => ?_) ?_ rfl hne hstream rfl rfl hwf herr
  · rw [hall] at h
    simpa using tagFrom_qual h
  · intro c hc
    rw [hall] at hc
    obtain ⟨j, q, d, rfl⟩ := mem_tagFrom hc
    exact hk.symm

end

end trace
end KdVerif.Reassembly
