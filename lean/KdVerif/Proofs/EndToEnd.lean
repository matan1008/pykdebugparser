import KdVerif.Model.EndToEnd
import KdVerif.Props.C01
import KdVerif.Proofs.ContainerV2
import KdVerif.Proofs.Trunc
import KdVerif.Proofs.TracePipeline
import KdVerif.Model.ContainerV3
import KdVerif.Proofs.ContainerV3
/-
  Cross-layer composition lemmas about `Model/EndToEnd.lean` (`dumpOf`, `formatAll`, `formattedTraces`):
  * `dumpOf` on an encoded version-2 file (round trip of the container layer, composed with C01), and on an encoded
    version-3 file (`dumpOf_encoded_v3`: thread-map chunk + the records of all chunks);
  * `dumpOf` on a cut file (`dumpOf_trunc`: same thread map, events a prefix) and the prefix-preservation of every
    stage behind it (event filter, `runAnnot`, post-filters, `formatAll`);
  * the shape of what `formatAll` returns (`formatAll_shape`);
  * a readable dump is what `KdBufParser.parse`, the subject of C02 / C03 / C06, delivers (`dumpOf_is_parse`).
  Core Lean only.
-/
namespace KdVerif.EndToEnd
open KdVerif KdVerif.Reader KdVerif.Spec KdVerif.Trace KdVerif.Filters KdVerif.TracePipeline

/-- The record decoder of the composition IS C01's `from_kd_buf` model. -/
theorem decodeRecord_eq : decodeRecord = fromKdBuf := rfl

theorem decodeRecord_rejectsShort : RejectsShort decodeRecord :=
  fun x hx => ⟨_, C01.decode_rejects_other_lengths x hx⟩

theorem read_magic (f : V2File) :
    ((Reader.ofBytes (encodeV2 f)).read Gen.Consts.RAW_VERSION_SIZE).1 = Gen.Consts.RAW_VERSION2_BYTES ∧
    ((Reader.ofBytes (encodeV2 f)).read Gen.Consts.RAW_VERSION_SIZE).2.rest = v2Body f := by
  have h : (Reader.ofBytes (encodeV2 f)).rest = v2Magic ++ v2Body f := by
    simp [Reader.rest, Reader.ofBytes, encodeV2, v2Body]
  obtain ⟨h1, c1⟩ := read_cont h
  exact ⟨h1, c1.1⟩

/-- records whose first one does not begin with a zero byte: the flattened record area is empty or begins with a
    non-zero byte (what the greedy padding skipper needs to stop where the padding ends). -/
theorem recs_tail (f : V2File) (wf : f.WF) (h0 : ∀ x, f.recs.head? = some x → x.head? ≠ some 0) :
    f.recs.flatten = [] ∨ f.recs.flatten.head? ≠ some 0 ∧ f.recs.flatten ≠ [] :=
  recs_flatten_tail f wf h0

theorem magic3_ne_magic2 : ¬ Gen.Consts.RAW_VERSION3_BYTES = Gen.Consts.RAW_VERSION2_BYTES := by decide

/-- When `dumpOf` delivers a dump: the magic (`p` is what reading it returns) is one of the two, the header — and for
    version 3 the thread-map chunk — parses behind it, and the dump is the run's. -/
theorem dumpOf_ok_iff {plist : Bytes → Option PView} {file : Bytes} {p : Bytes × Reader}
    (hp : (Reader.ofBytes file).read Gen.Consts.RAW_VERSION_SIZE = p) (d : Dump) (c : Option PyErr) :
    dumpOf plist file = .ok (d, c) ↔
      (p.1 = Gen.Consts.RAW_VERSION2_BYTES ∧ ∃ hd r1, headerV2 p.2 = (.ok hd, r1) ∧
        d = { threadMap := threadMapOf hd.threadmap, events := (parseV2 decodeRecord Tables.empty p.2).events } ∧
        c = (parseV2 decodeRecord Tables.empty p.2).err) ∨
      (p.1 = Gen.Consts.RAW_VERSION3_BYTES ∧ ∃ hd r1 tm r2, headerV3 plist p.2 = (.ok hd, r1) ∧
        threadmapV3 r1 = (.ok tm, r2) ∧
        d = { threadMap := threadMapOf tm, events := (parseV3 plist decodeRecord freshParser p.2).events } ∧
        c = (parseV3 plist decodeRecord freshParser p.2).err) := by
  subst hp
  constructor
  · intro h
    unfold dumpOf at h
    dsimp only at h
    split at h
    · next hm =>
      split at h
      · cases h
      · next hd r1 hh =>
        cases h
        exact .inl ⟨hm, hd, r1, hh, rfl, rfl⟩
    · split at h
      · next hm =>
        split at h
        · cases h
        · next hd r1 hh =>
          split at h
          · cases h
          · next tm r2 ht =>
            cases h
            exact .inr ⟨hm, hd, r1, tm, r2, hh, ht, rfl, rfl⟩
      · cases h
  · rintro (⟨hm, hd, r1, hh, ed, ec⟩ | ⟨hm, hd, r1, tm, r2, hh, ht, ed, ec⟩)
    · rw [ed, ec]
      unfold dumpOf
      simp only [hm, if_true, hh]
    · rw [ed, ec]
      unfold dumpOf
      simp only [hm, magic3_ne_magic2, if_false, if_true, hh, ht]

theorem dumpOf_encoded (plist : Bytes → Option PView) (f : V2File) (wf : f.WF)
    (h0 : ∀ x, f.recs.head? = some x → x.head? ≠ some 0) :
    dumpOf plist (encodeV2 f) =
      .ok ({ threadMap := threadMapOf (f.threads.map toEntry), events := f.recs.map specDecode }, none) := by
  obtain ⟨hm, hr⟩ := read_magic f
  obtain ⟨hd, r', eh, htm⟩ := headerV2_encoded f wf hr
  have hd' : ∀ x ∈ f.recs, decodeRecord x = .ok (specDecode x) := fun x hx =>
    C01.decode_eq_spec x (wf.2.2.2.2 x hx).1 (wf.2.2.2.2 x hx).2
  obtain ⟨he, herr⟩ := parseV2_events decodeRecord specDecode Tables.empty f wf hd' h0 hr
  exact (dumpOf_ok_iff rfl _ _).2 (.inl ⟨hm, hd, r', eh, by rw [htm, he], herr.symm⟩)

/-- Without the first-byte hypothesis: the dump is still readable and its thread map is the file's. -/
theorem dumpOf_encoded_threadMap (plist : Bytes → Option PView) (f : V2File) (wf : f.WF) :
    ∃ d c, dumpOf plist (encodeV2 f) = .ok (d, c) ∧ d.threadMap = threadMapOf (f.threads.map toEntry) := by
  obtain ⟨hm, hr⟩ := read_magic f
  obtain ⟨hd, r', eh, htm⟩ := headerV2_encoded f wf hr
  exact ⟨_, _, (dumpOf_ok_iff rfl _ _).2 (.inl ⟨hm, hd, r', eh, rfl, rfl⟩), congrArg threadMapOf htm⟩

/-- **The cut dump as the trace layer sees it.**  When the container reader gets through the header of the cut file
    at all, it gets through the header of the whole file, the thread map is the same, and the events of the cut file
    are a prefix of the events of the whole file.  (The greedy zero skipper `_pad` looks one byte ahead, so a cut inside
    the padding — or inside leading zero bytes of the first record — ends the padding earlier than in the whole file;
    but then the cut file ends there too and delivers no event: `zeroSkip_detW`.) -/
theorem dumpOf_trunc (plist : Bytes → Option PView) (file : Bytes) (k : Nat) (d' : Dump) (c' : Option PyErr)
    (h : dumpOf plist (file.take k) = .ok (d', c')) :
    ∃ d c, dumpOf plist file = .ok (d, c) ∧ d'.threadMap = d.threadMap ∧ d'.events <+: d.events := by
  rcases (dumpOf_ok_iff rfl _ _).1 h with ⟨hm', hd', r1', hh', ed, _⟩ | ⟨hm', hd', r1', tm, r2', hh', ht', ed, _⟩
  · obtain ⟨hm, hr⟩ := magic_trunc file k rfl hm'
    obtain ⟨hd, r1, hh, htm, _⟩ := headerV2_detW k _ _ hr hd' r1' hh'
    refine ⟨_, _, (dumpOf_ok_iff rfl _ _).2 (.inl ⟨hm, hd, r1, hh, rfl, rfl⟩), ?_, ?_⟩
    · rw [ed]
      exact congrArg threadMapOf htm.symm
    · rw [ed]
      -- the projections are reduced first: left to `exact`, the unifier unfolds `parseV2` instead
      dsimp only
      exact parseV2_trunc decodeRecord decodeRecord_rejectsShort Tables.empty Tables.empty hr
  · obtain ⟨hm, hr⟩ := magic_trunc file k rfl hm'
    obtain ⟨r1, hh, hr1⟩ := Det.headerV3 plist k _ _ hr hd' r1' hh'
    obtain ⟨r2, ht, _⟩ := Det.threadmapV3 k r1 r1' hr1 tm r2' ht'
    refine ⟨_, _, (dumpOf_ok_iff rfl _ _).2 (.inr ⟨hm, hd', r1, tm, r2, hh, ht, rfl, rfl⟩), ?_, ?_⟩
    · rw [ed]
    · rw [ed]
      dsimp only
      exact parseV3_trunc plist decodeRecord decodeRecord_rejectsShort freshParser freshParser hr

theorem prefix_ite_filter {α : Type} (c : Bool) (q : α → Bool) {l₁ l₂ : List α} (h : l₁ <+: l₂) :
    (if c then l₁.filter q else l₁) <+: (if c then l₂.filter q else l₂) := by
  split
  · exact h.filter q
  · exact h

/-- The event filter (`kevents`: the three lazy `filter` stages) is per item. -/
theorem keventsWith_prefix (cfg : Cfg) (fc : List Nat) {l₁ l₂ : List Item} (h : l₁ <+: l₂) :
    keventsWith cfg fc l₁ <+: keventsWith cfg fc l₂ := by
  unfold keventsWith
  dsimp only
  refine prefix_ite_filter _ _ ?_
  cases cfg.filterTid with
  | none => exact h.filterMap asEvent
  | some t => exact (h.filterMap asEvent).filter _

theorem fedEvents_prefix (cfg : Cfg) {d' d : Dump} (h : d'.events <+: d.events) :
    fedEvents cfg d' <+: fedEvents cfg d :=
  keventsWith_prefix cfg _ (h.map _)

/-- `feed_generator` (with the tables at each yield) is causal. -/
theorem runAnnot_prefix (env : Env) (s : Trace.PState) (h₁ h₂ : List Kevent) :
    runAnnot env s h₁ <+: runAnnot env s (h₁ ++ h₂) := by
  induction h₁ generalizing s with
  | nil => exact List.nil_prefix
  | cons e es ih =>
    simp only [List.cons_append, runAnnot]
    cases feed env s e with
    | error err => exact List.prefix_refl _
    | ok p =>
      obtain ⟨r, s'⟩ := p
      dsimp only
      exact (List.prefix_append_right_inj _).2 (ih s')

/-- The post-filters decide per trace, from the trace and the tables at its own yield. -/
theorem postFilter_prefix (cfg : Cfg) {l₁ l₂ : List (TraceOut × Tabs)} (h : l₁ <+: l₂) :
    postFilter cfg l₁ <+: postFilter cfg l₂ := by
  unfold postFilter
  dsimp only
  refine prefix_ite_filter _ _ (prefix_ite_filter _ _ ?_)
  cases cfg.filterProcess with
  | none => exact h
  | some fp => exact h.filter _

theorem traces_prefix (env : Env) (obj : Obj) {d' d : Dump} (htm : d'.threadMap = d.threadMap)
    (hev : d'.events <+: d.events) :
    (traces env obj d').1.traces <+: (traces env obj d).1.traces := by
  obtain ⟨t, ht⟩ := fedEvents_prefix obj.cfg hev
  have hs : startState d' = startState d := by simp only [startState, htm]
  simp only [traces]
  rw [← ht, hs]
  exact postFilter_prefix _ (runAnnot_prefix env _ _ _)

/-- The line builder mapped over the traces stops at the first trace whose text raises: causal as well. -/
theorem formatAll_prefix (sh : Format.Show) {l₁ l₂ : List (TraceOut × Tabs)} (h : l₁ <+: l₂) :
    (formatAll sh l₁).1 <+: (formatAll sh l₂).1 := by
  obtain ⟨t, rfl⟩ := h
  induction l₁ with
  | nil => exact List.nil_prefix
  | cons p l ih =>
    obtain ⟨o, T⟩ := p
    simp only [List.cons_append, formatAll]
    cases o.text with
    | error e => exact List.prefix_refl _
    | ok body =>
      dsimp only
      exact (List.cons_prefix_cons).2 ⟨rfl, ih⟩

theorem formattedTraces_lines (env : Env) (obj : Obj) (sh : Format.Show) (plist : Bytes → Option PView) (file : Bytes)
    (d : Dump) (c : Option PyErr) (h : dumpOf plist file = .ok (d, c)) :
    (formattedTraces env obj sh plist file).1 = (formatAll sh (traces env obj d).1.traces).1 := by
  simp only [formattedTraces, h]

theorem formattedTraces_err (env : Env) (obj : Obj) (sh : Format.Show) (plist : Bytes → Option PView) (file : Bytes)
    (d : Dump) (c : Option PyErr) (h : dumpOf plist file = .ok (d, c)) :
    (formattedTraces env obj sh plist file).2 =
      match (formatAll sh (traces env obj d).1.traces).2 with
      | some e => some e
      | none => match (traces env obj d).1.err with
        | some e => some e
        | none => c := by
  simp only [formattedTraces, h]
  cases (formatAll sh (traces env obj d).1.traces).2 <;> cases (traces env obj d).1.err <;> rfl

theorem formattedTraces_unreadable (env : Env) (obj : Obj) (sh : Format.Show) (plist : Bytes → Option PView)
    (file : Bytes) (e : PyErr) (h : dumpOf plist file = .error e) :
    formattedTraces env obj sh plist file = ([], some e) := by
  simp only [formattedTraces, h]

/-- C06 `e2e_truncation_prefix`, for every byte string and every cut offset. -/
theorem formattedTraces_trunc (env : Env) (obj : Obj) (sh : Format.Show) (plist : Bytes → Option PView) (file : Bytes)
    (k : Nat) :
    (formattedTraces env obj sh plist (file.take k)).1 <+: (formattedTraces env obj sh plist file).1 := by
  cases h' : dumpOf plist (file.take k) with
  | error e => rw [formattedTraces_unreadable env obj sh plist _ e h']; exact List.nil_prefix
  | ok p =>
    obtain ⟨d', c'⟩ := p
    obtain ⟨d, c, h, htm, hev⟩ := dumpOf_trunc plist file k d' c' h'
    rw [formattedTraces_lines env obj sh plist _ d' c' h', formattedTraces_lines env obj sh plist _ d c h]
    exact formatAll_prefix sh (traces_prefix env obj htm hev)

/-- The line `_format_trace` builds for a trace whose `str()` is `body`, on the tables at the trace's yield. -/
def lineOf (sh : Format.Show) (p : TraceOut × Tabs) (body : String) : String :=
  Format.formatTrace sh Format.Colour.off (fmtTables p.2)
    { timestamp := (firstOf p.1.events).timestamp, tid := (firstOf p.1.events).tid, body := body }

/-- **Shape of the formatted list.**  Line `i` is the line of trace `i` (nothing added, nothing dropped, order kept);
    the list ends where the traces end (no rendering exception) or at the first trace whose text raises (that exception is
    reported). -/
theorem formatAll_shape (sh : Format.Show) (l : List (TraceOut × Tabs)) :
    (∀ (i : Nat) line, (formatAll sh l).1[i]? = some line →
        ∃ p body, l[i]? = some p ∧ p.1.text = .ok body ∧ line = lineOf sh p body) ∧
    (((formatAll sh l).1.length = l.length ∧ (formatAll sh l).2 = none) ∨
     (∃ p e, l[(formatAll sh l).1.length]? = some p ∧ p.1.text = .error e ∧ (formatAll sh l).2 = some e)) := by
  induction l with
  | nil =>
    refine ⟨?_, Or.inl ⟨rfl, rfl⟩⟩
    intro i line h; simp [formatAll] at h
  | cons p l ih =>
    obtain ⟨o, T⟩ := p
    obtain ⟨ih1, ih2⟩ := ih
    cases ht : o.text with
    | error e =>
      have hf : formatAll sh ((o, T) :: l) = ([], some e) := by simp only [formatAll, ht]
      rw [hf]
      refine ⟨?_, Or.inr ⟨(o, T), e, rfl, ht, rfl⟩⟩
      intro i line h; simp at h
    | ok body =>
      have hf : formatAll sh ((o, T) :: l) = (lineOf sh (o, T) body :: (formatAll sh l).1, (formatAll sh l).2) := by
        simp only [formatAll, ht, lineOf]
      rw [hf]
      refine ⟨?_, ?_⟩
      · intro i line h
        cases i with
        | zero =>
          simp only [List.getElem?_cons_zero, Option.some.injEq] at h
          exact ⟨(o, T), body, rfl, ht, h.symm⟩
        | succ i =>
          simp only [List.getElem?_cons_succ] at h ⊢
          exact ih1 i line h
      · rcases ih2 with ⟨h1, h2⟩ | ⟨q, e, h1, h2, h3⟩
        · exact Or.inl ⟨by simp only [List.length_cons, h1], h2⟩
        · exact Or.inr ⟨q, e, by simpa only [List.length_cons, List.getElem?_cons_succ] using h1, h2, h3⟩


theorem mem_of_mem_ite_filter {α : Type} (c : Bool) (q : α → Bool) (l : List α) (p : α)
    (h : p ∈ (if c then l.filter q else l)) : p ∈ l := by
  split at h
  · exact (List.mem_filter.1 h).1
  · exact h

theorem mem_of_mem_postFilter (cfg : Cfg) (l : List (TraceOut × Tabs)) (p : TraceOut × Tabs)
    (h : p ∈ postFilter cfg l) : p ∈ l := by
  unfold postFilter at h
  dsimp only at h
  have h2 := mem_of_mem_ite_filter _ _ _ _ (mem_of_mem_ite_filter _ _ _ _ h)
  cases hfp : cfg.filterProcess with
  | none => rw [hfp] at h2; exact h2
  | some fp => rw [hfp] at h2; exact (List.mem_filter.1 h2).1

theorem mem_traces (env : Env) (obj : Obj) (d : Dump) (p : TraceOut × Tabs) (h : p ∈ (traces env obj d).1.traces) :
    p ∈ runAnnot env (startState d) (fedEvents obj.cfg d) :=
  mem_of_mem_postFilter obj.cfg _ p h

/-- The two views of the lookup tables the formatter is given (composition glue vs. the C14 process-column half). -/
theorem fmtTables_eq (t : Tabs) : fmtTables t = Declared.fmtTables t.threadsPids t.pidsNames := rfl

theorem fedEvents_nofilter (cfg : Cfg) (d : Dump) (h1 : cfg.filterTid = none) (h2 : cfg.filterClass = [])
    (h3 : cfg.filterSubclass = []) : fedEvents cfg d = d.events := by
  have hc : effectiveClasses cfg = [] := by
    simp [effectiveClasses, addTraceClass, addFsClass, h2, h3]
  simp only [fedEvents, keventsWith, h1, hc, h3]
  simp only [List.isEmpty_nil, Bool.not_true, Bool.or_self, Bool.false_eq_true, if_false, List.filterMap_map]
  induction d.events with
  | nil => rfl
  | cons e es ih => simpa [asEvent] using ih

/-- `parse_v3` resets the attributes it reports before it looks at the blocks: what it delivers and how it ends depends
    on the attributes of the parser object only through `reset`. -/
theorem tailV3_reset {ε : Type} (plist : Bytes → Option PView) (evs : List ε) (t : Tables) (m m' : V3Meta)
    (hm : m.reset = m'.reset) (r : Reader) :
    (tailV3 plist evs t m r).outs = (tailV3 plist evs t m' r).outs ∧
    (tailV3 plist evs t m r).err = (tailV3 plist evs t m' r).err := by
  unfold tailV3 tailOfBlocks
  dsimp only
  rw [hm]
  split
  · exact ⟨rfl, rfl⟩
  · split <;> exact ⟨rfl, rfl⟩

/-- What a version-3 run delivers and how it ends does not depend on what the parser object held before
    (`set_thread_map` clears the tables; the attributes are reset). -/
theorem parseV3_prior_irrelevant {ε : Type} (plist : Bytes → Option PView) (dec : Bytes → Except PyErr ε)
    (prior prior' : PState) (r : Reader) :
    (parseV3 plist dec prior r).outs = (parseV3 plist dec prior' r).outs ∧
    (parseV3 plist dec prior r).err = (parseV3 plist dec prior' r).err := by
  unfold parseV3
  cases headerV3 plist r with
  | mk res r1 =>
  cases res with
  | error e => exact ⟨rfl, rfl⟩
  | ok hd =>
    dsimp only
    cases threadmapV3 r1 with
    | mk res2 r2 =>
    cases res2 with
    | error e => exact ⟨rfl, rfl⟩
    | ok tm =>
      dsimp only
      cases (chunkLoop dec (r2.rest.length / 16 + 2) r2).2.1 with
      | some e => exact ⟨rfl, rfl⟩
      | none =>
        dsimp only
        refine tailV3_reset plist _ _ _ _ ?_ _
        rfl

/-- while the events are delivered the tables are `set_thread_map` of the thread-map chunk. -/
theorem parseV3_tmTables {ε : Type} (plist : Bytes → Option PView) (dec : Bytes → Except PyErr ε) (prior : PState)
    {r r1 r2 : Reader} {hd : List Nat × Bytes} {tm : List ThreadEntry} (hh : headerV3 plist r = (.ok hd, r1))
    (ht : threadmapV3 r1 = (.ok tm, r2)) :
    (parseV3 plist dec prior r).tmTables = setThreadMap prior.tables tm := by
  unfold parseV3
  rw [hh]
  dsimp only
  rw [ht]
  dsimp only
  have tl : ∀ (evs : List ε) (t : Tables) (m : V3Meta) (x : Reader), (tailV3 plist evs t m x).tmTables = t := by
    intro evs t m x
    unfold tailV3
    dsimp only
    split
    · rfl
    · unfold tailOfBlocks
      split <;> rfl
  split
  · rfl
  · exact tl _ _ _ _

/-- A readable dump of the composition is what `KdBufParser.parse` (the subject of C02, C03 and C06) delivers for the
    same bytes, whatever the parser object held before: the same events, the same final exception, and the tables are
    `set_thread_map` of the thread map whose decoded form the trace layer receives. -/
theorem dumpOf_is_parse (plist : Bytes → Option PView) (prior : PState) (file : Bytes) (d : Dump) (c : Option PyErr)
    (h : dumpOf plist file = .ok (d, c)) :
    (parse plist fromKdBuf prior file).events = d.events ∧ (parse plist fromKdBuf prior file).err = c ∧
    ∃ tm, d.threadMap = threadMapOf tm ∧ (parse plist fromKdBuf prior file).tmTables = setThreadMap prior.tables tm := by
  rcases (dumpOf_ok_iff rfl _ _).1 h with ⟨hm, hd, r1, hh, ed, ec⟩ | ⟨hm, hd, r1, tm, r2, hh, ht, ed, ec⟩
  · rw [parse_v2 plist fromKdBuf prior hm, ed, ec]
    simp only [parseV2, hh, events_evs]
    exact ⟨rfl, rfl, hd.threadmap, rfl, rfl⟩
  · obtain ⟨p1, p2⟩ := parseV3_prior_irrelevant plist fromKdBuf prior freshParser
      ((Reader.ofBytes file).read Gen.Consts.RAW_VERSION_SIZE).2
    rw [parse_v3 plist fromKdBuf prior hm, ed, ec]
    refine ⟨?_, p2, tm, rfl, parseV3_tmTables plist fromKdBuf prior hh ht⟩
    simp only [Run3.events, p1]
    rfl

theorem decodeRecord_v3recs (f : V3File) (wf : f.WF) : ∀ x ∈ f.recs, decodeRecord x = .ok (specDecode x) := by
  intro x hx
  simp only [V3File.recs, List.mem_flatMap] at hx
  obtain ⟨c, hc, hxc⟩ := hx
  have := (wf.2.2.2.2.2.2.2.2.2.1 c hc).2.2.2.2 x hxc
  exact C01.decode_eq_spec x this.1 this.2

/-- **The encoded version-3 file as the trace layer sees it.**  The thread-map chunk's entries and the decodings of the
    records of ALL chunks in file order; the exception the container ends with is the one the block loop / log loop ends
    with on exactly the file's blocks. -/
theorem dumpOf_encoded_v3 (plist : Bytes → Option PView) (f : V3File) (wf : f.WF) (hcpu : plist f.cpu ≠ none) :
    ∃ rd, dumpOf plist (encodeV3 f) =
      .ok ({ threadMap := threadMapOf (f.threads.map toEntry), events := f.recs.map specDecode },
           (tailOfBlocks plist (f.recs.map specDecode) (setThreadMap Tables.empty (f.threads.map toEntry))
              { freshParser.md with header := some (f.hdr, f.cpu) } (f.blocks.map fun b => (b.tag, b.payload)) rd).err) := by
  obtain ⟨r2, r3, rd, hm, eh, et, hp⟩ := parse_encodeV3_steps plist decodeRecord specDecode decodeRecord_rejectsShort
    freshParser f wf hcpu (decodeRecord_v3recs f wf)
  have hev : (tailOfBlocks plist (f.recs.map specDecode) (setThreadMap freshParser.tables (f.threads.map toEntry))
      { freshParser.md with header := some (f.hdr, f.cpu) } (f.blocks.map fun b => (b.tag, b.payload)) rd).events =
      f.recs.map specDecode := by
    unfold tailOfBlocks
    split
    · exact events_evs _ _ _ _ _ _
    · exact events_evs_logs _ _ _ _ _ _ _
  refine ⟨rd, (dumpOf_ok_iff rfl _ _).2 (.inr ⟨hm, _, r2, _, r3, eh, et, ?_, ?_⟩)⟩
  · rw [hp, hev]
  · rw [hp]
    rfl

/-! A concrete dump: the non-vacuity witness of the composition theorems. -/

/-- three kernel trace codes, Latin-1 as `bytes.decode`, no generated decoder. -/
def exEnv : Env :=
  { codes := fun k => [(0x7010010, "TRACE_STRING_PROC_EXIT"), (0x7000004, "TRACE_DATA_NEWTHREAD"),
                       (0x7010004, "TRACE_STRING_NEWTHREAD")].lookup k,
    host := ⟨fun _ => none, fun _ => none, fun _ => none, fun _ => none, 0⟩,
    tables := ⟨[], [], [], ⟨"", 0⟩, [], [], 0⟩, decoders := [],
    dec := fun bs => .ok (String.ofList (bs.map Char.ofNat)) }

/-- a 64-byte `kd_buf`: timestamp, 32 argument bytes, thread id, debug id, cpu / unused. -/
def exRecord (ts tid debugid : Nat) (data : Bytes) : Bytes :=
  toLE 8 ts ++ (data ++ zeros (32 - data.length)) ++ toLE 8 tid ++ toLE 4 debugid ++ zeros 12

/-- thread 7 declared twice by the map (the later entry wins); it announces thread 9 of pid 50 and names it "new";
    thread 8 is never declared; four bytes of padding. -/
def exFile : V2File :=
  ⟨[⟨7, 41, [111, 108, 100], [120, 0, 255]⟩, ⟨7, 42, [108, 97, 117, 110, 99, 104, 100], []⟩], 4,
   [exRecord 1 7 0x7010010 [120], exRecord 2 7 0x7000004 (toLE 8 9 ++ toLE 8 50), exRecord 3 9 0x7010010 [121],
    exRecord 4 7 0x7010004 [110, 101, 119], exRecord 5 9 0x7010010 [122], exRecord 6 8 0x7010010 [123]], 1, 24000000⟩

theorem exFile_wf : exFile.WF := by
  unfold V2File.WF V2Thread.WF IsBytes
  decide +kernel

theorem exFile_first : ∀ x, exFile.recs.head? = some x → x.head? ≠ some 0 := by
  intro x hx
  simp only [exFile, List.head?_cons, Option.some.injEq] at hx
  subst hx; decide

end KdVerif.EndToEnd
