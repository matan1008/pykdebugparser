import KdVerif.Spec.TraceCodes
import KdVerif.Proofs.Pairing
/-
  Lemmas for C19: the three string primitives on rendered lines, the dict fold, what the gate answers for the
  windows the pairing delivers, and the re-keying simulation.
-/
namespace KdVerif.TraceCodes

theorem digitChar_facts (up : Bool) (d : Nat) (h : d < 16) :
    hexVal (digitChar up d) = some d ∧ isSpace (digitChar up d) = false
    ∧ (digitChar up d).toNat < 127 ∧ (digitChar up d == '_') = false ∧ (digitChar up d == 'x') = false
    ∧ (digitChar up d == 'X') = false ∧ (digitChar up d == '+') = false ∧ (digitChar up d == '-') = false
    ∧ cSpace (digitChar up d) = false := by
  revert up d
  decide +kernel

theorem break_is_space_cp : ∀ n ∈ Gen.Unicode.lineBreaks, isSpaceCp n = true := by decide +kernel

/-- Every line boundary is white space (so a white-space-free name holds no boundary). -/
theorem isSpace_of_isBreak {c : Char} (h : isBreak c = true) : isSpace c = true := by
  simp only [isBreak, isBreakCp, List.contains_iff_mem] at h
  exact break_is_space_cp _ h

theorem isBreak_false_of_not_space {c : Char} (h : isSpace c = false) : isBreak c = false := by
  cases hb : isBreak c
  · rfl
  · rw [isSpace_of_isBreak hb] at h; cases h

theorem isBlank_iff {c : Char} : isBlank c = true ↔ isSpace c = true ∧ isBreak c = false := by
  simp [isBlank]

theorem linesFrom_true_eq (rest : List Char) (h : rest.head? ≠ some '\n') :
    linesFrom true rest = linesFrom false rest := by
  cases rest with
  | nil => rfl
  | cons c cs =>
    have hc : (c == '\n') = false := by
      cases hcn : c == '\n'
      · rfl
      · exfalso; apply h; simp at hcn; simp [hcn]
    simp [linesFrom, hc]

theorem linesFrom_nobreak (l rest : List Char) (hl : ∀ c ∈ l, isBreak c = false) (b : Bool) (hb : l ≠ []) :
    linesFrom b (l ++ rest) =
      match linesFrom false rest with
      | [] => [l]
      | x :: xs => (l ++ x) :: xs := by
  induction l generalizing b with
  | nil => exact absurd rfl hb
  | cons c cs ih =>
    have hc : isBreak c = false := hl c (by simp)
    have hcn : (c == '\n') = false := by
      cases h : c == '\n'
      · rfl
      · simp at h; subst h; revert hc; decide
    by_cases hcs : cs = []
    · subst hcs
      simp only [List.cons_append, List.nil_append, linesFrom, hcn, Bool.and_false, hc]
      cases linesFrom false rest <;> simp
    · have := ih (fun c hc => hl c (by simp [hc])) false hcs
      simp only [List.cons_append, linesFrom, hcn, Bool.and_false, hc, this]
      cases linesFrom false rest <;> simp

theorem linesFrom_term (t : Term) (ht : t.ok = true) (rest : List Char) (h : rest.head? ≠ some '\n') :
    linesFrom false (t.chars ++ rest) = [] :: linesFrom false rest := by
  cases t with
  | single c =>
    simp only [Term.ok] at ht
    simp only [Term.chars, List.cons_append, List.nil_append, linesFrom, ht]
    cases c == '\r' <;> simp [linesFrom_true_eq rest h]
  | crlf =>
    have h1 : isBreak '\r' = true := by decide
    simp [Term.chars, linesFrom, h1]

theorem linesFrom_line (l : List Char) (t : Term) (rest : List Char) (hl : ∀ c ∈ l, isBreak c = false)
    (hne : l ≠ []) (ht : t.ok = true) (h : rest.head? ≠ some '\n') :
    linesFrom false (l ++ (t.chars ++ rest)) = l :: linesFrom false rest := by
  rw [linesFrom_nobreak l _ hl false hne, linesFrom_term t ht rest h]
  simp

theorem linesFrom_last (l : List Char) (hl : ∀ c ∈ l, isBreak c = false) (hne : l ≠ []) :
    linesFrom false l = [l] := by
  have := linesFrom_nobreak l [] hl false hne
  simpa [linesFrom] using this

theorem splitWs_nil : splitWs [] = [] := rfl

theorem splitAux_nospace (t rest : List Char) (ht : ∀ c ∈ t, isSpace c = false) :
    splitAux (t ++ rest) = (t ++ (splitAux rest).1, (splitAux rest).2) := by
  induction t with
  | nil => rfl
  | cons c cs ih =>
    have hc : isSpace c = false := ht c (by simp)
    simp [splitAux, hc, ih (fun c hc => ht c (by simp [hc]))]

theorem splitAux_space (c : Char) (rest : List Char) (hc : isSpace c = true) :
    splitAux (c :: rest) = ([], splitWs rest) := by
  simp [splitAux, hc, splitWs]

theorem splitWs_space (c : Char) (rest : List Char) (hc : isSpace c = true) :
    splitWs (c :: rest) = splitWs rest := by
  simp [splitWs, splitAux_space c rest hc, pushTok]

theorem splitWs_spaces (sp rest : List Char) (hs : ∀ c ∈ sp, isSpace c = true) :
    splitWs (sp ++ rest) = splitWs rest := by
  induction sp with
  | nil => rfl
  | cons c cs ih =>
    rw [List.cons_append, splitWs_space c _ (hs c (by simp)), ih (fun c hc => hs c (by simp [hc]))]

theorem splitWs_token (t rest : List Char) (hne : t ≠ []) (ht : ∀ c ∈ t, isSpace c = false)
    (hr : ∀ c, rest.head? = some c → isSpace c = true) :
    splitWs (t ++ rest) = t :: splitWs rest := by
  cases rest with
  | nil =>
    have : t.isEmpty = false := by cases t <;> simp_all
    have e := splitAux_nospace t [] ht
    simp only [List.append_nil, splitAux] at e
    simp [splitWs, e, pushTok, this, splitAux]
  | cons c r =>
    have hc : isSpace c = true := hr c rfl
    have : t.isEmpty = false := by cases t <;> simp_all
    rw [splitWs_space c r hc]
    simp [splitWs, splitAux_nospace t (c :: r) ht, splitAux_space c r hc, pushTok, this]

theorem splitWs_line (lead t1 sep t2 trail : List Char) (hlead : ∀ c ∈ lead, isSpace c = true)
    (h1ne : t1 ≠ []) (h1 : ∀ c ∈ t1, isSpace c = false) (hsne : sep ≠ []) (hsep : ∀ c ∈ sep, isSpace c = true)
    (h2ne : t2 ≠ []) (h2 : ∀ c ∈ t2, isSpace c = false) (htr : ∀ c, trail.head? = some c → isSpace c = true) :
    splitWs (lead ++ (t1 ++ (sep ++ (t2 ++ trail)))) = t1 :: t2 :: splitWs trail := by
  rw [splitWs_spaces lead _ hlead, splitWs_token t1 _ h1ne h1, splitWs_spaces sep _ hsep,
    splitWs_token t2 _ h2ne h2 htr]
  intro c hc
  cases sep with
  | nil => exact absurd rfl hsne
  | cons s ss => simp at hc; subst hc; exact hsep _ (by simp)

def ofDigits (acc : Nat) (ds : List Nat) : Nat := ds.foldl (fun a d => a * 16 + d) acc

theorem hexDigitsAux_spec (fuel n : Nat) (h : n < fuel) :
    (∀ d ∈ hexDigitsAux fuel n, d < 16) ∧ hexDigitsAux fuel n ≠ [] ∧ ofDigits 0 (hexDigitsAux fuel n) = n := by
  induction fuel generalizing n with
  | zero => omega
  | succ f ih =>
    unfold hexDigitsAux
    by_cases hn : n < 16
    · simp [hn, ofDigits]
    · have := ih (n / 16) (by omega)
      simp only [hn, if_false]
      refine ⟨?_, by simp, ?_⟩
      · intro d hd
        rcases List.mem_append.mp hd with hd | hd
        · exact this.1 d hd
        · simp at hd; omega
      · simp only [ofDigits, List.foldl_append, List.foldl_cons, List.foldl_nil]
        have e := this.2.2
        simp only [ofDigits] at e
        rw [e]; omega

theorem hexDigitsNat_spec (n : Nat) :
    (∀ d ∈ hexDigitsNat n, d < 16) ∧ hexDigitsNat n ≠ [] ∧ ofDigits 0 (hexDigitsNat n) = n :=
  hexDigitsAux_spec (n + 1) n (by omega)

theorem ofDigits_zeros (z : Nat) (ds : List Nat) : ofDigits 0 (List.replicate z 0 ++ ds) = ofDigits 0 ds := by
  induction z with
  | zero => rfl
  | succ z ih => simpa [List.replicate_succ, ofDigits] using ih

theorem Entry.digitValues_spec (e : Entry) :
    (∀ d ∈ e.digitValues, d < 16) ∧ e.digitValues ≠ [] ∧ ofDigits 0 e.digitValues = e.id := by
  have h := hexDigitsNat_spec e.id
  refine ⟨?_, ?_, ?_⟩
  · intro d hd
    rcases List.mem_append.mp hd with hd | hd
    · have := List.eq_of_mem_replicate hd; omega
    · exact h.1 d hd
  · intro hc
    have := List.append_eq_nil_iff.mp hc
    exact h.2.1 this.2
  · rw [Entry.digitValues, ofDigits_zeros]; exact h.2.2

theorem scanDigits_digits (ds : List Nat) (hd : ∀ d ∈ ds, d < 16) (up : Nat → Bool) (acc : Nat) :
    scanDigits acc false (ds.mapIdx fun i d => digitChar (up i) d) = some (ofDigits acc ds, []) := by
  induction ds generalizing up acc with
  | nil => rfl
  | cons d ds ih =>
    obtain ⟨h1, -, -, h5, -⟩ := digitChar_facts (up 0) d (hd d (by simp))
    rw [List.mapIdx_cons]
    simp only [scanDigits, h5, h1]
    exact ih (fun d h => hd d (by simp [h])) (fun i => up (i + 1)) _

theorem map_xform_ascii (l : List Char) (h : ∀ c ∈ l, c.toNat < 127) : l.map xform = l := by
  induction l with
  | nil => rfl
  | cons c cs ih =>
    have hc := h c (by simp)
    simp [xform, hc, ih (fun c hc => h c (by simp [hc]))]

theorem mem_digits {ds : List Nat} (hd : ∀ d ∈ ds, d < 16) {up : Nat → Bool} {c : Char}
    (hc : c ∈ ds.mapIdx fun i d => digitChar (up i) d) : ∃ u d, d < 16 ∧ c = digitChar u d := by
  rw [List.mem_mapIdx] at hc
  obtain ⟨i, hi, rfl⟩ := hc
  exact ⟨up i, ds[i], hd _ (List.getElem_mem hi), rfl⟩

theorem prefix_facts (p : PrefixStyle) : ∀ c ∈ p.chars, c.toNat < 127 ∧ isSpace c = false := by
  cases p <;> decide

/-- `int(token, 16)` of a rendered id (prefix in either case or none, leading zeros, digits in any
    mix of cases) is the id. -/
theorem pyInt16_token (p : PrefixStyle) (ds : List Nat) (hne : ds ≠ []) (hd : ∀ d ∈ ds, d < 16)
    (up : Nat → Bool) :
    pyInt16 (p.chars ++ ds.mapIdx fun i d => digitChar (up i) d) = .ok (ofDigits 0 ds : Nat) := by
  have hasc : ∀ c ∈ p.chars ++ ds.mapIdx (fun i d => digitChar (up i) d), c.toNat < 127 := by
    intro c hc
    rcases List.mem_append.mp hc with hc | hc
    · exact (prefix_facts p c hc).1
    · obtain ⟨u, d, hd', rfl⟩ := mem_digits hd hc
      exact (digitChar_facts u d hd').2.2.1
  have hscan := scanDigits_digits ds hd up 0
  unfold pyInt16
  rw [map_xform_ascii _ hasc]
  cases ds with
  | nil => exact absurd rfl hne
  | cons d0 ds' =>
    rw [List.mapIdx_cons] at hscan ⊢
    obtain ⟨f1, -, -, f5, f6, f7, f8, f9, f10⟩ := digitChar_facts (up 0) d0 (hd d0 (by simp))
    have hcs : ∀ c ∈ List.mapIdx (fun i d => digitChar (up (i + 1)) d) ds',
        (c == 'x') = false ∧ (c == 'X') = false := by
      intro c hc
      obtain ⟨u, d, hd', rfl⟩ := mem_digits (up := fun i => up (i + 1)) (fun d h => hd d (by simp [h])) hc
      have := digitChar_facts u d hd'
      exact ⟨this.2.2.2.2.1, this.2.2.2.2.2.1⟩
    generalize digitChar (up 0) d0 = c0 at *
    generalize List.mapIdx (fun i d => digitChar (up (i + 1)) d) ds' = cs at *
    have hstrip : stripPrefix (c0 :: cs) = c0 :: cs := by
      cases cs with
      | nil => rfl
      | cons x r =>
        have hx := hcs x (by simp)
        simp [stripPrefix, hx.1, hx.2]
    have hbody : parseBody false (c0 :: cs) = .ok (ofDigits 0 (d0 :: ds') : Nat) := by
      simp [parseBody, f1, hscan]
    have e1 : cSpace '0' = false := by decide
    have hs : stripSign ((p.chars ++ c0 :: cs).dropWhile cSpace) = (false, p.chars ++ c0 :: cs) := by
      cases p with
      | none => simp [PrefixStyle.chars, List.dropWhile_cons_of_neg, f10, stripSign, f8, f9]
      | lower | upper => simp [PrefixStyle.chars, List.dropWhile_cons_of_neg, e1, stripSign]
    have hp : stripPrefix (p.chars ++ c0 :: cs) = c0 :: cs := by
      cases p with
      | none => exact hstrip
      | lower | upper => simp [PrefixStyle.chars, stripPrefix, f5]
    simp only [hs, hp, hbody]

theorem Entry.token_facts (e : Entry) : e.token ≠ [] ∧ ∀ c ∈ e.token, isSpace c = false := by
  have hv := e.digitValues_spec
  constructor
  · intro h
    have hlen : e.digits.length = e.digitValues.length := by simp [Entry.digits]
    rw [(List.append_eq_nil_iff.mp h).2] at hlen
    exact hv.2.1 (List.eq_nil_of_length_eq_zero hlen.symm)
  · intro c hc
    rcases List.mem_append.mp hc with hc | hc
    · exact (prefix_facts _ c hc).2
    · obtain ⟨u, d, hd, rfl⟩ := mem_digits hv.1 hc
      exact (digitChar_facts u d hd).2.1

theorem Entry.pyInt16_token (e : Entry) : pyInt16 e.token = .ok (e.id : Int) := by
  have hv := e.digitValues_spec
  have := TraceCodes.pyInt16_token e.pfx e.digitValues hv.2.1 hv.1 e.upper
  rwa [hv.2.2] at this

theorem parseLine_entry (e : Entry) (h : e.WF) : parseLine e.line = .ok ((e.id : Int), e.name) := by
  have ht := e.token_facts
  have hsplit := splitWs_line e.lead e.token e.sep e.name.toList e.trail
    (fun c hc => (isBlank_iff.mp (h.lead_blank c hc)).1) ht.1 ht.2 h.sep_ne
    (fun c hc => (isBlank_iff.mp (h.sep_blank c hc)).1) h.name_ne h.name_nospace h.trail_head
  simp only [parseLine, Entry.line, hsplit, e.pyInt16_token, String.ofList_toList]

theorem Entry.line_facts (e : Entry) (h : e.WF) : e.line ≠ [] ∧ ∀ c ∈ e.line, isBreak c = false := by
  have ht := e.token_facts
  refine ⟨?_, ?_⟩
  · intro hc
    simp only [Entry.line, List.append_eq_nil_iff] at hc
    exact ht.1 hc.2.1
  · intro c hc
    simp only [Entry.line, List.mem_append] at hc
    rcases hc with hc | hc | hc | hc | hc
    · exact (isBlank_iff.mp (h.lead_blank c hc)).2
    · exact isBreak_false_of_not_space (ht.2 c hc)
    · exact (isBlank_iff.mp (h.sep_blank c hc)).2
    · exact isBreak_false_of_not_space (h.name_nospace c hc)
    · exact h.trail_nobreak c hc

theorem head_ne_newline_of_nobreak (l rest : List Char) (hne : l ≠ []) (hl : ∀ c ∈ l, isBreak c = false) :
    (l ++ rest).head? ≠ some '\n' := by
  cases l with
  | nil => exact absurd rfl hne
  | cons c cs =>
    intro h
    simp at h
    have := hl c (by simp)
    subst h
    revert this; decide

theorem renderLines_head (es : List Entry) (hes : ∀ e ∈ es, e.WF) (rest : List Char)
    (hr : rest.head? ≠ some '\n') : (renderLines es ++ rest).head? ≠ some '\n' := by
  cases es with
  | nil => simpa [renderLines] using hr
  | cons e es =>
    have hl := e.line_facts (hes e (by simp))
    simp only [renderLines, List.flatMap_cons, List.append_assoc]
    exact head_ne_newline_of_nobreak _ _ hl.1 hl.2

theorem splitLines_render (es : List Entry) (hes : ∀ e ∈ es, e.WF) (rest : List Char)
    (hr : rest.head? ≠ some '\n') :
    splitLines (renderLines es ++ rest) = es.map Entry.line ++ splitLines rest := by
  induction es with
  | nil => simp [renderLines]
  | cons e es ih =>
    have hw := hes e (by simp)
    have hl := e.line_facts hw
    have hes' : ∀ e ∈ es, e.WF := fun e he => hes e (by simp [he])
    have hhead := renderLines_head es hes' rest hr
    have ih' := ih hes'
    simp only [splitLines] at ih' ⊢
    have e1 : renderLines (e :: es) ++ rest = e.line ++ (e.term.chars ++ (renderLines es ++ rest)) := by
      simp [renderLines, List.flatMap_cons, List.append_assoc]
    rw [e1, linesFrom_line e.line e.term _ hl.2 hl.1 hw.term_ok hhead, ih']
    simp

theorem parseLines_entries (es : List Entry) (hes : ∀ e ∈ es, e.WF) (t : Table) (more : List (List Char)) :
    parseLines t (es.map Entry.line ++ more) =
      parseLines (es.foldl (fun t e => t.insert e.id e.name) t) more := by
  induction es generalizing t with
  | nil => rfl
  | cons e es ih =>
    simp only [List.map_cons, List.cons_append, parseLines, parseLine_entry e (hes e (by simp)), List.foldl_cons]
    exact ih (fun e he => hes e (by simp [he])) _

theorem Table.get?_insert (t : Table) (k k' : Int) (v : String) :
    (t.insert k v).get? k' = if k = k' then some v else t.get? k' := by
  induction t with
  | nil => simp [Table.insert, Table.get?]
  | cons kv r ih =>
    obtain ⟨a, b⟩ := kv
    by_cases h : a = k
    · subst h
      by_cases h' : a = k' <;> simp [Table.insert, Table.get?, h']
    · by_cases h' : a = k'
      · subst h'
        have : ¬ k = a := fun e => h e.symm
        simp [Table.insert, Table.get?, h, this]
      · simp [Table.insert, Table.get?, h, h', ih]

theorem foldl_insert_get? (es : List Entry) (t : Table) (k : Int) :
    (es.foldl (fun t e => t.insert e.id e.name) t).get? k =
      match lastName es k with
      | some n => some n
      | none => t.get? k := by
  induction es generalizing t with
  | nil => rfl
  | cons e es ih =>
    simp only [List.foldl_cons, ih, lastName, Table.get?_insert]
    cases lastName es k with
    | some n => rfl
    | none => by_cases h : (e.id : Int) = k <;> simp [h]

theorem Table.keys_insert (t : Table) (k : Int) (v : String) :
    (t.insert k v).keys = if k ∈ t.keys then t.keys else t.keys ++ [k] := by
  induction t with
  | nil => rfl
  | cons kv r ih =>
    obtain ⟨a, b⟩ := kv
    have hm : k ∈ Table.keys ((a, b) :: r) ↔ a = k ∨ k ∈ Table.keys r := by
      rw [Table.keys, List.map_cons, List.mem_cons, eq_comm]
      exact Iff.rfl
    unfold Table.insert
    by_cases h : a = k
    · rw [if_pos h, if_pos (hm.mpr (.inl h))]; rfl
    · rw [if_neg h, Table.keys, List.map_cons, ← Table.keys, ih]
      by_cases hr : k ∈ Table.keys r
      · rw [if_pos hr, if_pos (hm.mpr (.inr hr))]; rfl
      · rw [if_neg hr, if_neg (fun hc => (hm.mp hc).elim h hr)]; rfl

theorem Table.keys_nodup_insert (t : Table) (k : Int) (v : String) (h : t.keys.Nodup) :
    (t.insert k v).keys.Nodup := by
  rw [Table.keys_insert]
  split
  · exact h
  · rename_i hk
    exact List.nodup_append.mpr ⟨h, by simp, by
      intro a ha b hb
      simp at hb; subst hb
      intro e; subst e; exact hk ha⟩

theorem foldl_insert_nodup (es : List Entry) (t : Table) (h : t.keys.Nodup) :
    (es.foldl (fun t e => t.insert e.id e.name) t).keys.Nodup := by
  induction es generalizing t with
  | nil => exact h
  | cons e es ih => exact ih _ (Table.keys_nodup_insert t _ _ h)

theorem Table.get?_isSome_iff (t : Table) (k : Int) : (t.get? k).isSome = true ↔ k ∈ t.keys := by
  induction t with
  | nil => simp [Table.get?, Table.keys]
  | cons kv r ih =>
    obtain ⟨a, b⟩ := kv
    rw [Table.keys, List.map_cons, List.mem_cons, ← Table.keys, ← ih, Table.get?]
    by_cases h : a = k
    · simp [h]
    · rw [if_neg h]
      exact ⟨.inr, fun o => o.resolve_left fun e => h e.symm⟩

theorem lastName_some {es : List Entry} {k : Int} {n : String} (h : lastName es k = some n) :
    ∃ e ∈ es, (e.id : Int) = k ∧ e.name = n := by
  induction es with
  | nil => simp [lastName] at h
  | cons e es ih =>
    simp only [lastName] at h
    cases hl : lastName es k with
    | some m =>
      rw [hl] at h
      simp at h; subst h
      obtain ⟨e', he', h1, h2⟩ := ih hl
      exact ⟨e', by simp [he'], h1, h2⟩
    | none =>
      rw [hl] at h
      by_cases hk : (e.id : Int) = k
      · simp [hk] at h
        exact ⟨e, by simp, hk, h⟩
      · simp [hk] at h

theorem lastName_of_mem {es : List Entry} {e : Entry} (he : e ∈ es) : (lastName es e.id).isSome = true := by
  induction es with
  | nil => simp at he
  | cons a es ih =>
    simp only [lastName]
    rcases List.mem_cons.mp he with rfl | he
    · cases lastName es e.id <;> simp
    · have := ih he
      cases h : lastName es e.id with
      | some n => simp
      | none => rw [h] at this; simp at this

open Pairing

/-- What `feed` may answer for one event. -/
def GateOk (codes : Table) (handlers : String → Bool) (e : Kevent) :
    Except PyErr (Option (String × List Kevent)) → Prop
  | .error _ => False
  | .ok none => True
  | .ok (some (n, w)) =>
    codes.get? e.eventid = some n ∧ handlers n = true ∧ ∃ h t, w = h :: t ∧ h.eventid = e.eventid

theorem gateOut_ok (codes : Table) (handlers : String → Bool) (e : Kevent) (o : Option (List Kevent))
    (ho : ∀ w, o = some w → ∃ h t, w = h :: t ∧ h.eventid = e.eventid) :
    GateOk codes handlers e (gateOut codes handlers o) := by
  cases o with
  | none => simp [gateOut, GateOk]
  | some w =>
    obtain ⟨x, t, rfl, hx⟩ := ho w rfl
    simp only [gateOut, gate, hx]
    cases hc : codes.get? e.eventid with
    | none => simp [GateOk]
    | some n =>
      by_cases hh : handlers n = true
      · simp only [hh, if_true, GateOk, hc]; exact ⟨trivial, trivial, x, t, rfl, hx⟩
      · simp [hh, GateOk]

theorem decodedFrom_ok (codes : Table) (handlers traceNames : String → Bool) (s : PState) (hs : HeadInv s)
    (h : List Kevent) :
    ∀ p ∈ List.zip h (decodedFrom codes handlers traceNames s h), GateOk codes handlers p.1 p.2 := by
  induction h generalizing s with
  | nil => intro p hp; simp [decodedFrom, outputs] at hp
  | cons e es ih =>
    intro p hp
    simp only [decodedFrom, outputs, List.map_cons, List.zip_cons_cons, List.mem_cons] at hp
    rcases hp with rfl | hp
    · exact gateOut_ok codes handlers e _ (step_output_head _ s e hs)
    · exact ih _ (step_headInv _ s e hs) p hp

theorem outputs_length (dom : Nat → Bool) (s : PState) (h : List Kevent) : (outputs dom s h).length = h.length := by
  induction h generalizing s with
  | nil => rfl
  | cons e es ih => simp [outputs, ih]

theorem decodedFrom_length (codes : Table) (handlers traceNames : String → Bool) (s : PState) (h : List Kevent) :
    (decodedFrom codes handlers traceNames s h).length = h.length := by
  simp [decodedFrom, outputs_length]

def rekeyKey (ρ : Nat → Nat) (k : Key) : Key := ⟨k.dom, k.tid, ρ k.eid⟩

def Sim (ρ : Nat → Nat) (f : Kevent → Kevent) (s1 s2 : PState) : Prop :=
  ∀ k, s2 (rekeyKey ρ k) = (s1 k).map (List.map f)

def Rekeys (ρ : Nat → Nat) (f : Kevent → Kevent) : Prop :=
  ∀ e, (f e).tid = e.tid ∧ (f e).qual = e.qual ∧ (f e).eventid = ρ e.eventid

theorem rekeyKey_inj {ρ : Nat → Nat} (hρ : ∀ a b, ρ a = ρ b → a = b) {k k' : Key} :
    rekeyKey ρ k = rekeyKey ρ k' ↔ k = k' := by
  constructor
  · intro h
    cases k; cases k'
    simp only [rekeyKey, Key.mk.injEq] at h ⊢
    exact ⟨h.1, h.2.1, hρ _ _ h.2.2⟩
  · intro h; rw [h]

theorem step_sim {ρ : Nat → Nat} {f : Kevent → Kevent} (hρ : ∀ a b, ρ a = ρ b → a = b) (hf : Rekeys ρ f)
    {dom1 dom2 : Nat → Bool} (hdom : ∀ x, dom2 (ρ x) = dom1 x) {s1 s2 : PState} (hs : Sim ρ f s1 s2)
    (e : Kevent) :
    Sim ρ f (step dom1 s1 e).1 (step dom2 s2 (f e)).1 ∧
      (step dom2 s2 (f e)).2 = ((step dom1 s1 e).2).map (List.map f) := by
  obtain ⟨h1, h2, h3⟩ := hf e
  have hkey : keyOf dom2 (f e) = rekeyKey ρ (keyOf dom1 e) := by
    simp [keyOf, rekeyKey, h1, h3, hdom]
  have hsnoc : ∀ o : Option (List Kevent),
      (o.map (List.map f)).map (· ++ [f e]) = (o.map (· ++ [e])).map (List.map f) := by
    intro o; cases o <;> simp
  -- both sides by the equations of `step`: the tests agree, the stored lists are the images
  constructor
  · intro k
    have hd : (rekeyKey ρ k).dom = k.dom := rfl
    have ht : (rekeyKey ρ k).tid = k.tid := rfl
    simp only [step_fst_apply, hkey, hs k, hs (keyOf dom1 e), h1, h2, h3, hdom, rekeyKey_inj hρ, hd, ht,
      Option.map_eq_none_iff, hsnoc, apply_ite (Option.map (List.map f)), Option.map_some, Option.map_none,
      List.map_cons, List.map_nil]
  · simp only [step_snd, hkey, hs (keyOf dom1 e), h2, hsnoc, apply_ite (Option.map (List.map f)), Option.map_some,
      Option.map_none, List.map_cons, List.map_nil]

def mapOut (f : Kevent → Kevent) :
    Except PyErr (Option (String × List Kevent)) → Except PyErr (Option (String × List Kevent))
  | .error e => .error e
  | .ok none => .ok none
  | .ok (some (n, w)) => .ok (some (n, w.map f))

theorem gateOut_sim {ρ : Nat → Nat} {f : Kevent → Kevent} (hf : Rekeys ρ f) {c1 c2 : Table}
    (hc : ∀ x : Nat, c2.get? (ρ x : Nat) = c1.get? x) (handlers : String → Bool) (o : Option (List Kevent)) :
    gateOut c2 handlers (o.map (List.map f)) = mapOut f (gateOut c1 handlers o) := by
  cases o with
  | none => rfl
  | some w =>
    cases w with
    | nil => rfl
    | cons x t =>
      simp only [Option.map_some, List.map_cons, gateOut, gate, (hf x).2.2, hc]
      cases c1.get? x.eventid with
      | none => rfl
      | some n => by_cases hh : handlers n = true <;> simp [hh, mapOut]

theorem decodedFrom_sim {ρ : Nat → Nat} {f : Kevent → Kevent} (hρ : ∀ a b, ρ a = ρ b → a = b) (hf : Rekeys ρ f)
    {c1 c2 : Table} (hc : ∀ x : Nat, c2.get? (ρ x : Nat) = c1.get? x) (handlers traceNames : String → Bool)
    {s1 s2 : PState} (hs : Sim ρ f s1 s2) (h : List Kevent) :
    decodedFrom c2 handlers traceNames s2 (h.map f) =
      (decodedFrom c1 handlers traceNames s1 h).map (mapOut f) := by
  have hdom : ∀ x, domOf c2 traceNames (ρ x) = domOf c1 traceNames x := by
    intro x; simp [domOf, hc]
  induction h generalizing s1 s2 with
  | nil => rfl
  | cons e es ih =>
    obtain ⟨h1, h2⟩ := step_sim hρ hf hdom hs e
    have := ih h1
    simp only [decodedFrom] at this
    simp only [decodedFrom, List.map_cons, outputs, h2, gateOut_sim hf hc, this]

theorem sim_empty (ρ : Nat → Nat) (f : Kevent → Kevent) : Sim ρ f PState.empty PState.empty := by
  intro k; rfl

end KdVerif.TraceCodes
