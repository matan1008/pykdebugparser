import KdVerif.Proofs.PyIRCs
import KdVerif.Model.TracePipeline
/-
  The request-level model of C13 (`TracePipeline.callstacks`: both image lists cleared, then `callstackFeed` over the
  traces of the request) is the expected IR of `PyKdebugParser.callstacks` + `CallstacksParser.feed_generator`
  (`Spec/PyIRCsExpected`) run by the interpreter of `Model/PyIRCs` on the trace objects of the yielded traces.
  Core Lean only.
-/
namespace KdVerif.PyIRCs
open Callstacks KdVerif.Trace KdVerif.TracePipeline

/-- The trace object `CallstacksParser.feed_generator` sees for a trace of the pipeline model, by the same tests
    `TracePipeline.callstackStep` makes: a `PerfEvent` with frames, a `DyldLaunchExecutable` with its (sorted) images, a
    `DyldUuidMapA` (by its handler name; load address = third word, identity = `data[:16]` of the first record), a
    `PerfEvent` without frames, anything else.  `ktraces` are the records of the trace (`TracesParser` never yields a
    trace without records). -/
def csTraceOf (o : TraceOut) : Trace :=
  let kts : List KT := (firstOf o.events :: o.events.drop 1).map fun e => ⟨e.timestamp, e.tid⟩
  match o.extra with
  | .perf _ (some frames) _ => .sample kts (some frames)
  | .launch imgs => .launch imgs
  | .perf _ Option.none _ =>
    if o.name == "DYLD_uuid_map_a" then .image (arg (firstOf o.events) 2) ((firstOf o.events).data.take 16)
    else .sample kts Option.none
  | _ =>
    if o.name == "DYLD_uuid_map_a" then .image (arg (firstOf o.events) 2) ((firstOf o.events).data.take 16)
    else .other

theorem csTraceOf_ktraces (o : TraceOut) (h : o.events ≠ []) :
    (firstOf o.events :: o.events.drop 1) = o.events := by
  cases he : o.events with
  | nil => exact absurd he h
  | cons e r => simp [firstOf]

theorem stepTrace_csTraceOf (st : Images) (o : TraceOut) :
    stepTrace st (csTraceOf o) =
      match callstackStep st o with
      | .error e => .error e
      | .ok (st', c) => .ok (st', c.map ofCallstack) := by
  unfold csTraceOf callstackStep
  cases hx : o.extra with
  | perf th fr fl =>
    cases fr with
    | some frames =>
      simp only [stepTrace, List.map_cons]
      cases lookupAll st frames <;> simp [ofCallstack, TraceOut.tid]
    | none =>
      by_cases hn : (o.name == "DYLD_uuid_map_a") = true
      · simp only [hn, if_true, stepTrace]
        cases Callstacks.insertImage st _ _ <;> simp
      · simp [hn, stepTrace]
  | launch imgs =>
    simp only [stepTrace]
    cases insertAll st imgs <;> simp
  | none | vmfault =>
    by_cases hn : (o.name == "DYLD_uuid_map_a") = true
    · simp only [hn, if_true, stepTrace]
      cases Callstacks.insertImage st _ _ <;> simp
    · simp [hn, stepTrace]

/-- the whole stream: `feedTrace` on the trace objects is `callstackFeed` (callstacks delivered before an exception
    included) -/
theorem feedTrace_csTraceOf (l : List TraceOut) : ∀ (st : Images),
    feedTrace st (l.map csTraceOf) =
      ((callstackFeed st l).1.map (fun c => Val.callstack (ofCallstack c)),
       match (callstackFeed st l).2.1 with
       | some e => .error e
       | Option.none => .ok (callstackFeed st l).2.2) := by
  induction l with
  | nil => intro st; rfl
  | cons o rest ih =>
    intro st
    have hs := stepTrace_csTraceOf st o
    cases hc : callstackStep st o with
    | error e =>
      rw [hc] at hs
      simp [feedTrace, hs, callstackFeed, hc]
    | ok p =>
      obtain ⟨st1, c⟩ := p
      rw [hc] at hs
      simp only [List.map_cons, feedTrace, hs, ih st1, callstackFeed, hc]
      cases c <;> simp

/-- The expected `callstacks()` (two `clear()`s, the parser on the object's two lists, the expected
    `feed_generator` over the traces of the request) interpreted on an object whose image lists hold anything, is
    `TracePipeline.callstacks`: the same callstacks, the same exception (the callstack parser's first, else the trace
    generator's), the object's two lists afterwards. -/
theorem runRequest_expected_pipeline (env : Trace.Env) (obj : Obj) (d : Dump) :
    runRequest Expected.prog ((traces env obj d).1.traces.map (fun p => csTraceOf p.1)) (traces env obj d).1.err obj.images =
      ((callstacks env obj d).1.callstacks.map (fun c => Val.callstack (ofCallstack c)),
       match (callstacks env obj d).1.err with
       | some e => .error e
       | Option.none => .ok (callstacks env obj d).2.images) := by
  rw [runRequest_expected, runFeed_expected]
  have h := feedTrace_csTraceOf ((traces env obj d).1.traces.map (·.1)) Images.empty
  rw [List.map_map] at h
  have ht : (traces env { obj with images := Images.empty } d).1 = (traces env obj d).1 := rfl
  simp only [callstacks, ht]
  rw [show ((fun p => csTraceOf p.1) : TraceOut × Tabs → Trace) = csTraceOf ∘ (·.1) from rfl, h]
  unfold thenRaise
  cases he : (callstackFeed Images.empty ((traces env obj d).1.traces.map (·.1))).2.1 with
  | some e => simp
  | none => cases (traces env obj d).1.err <;> simp

end KdVerif.PyIRCs
