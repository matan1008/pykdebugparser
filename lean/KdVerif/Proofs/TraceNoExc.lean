import KdVerif.Proofs.TraceProjection
/-
  C05 / C13: whether a handler call raises does not depend on the tables other threads write (for decoder tables whose
  constructor arguments are `errFree`), hence a merged run that raises no exception implies that the run of one thread's
  own subsequence raises none.  Core Lean only.
-/
namespace KdVerif.Trace
open KdVerif.IR

def okB {α : Type} (x : Except PyErr α) : Bool :=
  match x with
  | .ok _ => true
  | .error _ => false

theorem okB_map {α β : Type} (x : Except PyErr α) (f : α → β) : okB (x.map f) = okB x := by
  cases x <;> rfl

theorem okB_bind {α β : Type} {x : Except PyErr α} {f g : α → Except PyErr β} (h : ∀ a, okB (f a) = okB (g a)) :
    okB (x >>= f) = okB (x >>= g) := by
  cases x with
  | error e => rfl
  | ok a => exact h a

theorem okB_bind' {α β : Type} {x y : Except PyErr α} {f g : α → Except PyErr β} (hx : okB x = okB y)
    (h : ∀ a b, okB (f a) = okB (g b)) : okB (x >>= f) = okB (y >>= g) := by
  cases x <;> cases y <;> first | rfl | exact h _ _ | cases hx

/-- An `errFree` expression raises in one context iff it raises in any context that agrees on everything but the
    three cross-thread tables. -/
theorem eval_errFree (c c' : Ctx) (h : Agree ownSel c c') (e : Expr) (he : errFree e = true) :
    okB (eval c e) = okB (eval c' e) := by
  induction e with
  | globalStrGet x d _ _ =>
    simp only [errFree, Bool.and_eq_true] at he
    simp only [eval, eval_congr ownSel c c' h x he.1, eval_congr ownSel c c' h d he.2]
    refine okB_bind fun v => okB_bind fun i => okB_bind fun dv => ?_
    split
    · rfl
    · cases c.win.globalStrings i.toNat <;> cases c'.win.globalStrings i.toNat <;> rfl
  | tidsNamesGet x d _ _ =>
    simp only [errFree, Bool.and_eq_true] at he
    simp only [eval, eval_congr ownSel c c' h x he.1, eval_congr ownSel c c' h d he.2]
    refine okB_bind fun v => okB_bind fun i => okB_bind fun dv => ?_
    split
    · rfl
    · cases c.win.tidsNames i.toNat <;> cases c'.win.tidsNames i.toNat <;> rfl
  | threadsPidsGet x _ =>
    simp only [errFree] at he
    simp only [eval, eval_congr ownSel c c' h x he]
    refine okB_bind fun v => okB_bind fun i => ?_
    split
    · rfl
    · cases c.win.threadsPids i.toNat <;> cases c'.win.threadsPids i.toNat <;> rfl
  | ite cnd a b _ iha ihb =>
    simp only [errFree, Bool.and_eq_true] at he
    simp only [eval, eval_congr ownSel c c' h cnd he.1.1]
    refine okB_bind fun v => ?_
    split
    · exact iha he.1.2
    · exact ihb he.2
  | _ =>
    simp only [errFree] at he
    rw [eval_congr ownSel c c' h _ he]

theorem evalFields_errFree (c c' : Ctx) (h : Agree ownSel c c') (fs : List Expr) (he : fs.all errFree = true) :
    okB (evalFields c fs) = okB (evalFields c' fs) := by
  induction fs with
  | nil => rfl
  | cons f fs ih =>
    simp only [List.all_cons, Bool.and_eq_true] at he
    exact okB_bind' (eval_errFree c c' h f he.1) fun _ _ => okB_bind' (ih he.2) fun _ _ => rfl

theorem runGeneratedObj_okB (env : Env) (a b : Tabs) (d : Decoder) (w : List Kevent) (h : d.fields.all errFree = true) :
    okB (runGeneratedObj env a d w) = okB (runGeneratedObj env b d w) := by
  unfold runGeneratedObj
  rw [mkWindow_eq, mkWindow_eq]
  cases (if usesLookups d = true then parseVnodes env w else .ok []) with
  | error e => rfl
  | ok vnodes =>
    show okB (evalFields _ d.fields >>= _) = okB (evalFields _ d.fields >>= _)
    exact okB_bind' (evalFields_errFree _ _ (agree_winOf env a b w vnodes []) d.fields h) fun _ _ => rfl

/-- Whether a handler call raises does not depend on the tables (decoder table with `errFree` arguments, nested call
    benign). -/
theorem handleWith_okB (nested : Nested) (env : Env) (hdec : ErrFreeDecoders env) (a b : Tabs) (name : String)
    (w : List Kevent) (hnw : NW nested (realEvents w)) (hni : NI nested (realEvents w)) :
    okB (handleWith nested env a name w) = okB (handleWith nested env b name w) := by
  cases hh : handNames.contains name with
  | true =>
    by_cases hx : name = "TRACE_DATA_THREAD_TERMINATE"
    · subst hx
      rw [handleWith, handleWith]
      rfl
    · rw [hand_frame nested env a b name w hnw hni hh fun h => absurd h hx, okB_map, handleOutWith, okB_map]
  | false =>
    rw [handle_generated nested env a name w hh, handle_generated nested env b name w hh]
    cases hd : findDecoder env name with
    | none => rfl
    | some d =>
      dsimp only
      split
      · rfl
      · exact okB_bind' (runGeneratedObj_okB env a b d w (hdec d (List.mem_of_find?_eq_some hd))) fun _ _ => rfl

theorem feed_okB (env : Env) (s : PState) (e : Kevent) :
    okB (feed env s e) =
      match (Pairing.step env.domOf s.pairing e).2 with
      | none => true
      | some w => okB (parseEventList env s.tabs w) := by
  unfold feed
  generalize Pairing.step env.domOf s.pairing e = ps
  rcases ps with ⟨p', o⟩
  cases o with
  | none => rfl
  | some w =>
    simp only [bind, Except.bind]
    cases parseEventList env s.tabs w <;> rfl

theorem feed_okB_own (env : Env) (hbn : BenignNested env) (hdec : ErrFreeDecoders env) (t : Nat) (s₁ s₂ : PState)
    (e : Kevent) (he : e.tid = t) (hs : Sim t s₁ s₂) : okB (feed env s₁ e) = okB (feed env s₂ e) := by
  rw [feed_okB, feed_okB, (Pairing.step_agree env.domOf t s₁.pairing s₂.pairing e he hs.pair).2]
  cases (Pairing.step env.domOf s₂.pairing e).2 with
  | none => rfl
  | some w =>
    cases w with
    | nil => rfl
    | cons x xs =>
      dsimp only
      rw [parseEventList_eq, parseEventList_eq]
      cases handlerOf env (x :: xs) with
      | none => rfl
      | some n =>
        exact handleWith_okB _ env hdec _ _ n (x :: xs) (parseFuel_benign env hbn _ _ (realEvents_range _)).1
          (parseFuel_benign env hbn _ _ (realEvents_range _)).2

/-- If `feed_generator` over the merged history raises no exception, it raises none over thread `t`'s
    own subsequence (from any two states that agree on thread `t`). -/
theorem noexc_own (env : Env) (hbn : BenignNested env) (hdec : ErrFreeDecoders env) (t : Nat) (m : List Kevent)
    (s₁ s₂ : PState) (hs : Sim t s₁ s₂) (h₁ : (run env s₁ m).2.1 = none) :
    (run env s₂ (m.filter fun e => e.tid == t)).2.1 = none := by
  induction m generalizing s₁ s₂ with
  | nil => rfl
  | cons e es ih =>
    obtain ⟨r₁, s₁', hf₁, hrest₁⟩ := feed_ok_of_run env s₁ e es h₁
    by_cases he : e.tid = t
    · rw [List.filter_cons_of_pos (by simpa using he)]
      have hok := feed_okB_own env hbn hdec t s₁ s₂ e he hs
      rw [hf₁] at hok
      cases hf₂ : feed env s₂ e with
      | error err => rw [hf₂] at hok; cases hok
      | ok p =>
        rcases p with ⟨r₂, s₂'⟩
        rw [run_cons_ok env s₂ s₂' e _ r₂ hf₂]
        exact ih s₁' s₂' (feed_own env hbn t s₁ s₂ s₁' s₂' e r₁ r₂ he hs hf₁ hf₂).1 hrest₁
    · rw [List.filter_cons_of_neg (by simpa using he)]
      exact ih s₁' s₂ (feed_other env hbn t s₁ s₂ s₁' e r₁ he hs hf₁).1 hrest₁

end KdVerif.Trace
