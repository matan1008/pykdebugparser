import KdVerif.Spec.PyIRFmExpected
/-
  The expected IR of the line builders (`Spec/PyIRFmExpected`), run by the interpreter of `Model/PyIRFm`, is
  `Format.formatTimestamp / formatProcess / formatKevent / formatTrace / formatCallstack / formatLog` — for every setting
  of the switches, every colour machinery, every pair of tables, every argument.  Core Lean only.
-/
namespace KdVerif.PyIRFm
open KdVerif.Format
open KdVerif.Filters (LogRec)

@[simp] theorem asNat_natCast (n : Nat) : asNat (n : Int) = some n := rfl

@[simp] theorem lookupInt_natCast {β : Type} (tbl : List (Nat × β)) (n : Nat) : lookupInt tbl (n : Int) = tbl.lookup n := rfl

@[simp] theorem toString_natCast (n : Nat) : toString (n : Int) = toString n := rfl

@[simp] theorem int_repr_natCast (n : Nat) : (n : Int).repr = n.repr := rfl

attribute [local simp] eval evalPieces evalCond exec truthy pyStr applySpec runMethod Env.ofArgs

theorem strRep_space (n : Nat) : strRep " " n = spaces n := by
  induction n with
  | zero => rfl
  | succ n ih =>
    rw [strRep, List.replicate_succ, String.join_cons, ← strRep, ih, spaces, spaces, List.replicate_succ,
      String.ofList_cons]
    rfl

theorem Env.set_same (env : Env) (i : Nat) (v : Val) (h : env i = some v) : env.set i v = env := by
  funext j; unfold Env.set; split
  · next hj => rw [hj, h]
  · rfl

@[simp] theorem Env.set_set (env : Env) (i : Nat) (a b : Val) : (env.set i a).set i b = env.set i b := by
  funext j; unfold Env.set; split <;> rfl

@[simp] theorem Env.set_get (env : Env) (i : Nat) (v : Val) : (env.set i v) i = some v := by simp [Env.set]

theorem Env.set_get_ne (env : Env) (i j : Nat) (v : Val) (h : j ≠ i) : (env.set i v) j = env j := by simp [Env.set, h]

theorem exec_seq_normal {cx : Ctx} {cal : Callees} {a b : Stmt} {env env' : Env}
    (h : exec cx cal a env = (.normal, env')) : exec cx cal (.seq a b) env = exec cx cal b env' := by
  simp [h]

theorem exec_assign {cx : Ctx} {cal : Callees} {v : Nat} {e : Expr} {env : Env} {x : Val}
    (h : eval cx cal env e = .ok x) : exec cx cal (.assign v e) env = (.normal, env.set v x) := by
  simp [h]

theorem exec_append {cx : Ctx} {cal : Callees} {v : Nat} {e : Expr} {env : Env} {cur s : String}
    (hv : env v = some (.str cur)) (he : eval cx cal env e = .ok (.str s)) :
    exec cx cal (.append v e) env = (.normal, env.set v (.str (cur ++ s))) := by
  simp [hv, he]

/-- a conditional append on a `show_*` switch (either spelling of the source) appends the text or the empty string;
    `rest` then runs on -/
theorem exec_showAppend {cx : Ctx} {cal : Callees} {v : Nat} {a : ShowAttr} {e : Expr} {rest : Stmt} {env : Env}
    {cur : String} (s : String) (he : eval cx cal (env.set v (.str cur)) e = .ok (.str s)) :
    exec cx cal (.seq (.appendIf v (.selfShow a) e) rest) (env.set v (.str cur)) =
      exec cx cal rest (env.set v (.str (cur ++ if showGet cx.sh a then s else ""))) := by
  cases h : showGet cx.sh a <;> simp [h, he]

theorem evalCond_selfShow (cx : Ctx) (cal : Callees) (env : Env) (a : ShowAttr) :
    evalCond cx cal env (.selfShow a) = .ok (showGet cx.sh a) := by
  simp 

theorem evalCond_selfColor (cx : Ctx) (cal : Callees) (env : Env) :
    evalCond cx cal env .selfColor = .ok cx.col.on := by
  simp 

theorem ite_self_append (b : Bool) (s x : String) : (if b = true then s ++ x else s) = s ++ (if b = true then x else "") := by
  cases b <;> simp

theorem anyNone_eq (t : TimeSet) :
    [TimeAttr.machAbsoluteTime, .numer, .denom, .usecsSinceEpoch, .timezone].any (fun a => !t.get a) = t.anyNone := by
  simp only [List.any, TimeSet.get, TimeSet.anyNone, Bool.not_and, Bool.or_false, Bool.or_assoc]

theorem runMethod_timestamp (cx : Ctx) (cal : Callees) (ts : Nat) :
    runMethod cx cal Expected.formatTimestamp [.int ts] =
      if cx.time.anyNone then .ok (.str (formatTimestamp ts)) else .error .unmodelled := by
  simp only [runMethod, Expected.formatTimestamp, exec, evalCond, eval, truthy, anyNone_eq]
  cases cx.time.anyNone <;> rfl

theorem runMethod_process (cx : Ctx) (cal : Callees) (tid : Nat) :
    runMethod cx cal Expected.formatProcess [.int tid] = .ok (.str (formatProcess cx.tabs tid)) := by
  cases hp : cx.tabs.threadsPids.lookup tid with
  | none =>
    cases hn : cx.tabs.pidsNames.lookup (-1) <;>
    simp [Expected.formatProcess, Expected.processText, Env.set, formatProcess, hp, hn]
  | some pid =>
    by_cases h1 : pid = -1
    · subst h1
      cases hn : cx.tabs.pidsNames.lookup (-1) <;>
      simp [Expected.formatProcess, Expected.processText, Env.set, formatProcess, hp, hn]
    · cases hn : cx.tabs.pidsNames.lookup pid <;>
      simp [Expected.formatProcess, Expected.processText, Env.set, formatProcess, hp, h1, hn, String.append_assoc]

/-- what the two method calls answer, as the hand model has it -/
structure CalleesOk (cx : Ctx) (cal : Callees) : Prop where
  timestamp : ∀ ts : Nat, cal.timestamp (.int ts) = .ok (.str (formatTimestamp ts))
  process : ∀ tid : Nat, cal.process (.int tid) = .ok (.str (formatProcess cx.tabs tid))

/-- `self._format_process(tid)` of the expected program, whatever the wall-clock attributes are -/
theorem callees_process (cx : Ctx) (tid : Nat) :
    (Expected.prog.callees cx).process (.int tid) = .ok (.str (formatProcess cx.tabs tid)) := by
  simp only [Program.callees, Expected.prog]
  exact runMethod_process cx Callees.none tid

/-- The calls of the expected program are answered by its own `_format_timestamp` / `_format_process` — under the
    model's assumption that not all five wall-clock attributes are set. -/
theorem callees_expected (cx : Ctx) (h : cx.time.anyNone = true) : CalleesOk cx (Expected.prog.callees cx) where
  timestamp ts := by
    simp only [Program.callees, Expected.prog]
    exact (runMethod_timestamp cx Callees.none ts).trans (if_pos h)
  process := callees_process cx

/-- the text `formatted_data` holds behind the header statements (the `let s := …` lines of `formatTrace` /
    `formatCallstack`) -/
def headerText (sh : Show) (t : Tables) (ts tid : Nat) : String :=
  ((("" ++ if sh.timestamp = true then formatTimestamp ts else "")
      ++ (if sh.tid = true then padLeft 11 (toString tid) ++ " " else ""))
      ++ (if sh.process = true then padRight 34 (formatProcess t tid) else ""))

theorem formatTrace_eq (sh : Show) (c : Colour) (t : Tables) (tr : TraceRec) :
    formatTrace sh c t tr = headerText sh t tr.timestamp tr.tid ++ (if c.on = true then c.hlTrace tr.body else tr.body) := by
  simp only [formatTrace, headerText, ite_self_append]

theorem formatCallstack_eq (sh : Show) (t : Tables) (cs : Callstack) :
    formatCallstack sh t cs = "\n".intercalate (headerText sh t cs.timestamp cs.tid :: frameLines 0 cs.frames) := by
  simp only [formatCallstack, headerText, ite_self_append]

theorem exec_header (cx : Ctx) (cal : Callees) (hc : CalleesOk cx cal) (first : Expr) (rest : Stmt) (env : Env)
    (fv : Val) (ts tid : Nat)
    (hf : ∀ env' : Env, env' 0 = env 0 → eval cx cal env' first = .ok fv)
    (h1 : getAttr fv .timestamp = .ok (.int ts)) (h2 : getAttr fv .tid = .ok (.int tid)) :
    exec cx cal (Expected.header first rest) env =
      exec cx cal rest (env.set 1 (.str (headerText cx.sh cx.tabs ts tid))) := by
  have hf1 : ∀ s, eval cx cal (env.set 1 (.str s)) first = .ok fv := fun s => hf _ (by simp [Env.set])
  unfold Expected.header
  rw [exec_seq_normal (exec_assign (x := .str "") rfl), exec_showAppend (formatTimestamp ts),
    exec_showAppend (padLeft 11 (toString tid) ++ " "), exec_showAppend (padRight 34 (formatProcess cx.tabs tid))]
  · rfl
  all_goals simp [hf1, h1, h2, hc.timestamp, hc.process]

theorem runMethod_trace (cx : Ctx) (cal : Callees) (hc : CalleesOk cx cal) (tr : TraceRec) :
    runMethod cx cal Expected.formatTrace [.trace tr] = .ok (.str (formatTrace cx.sh cx.col cx.tabs tr)) := by
  have hh := exec_header cx cal hc (.ktrace0 (.var 0)) Expected.traceTail (Env.ofArgs [.trace tr]) (.ktrace tr.timestamp tr.tid)
    tr.timestamp tr.tid (fun env' h => by simp [h]) rfl rfl
  simp only [runMethod, Expected.formatTrace, List.length_cons, List.length_nil, ne_eq, not_true_eq_false, if_false]
  rw [hh, formatTrace_eq]
  cases hcol : cx.col.on <;>
    simp [Expected.traceTail, Env.set, hcol]

theorem exec_frameBody (cx : Ctx) (cal : Callees) (env : Env) (acc : List String) (k : Nat) (f : Frame)
    (h2 : env 2 = some (.strs acc)) (h3 : env 3 = some (.int k)) (h4 : env 4 = some (.frame f)) :
    exec cx cal Expected.frameBody env =
      (.normal, (env.set 5 (.str (frameText f))).set 2 (.strs (acc ++ [spaces k ++ frameText f]))) := by
  have hl : eval cx cal env Expected.frameLine = .ok (.str (frameText f)) := by
    cases hu : f.uuid <;>
      simp [Expected.frameLine, h4, getAttr, hu, frameText, String.append_assoc]
  simp [Expected.frameBody, hl, Env.set_get_ne, h2, h3, strRep_space]

theorem forEnumLoop_frames (cx : Ctx) (cal : Callees) (fs : List Frame) : ∀ (k : Nat) (env : Env) (acc : List String),
    env 2 = some (.strs acc) →
    ∃ env', env' 2 = some (.strs (acc ++ frameLines k fs)) ∧
      forEnumLoop (fun env => exec cx cal Expected.frameBody env) 3 4 k fs env = (.normal, env') := by
  induction fs with
  | nil => intro k env acc h; exact ⟨env, by simpa [frameLines] using h, rfl⟩
  | cons f fs ih =>
    intro k env acc h
    rw [forEnumLoop, exec_frameBody cx cal _ acc k f (by simpa [Env.set] using h) rfl rfl]
    exact (ih (k + 1) _ _ (Env.set_get _ 2 _)).imp fun _ h' => ⟨by simpa [frameLines] using h'.1, h'.2⟩

/-- the statements of `_format_callstack` behind the header, `h` being the header text -/
theorem exec_callstackTail (cx : Ctx) (cal : Callees) (env : Env) (cs : Callstack) (h : String)
    (h0 : env 0 = some (.callstack cs)) (h1 : env 1 = some (.str h)) :
    ∃ env', exec cx cal Expected.callstackTail env = (.ret (.str ("\n".intercalate (h :: frameLines 0 cs.frames))), env') := by
  obtain ⟨env', h2, he⟩ := forEnumLoop_frames cx cal cs.frames 0 (env.set 2 (.strs [h])) [h] (Env.set_get _ _ _)
  exact ⟨env', by simp [Expected.callstackTail, h0, h1, getAttr, Env.set_get_ne, he, h2]⟩

theorem runMethod_callstack (cx : Ctx) (cal : Callees) (hc : CalleesOk cx cal) (cs : Callstack) :
    runMethod cx cal Expected.formatCallstack [.callstack cs] = .ok (.str (formatCallstack cx.sh cx.tabs cs)) := by
  have hh := exec_header cx cal hc (.var 0) Expected.callstackTail (Env.ofArgs [.callstack cs]) (.callstack cs)
    cs.timestamp cs.tid (fun env' h => by simp [h]) rfl rfl
  obtain ⟨env', he⟩ := exec_callstackTail cx cal _ cs _ rfl (Env.set_get (Env.ofArgs [.callstack cs]) 1 _)
  simp only [runMethod, Expected.formatCallstack, List.length_cons, List.length_nil, ne_eq, not_true_eq_false, if_false]
  rw [hh, he, formatCallstack_eq]

/-- `name` of `_format_kevent` -/
def keventNameText (codes : List (Nat × String)) (e : Kevent) : String :=
  match codes.lookup e.eventid with
  | some n => n ++ (" (" ++ pyHex e.eventid ++ ")")
  | none => pyHex e.eventid

/-- the qualifier column of `_format_kevent` -/
def keventQualText (qe : EnumDef) (e : Kevent) : String :=
  match qe.ofValue e.qual with
  | some m => padRight 15 m.name
  | none => padRight 16 "Error"

theorem formatKevent_eq (sh : Show) (qe : EnumDef) (codes : List (Nat × String)) (t : Tables) (e : Kevent) :
    formatKevent sh qe codes t e =
      (((((("" ++ if sh.timestamp = true then formatTimestamp e.timestamp else "")
        ++ (if sh.name = true then padRight 58 (keventNameText codes e) else ""))
        ++ (if sh.funcQual = true then keventQualText qe e else ""))
        ++ (if sh.tid = true then padRight 12 (pyHex e.tid) else ""))
        ++ (if sh.process = true then padRight 27 (formatProcess t e.tid) else ""))
        ++ (if sh.args = true then padRight 34 (bytesRepr e.data) else "")) := by
  simp only [formatKevent, keventNameText, keventQualText, ite_self_append]
  cases qe.ofValue e.qual <;> cases sh.funcQual <;> simp <;> rfl

theorem exec_keventName (cx : Ctx) (cal : Callees) (codes : List (Nat × String)) (e : Kevent) :
    exec cx cal Expected.keventName (Env.ofArgs [.event e, .codes codes]) =
      (.normal, (Env.ofArgs [.event e, .codes codes]).set 2 (.str (keventNameText codes e))) := by
  cases h : codes.lookup e.eventid <;>
    simp [Expected.keventName, getAttr, keventNameText, h, String.append_assoc]

theorem exec_keventQual (cx : Ctx) (cal : Callees) (env : Env) (e : Kevent) (cur : String)
    (h0 : env 0 = some (.event e)) :
    exec cx cal Expected.keventQual (env.set 3 (.str cur)) =
      (.normal, env.set 3 (.str (cur ++ if cx.sh.funcQual = true then keventQualText cx.qe e else ""))) := by
  cases hq : cx.sh.funcQual with
  | false => simp [Expected.keventQual, showGet, hq]
  | true =>
    cases ho : cx.qe.ofValue e.qual <;>
      simp [Expected.keventQual, getAttr, showGet, hq, Env.set, h0, keventQualText, ho]

theorem runMethod_kevent (cx : Ctx) (cal : Callees) (hc : CalleesOk cx cal) (codes : List (Nat × String)) (e : Kevent) :
    runMethod cx cal Expected.formatKevent [.event e, .codes codes] =
      .ok (.str (formatKevent cx.sh cx.qe codes cx.tabs e)) := by
  simp only [runMethod, Expected.formatKevent, List.length_cons, List.length_nil, ne_eq, not_true_eq_false, if_false]
  rw [exec_seq_normal (exec_keventName cx cal codes e), exec_seq_normal (exec_assign (x := .str "") rfl),
    exec_showAppend (formatTimestamp e.timestamp), exec_showAppend (padRight 58 (keventNameText codes e)),
    exec_seq_normal (exec_keventQual cx cal _ e _ rfl), exec_showAppend (padRight 12 (pyHex e.tid)),
    exec_showAppend (padRight 27 (formatProcess cx.tabs e.tid)), exec_showAppend (padRight 34 (bytesRepr e.data)),
    formatKevent_eq]
  · simp [showGet]
    rfl
  all_goals simp [Env.set, getAttr, hc.timestamp, hc.process]

/-- `_format_log` never calls `_format_timestamp`: only the answer of `_format_process` matters -/
theorem runMethod_log (cx : Ctx) (cal : Callees)
    (hproc : ∀ tid : Nat, cal.process (.int tid) = .ok (.str (formatProcess cx.tabs tid))) (timeString : String) (l : LogRec) :
    runMethod cx cal Expected.formatLog [.log timeString l] = .ok (.str (formatLog cx.col cx.tabs timeString l)) := by
  have hp := hproc l.threadIdentifier
  cases hcol : cx.col.on <;> by_cases hpr : l.process = "" <;>
    simp [Expected.formatLog, Expected.logProcess, getAttr, logTimeFormat, Env.set, formatLog, hcol, hpr, hp, String.append_assoc]

theorem runTimestamp_expected (cx : Ctx) (ts : Nat) :
    runTimestamp Expected.prog cx ts = if cx.time.anyNone then .ok (formatTimestamp ts) else .error .unmodelled := by
  show asStr (runMethod cx Callees.none Expected.formatTimestamp [.int ts]) = _
  rw [runMethod_timestamp]; cases cx.time.anyNone <;> rfl

theorem runProcess_expected (cx : Ctx) (tid : Nat) : runProcess Expected.prog cx tid = .ok (formatProcess cx.tabs tid) := by
  show asStr (runMethod cx Callees.none Expected.formatProcess [.int tid]) = _
  rw [runMethod_process]; rfl

theorem runKevent_expected (cx : Ctx) (h : cx.time.anyNone = true) (codes : List (Nat × String)) (e : Kevent) :
    runKevent Expected.prog cx codes e = .ok (formatKevent cx.sh cx.qe codes cx.tabs e) :=
  congrArg asStr (runMethod_kevent _ _ (callees_expected cx h) codes e)

theorem runTrace_expected (cx : Ctx) (h : cx.time.anyNone = true) (tr : TraceRec) :
    runTrace Expected.prog cx tr = .ok (formatTrace cx.sh cx.col cx.tabs tr) :=
  congrArg asStr (runMethod_trace _ _ (callees_expected cx h) tr)

theorem runCallstack_expected (cx : Ctx) (h : cx.time.anyNone = true) (cs : Callstack) :
    runCallstack Expected.prog cx cs = .ok (formatCallstack cx.sh cx.tabs cs) :=
  congrArg asStr (runMethod_callstack _ _ (callees_expected cx h) cs)

/-- `_format_log` needs no assumption on the wall-clock attributes: it never calls `_format_timestamp` -/
theorem runLog_expected (cx : Ctx) (timeString : String) (l : LogRec) :
    runLog Expected.prog cx timeString l = .ok (formatLog cx.col cx.tabs timeString l) :=
  congrArg asStr (runMethod_log _ _ (callees_process cx) timeString l)

end KdVerif.PyIRFm
