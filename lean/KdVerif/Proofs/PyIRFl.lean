import KdVerif.Spec.PyIRFlExpected
/-
  The expected IR of `_is_eventid_allowed`, `kevents`, `os_log_events` and `_filter_process_callback`
  (`Spec/PyIRFlExpected`), run by the interpreter of `Model/PyIRFl`, is `Filters.isEventidAllowed` / `Filters.kevents` /
  `Filters.osLogEvents` / the process test of `TracePipeline.processMatches` — for every configuration, optional class
  list and stream.  (`traces`: `Proofs/PyIRFlTraces`.)  Core Lean only.
-/
namespace KdVerif.PyIRFl
open KdVerif.Filters

-- the equations of the interpreter, generated here once for every `simp only [eval, exec, …]` below
attribute [local simp] eval exec

theorem filterE_ok {α : Type} (p : α → Except PyErr Bool) (q : α → Bool) :
    ∀ (l : List α), (∀ x ∈ l, p x = .ok (q x)) → filterE p l = .ok (l.filter q)
  | [], _ => rfl
  | x :: xs, h => by
    have hx := h x (by simp)
    have ih := filterE_ok p q xs (fun y hy => h y (by simp [hy]))
    simp only [filterE, hx, ih, bindE_ok, List.filter_cons]

theorem memNat_natCast (m : Nat) (l : List Nat) : memNat (m : Int) l = l.contains m := by
  simp [memNat]

theorem memNat_shr (n k : Nat) (l : List Nat) : memNat ((n : Int) >>> k) l = l.contains (n >>> k) :=
  memNat_natCast (n >>> k) l

@[simp] theorem truthy_bool (w : World) (b : Bool) : truthy w (.bool b) = .ok b := rfl
@[simp] theorem truthy_none (w : World) : truthy w .none = .ok false := rfl

@[simp] theorem pyEq_str (a b : String) : pyEq (.str a) (.str b) = .ok (a == b) := rfl

@[simp] theorem pyEq_none_str (b : String) : pyEq .none (.str b) = .ok false := rfl

theorem pyEq_int (a b : Int) : pyEq (.int a) (.int b) = .ok (a == b) := rfl

/-- the list object `filter_class` stands for after `self.filter_class if filter_class is None else filter_class` -/
def classRef : Val → Option Ref
  | .none => some .selfClass
  | .ref r => some r
  | _ => Option.none

theorem eval_classOrOwn (call : CallFn) (w : World) (env : Env) (fcv : Val) (r : Ref)
    (h1 : env 1 = some fcv) (hr : classRef fcv = some r) :
    eval call w env Expected.classOrOwn = .ok (.ref r) := by
  cases fcv <;> simp only [classRef, reduceCtorEq, Option.some.injEq] at hr <;> subst hr <;>
    simp only [Expected.classOrOwn, eval, h1, getAttr, bindE_ok, truthy_bool, beq_self_eq_true, if_true] <;> rfl

theorem callAt_allowed (p : Prog) (hA : p.isEventidAllowed = Expected.isEventidAllowed) (d : Nat) (w : World) (eid : Nat) (fcv : Val) (r : Ref) (fc : List Nat)
    (hr : classRef fcv = some r) (hfc : w.heap.deref r = some fc) :
    callAt p (d + 1) .isEventidAllowed [.int eid, fcv] w
      = .ok (.bool (isEventidAllowed w.heap.cfg eid fc)) := by
  have hc := fun call => eval_classOrOwn call w (Env.ofArgs [.int eid, fcv]) fcv r rfl hr
  have hg : p.get .isEventidAllowed = Expected.isEventidAllowed := hA
  have hs : w.heap.deref .selfSubclass = some w.heap.cfg.filterSubclass := rfl
  have hpad : padArgs Expected.isEventidAllowed [.int eid, fcv] = some [.int eid, fcv] := rfl
  have h0 : Env.ofArgs [Val.int eid, fcv] 0 = some (.int eid) := rfl
  simp only [callAt, hg, runBlock, hpad]
  simp only [Expected.isEventidAllowed, exec, eval, hc, h0, bindE_ok, hfc, hs, getAttr, memNat_shr, truthy_bool]
  by_cases h : eid >>> 24 ∈ fc <;> simp [isEventidAllowed, h]

theorem truthy_ref (w : World) (r : Ref) (l : List Nat) (h : w.heap.deref r = some l) :
    truthy w (.ref r) = .ok (!l.isEmpty) := by
  simp only [truthy, h]

def stK1 : Stage := ⟨3, .not (.isLog (.var 3))⟩
def stK2 : Stage := ⟨4, .eq (.field (.var 4) .tid) (.self .filterTid)⟩
def stK3 : Stage := ⟨5, .call2 .isEventidAllowed (.field (.var 5) .eventid) Expected.classOrOwn⟩

theorem Env.set_same (env : Env) (v : Nat) (x : Val) : env.set v x v = some x := by simp [Env.set]
theorem Env.set_other (env : Env) (v j : Nat) (x : Val) (h : j ≠ v) : env.set v x j = env j := by simp [Env.set, h]

theorem Env.set_set (env : Env) (v : Nat) (x y : Val) : (env.set v x).set v y = env.set v y := by
  funext j
  by_cases h : j = v <;> simp [Env.set, h]

theorem exec_assign (call : CallFn) (w : World) (env : Env) (v : Nat) (e : Expr) (next : Stmt) (x : Val)
    (h : eval call w env e = .ok x) :
    exec call (.assign v e next) env w = exec call next (env.set v x) w := by
  simp only [exec, h, bindE_ok]

/-- `v = filter(lambda x: p, v)` followed by `next`, `v` holding a stream -/
theorem exec_stage (call : CallFn) (w : World) (env : Env) (v x : Nat) (p : Expr) (next : Stmt)
    (so : Src) (st : List Stage) :
    exec call (.assignFilter v x p (.var v) next) (env.set v (.stream so st)) w
      = exec call next (env.set v (.stream so (st ++ [⟨x, p⟩]))) w := by
  simp only [exec, eval, Env.set_same, Env.set_set, bindE_ok]

/-- `if c: v = filter(lambda x: p, v)` followed by `next` -/
theorem exec_stage_if (call : CallFn) (w : World) (env : Env) (c : Expr) (v x : Nat) (p : Expr) (next : Stmt)
    (cv : Val) (b : Bool) (so : Src) (st : List Stage)
    (hc : eval call w (env.set v (.stream so st)) c = .ok cv) (ht : truthy w cv = .ok b) :
    exec call (.ite c (.assignFilter v x p (.var v) .done) .done next) (env.set v (.stream so st)) w
      = exec call next (env.set v (.stream so (st ++ if b then [⟨x, p⟩] else []))) w := by
  cases b <;>
    simp only [exec, eval, hc, ht, Env.set_same, Env.set_set, bindE_ok, if_true, Bool.false_eq_true, if_false,
      List.append_nil]

/-- `if not c: v = filter(lambda x: p, v)` followed by `next` (the translator never emits `not c` as a condition) -/
theorem exec_stage_unless (call : CallFn) (w : World) (env : Env) (c : Expr) (v x : Nat) (p : Expr) (next : Stmt)
    (cv : Val) (b : Bool) (so : Src) (st : List Stage)
    (hc : eval call w (env.set v (.stream so st)) c = .ok cv) (ht : truthy w cv = .ok b) :
    exec call (.ite c .done (.assignFilter v x p (.var v) .done) next) (env.set v (.stream so st)) w
      = exec call next (env.set v (.stream so (st ++ if b then [] else [⟨x, p⟩]))) w := by
  cases b <;>
    simp only [exec, eval, hc, ht, Env.set_same, Env.set_set, bindE_ok, if_true, Bool.false_eq_true, if_false,
      List.append_nil]

theorem eval_isNone_filterTid (call : CallFn) (w : World) (env : Env) :
    eval call w env (.isNone (.self .filterTid)) = .ok (.bool w.heap.cfg.filterTid.isNone) := by
  simp only [eval, bindE_ok, getAttr]
  cases w.heap.cfg.filterTid <;> rfl

theorem eval_isNone_filterProcess (call : CallFn) (w : World) (env : Env) :
    eval call w env (.isNone (.self .filterProcess)) = .ok (.bool w.heap.cfg.filterProcess.isNone) := by
  simp only [eval, bindE_ok, getAttr]
  cases w.heap.cfg.filterProcess <;> rfl

def stagesK (cfg : Cfg) (fc : List Nat) : List Stage :=
  [stK1] ++ (if cfg.filterTid.isNone then [] else [stK2]) ++
    (if !fc.isEmpty || !cfg.filterSubclass.isEmpty then [stK3] else [])

def kev3 : Stmt :=
  .ite (.or Expected.classOrOwn (.self .filterSubclass)) (.assignFilter 2 stK3.param stK3.body (.var 2) .done) .done
    (.ret (.var 2))
def kev2 : Stmt := .ite (.isNone (.self .filterTid)) .done (.assignFilter 2 stK2.param stK2.body (.var 2) .done) kev3
def kev1 : Stmt := .assignFilter 2 stK1.param stK1.body (.var 2) kev2

theorem kevents_body :
    Expected.kevents.body = .assign 2 (.parseStream (.self .threadsPids) (.self .pidsNames) (.var 0)) kev1 := rfl

/-- The frame of `kevents()` when it returns: only `events_generator` (v2) was written. -/
theorem runBlock_kevents (call : CallFn) (w : World) (fcv : Val) (r : Ref) (fc : List Nat)
    (hr : classRef fcv = some r) (hfc : w.heap.deref r = some fc) :
    runBlock call Expected.kevents [.kdebug, fcv] w
      = .ok (.stream .parse (stagesK w.heap.cfg fc),
          (Env.ofArgs [.kdebug, fcv]).set 2 (.stream .parse (stagesK w.heap.cfg fc)), w) := by
  have hpad : padArgs Expected.kevents [.kdebug, fcv] = some [.kdebug, fcv] := rfl
  have hcond : ∀ x, eval call w ((Env.ofArgs [.kdebug, fcv]).set 2 x) (.or Expected.classOrOwn (.self .filterSubclass))
      = .ok (if fc.isEmpty then .ref .selfSubclass else .ref r) := by
    intro x
    have h1 : (Env.ofArgs [.kdebug, fcv]).set 2 x 1 = some fcv := rfl
    simp only [eval, eval_classOrOwn call w _ fcv r h1 hr, bindE_ok, truthy_ref w r fc hfc, getAttr]
    cases fc <;> rfl
  have htr : truthy w (if fc.isEmpty then .ref .selfSubclass else .ref r)
      = .ok (!fc.isEmpty || !w.heap.cfg.filterSubclass.isEmpty) := by
    cases hfe : fc with
    | nil => simp [truthy, Heap.deref]
    | cons a l => subst hfe; simp [truthy_ref w r _ hfc]
  -- events_generator = KdBufParser(…).parse(kdebug)
  have h0 : eval call w (Env.ofArgs [.kdebug, fcv]) (.parseStream (.self .threadsPids) (.self .pidsNames) (.var 0))
      = .ok (.stream .parse []) := rfl
  simp only [runBlock, hpad]
  rw [kevents_body, exec_assign _ _ _ _ _ _ _ h0, kev1, exec_stage, kev2,
    exec_stage_unless _ _ _ _ _ _ _ _ _ _ _ _ (eval_isNone_filterTid ..) (truthy_bool ..), kev3,
    exec_stage_if _ _ _ _ _ _ _ _ _ _ _ _ (hcond _) htr]
  simp only [exec, eval, Env.set_same, bindE_ok]
  rfl


def evP (p : Kevent → Bool) : Item → Bool
  | .event e => p e
  | .log _ => false

def logP (p : LogRec → Bool) : Item → Bool
  | .event _ => false
  | .log l => p l

theorem filterMap_asEvent_map (items : List Item) :
    (items.filterMap asEvent).map Item.event = items.filter (evP fun _ => true) := by
  induction items with
  | nil => rfl
  | cons i is ih => cases i <;> simp [asEvent, evP, List.filterMap_cons, List.filter_cons, ih]

theorem filterMap_asEvent_events (l : List Kevent) : (l.map Item.event).filterMap asEvent = l := by
  induction l with
  | nil => rfl
  | cons e es ih => simp [asEvent, ih]

theorem map_event_filter (p : Kevent → Bool) (l : List Kevent) :
    (l.filter p).map Item.event = (l.map Item.event).filter (evP p) := by
  induction l with
  | nil => rfl
  | cons e es ih => by_cases h : p e <;> simp [evP, h, ih]

theorem filterMap_asLog_map (items : List Item) :
    (items.filterMap asLog).map Item.log = items.filter (logP fun _ => true) := by
  induction items with
  | nil => rfl
  | cons i is ih => cases i <;> simp [asLog, logP, List.filterMap_cons, List.filter_cons, ih]

theorem map_log_filter (p : LogRec → Bool) (l : List LogRec) :
    (l.filter p).map Item.log = (l.map Item.log).filter (logP p) := by
  induction l with
  | nil => rfl
  | cons e es ih => by_cases h : p e <;> simp [logP, h, ih]

theorem forall_filter_evP {P : Item → Prop} {p : Kevent → Bool} {l : List Item} (h : ∀ e, P (.event e)) :
    ∀ x ∈ l.filter (evP p), P x := by
  intro x hx
  cases x with
  | event e => exact h e
  | log l => simp [evP] at hx

theorem forall_filter_logP {P : Item → Prop} {p : LogRec → Bool} {l : List Item} (h : ∀ r, P (.log r)) :
    ∀ x ∈ l.filter (logP p), P x := by
  intro x hx
  cases x with
  | log r => exact h r
  | event e => simp [logP] at hx

section stages
variable {α : Type} {call : CallFn} {env : Env} {world : α → World} {view : α → Val}

theorem applyStages_append (s₁ s₂ : List Stage) : ∀ l : List α,
    applyStages call env world view (s₁ ++ s₂) l
      = bindE (applyStages call env world view s₁ l) (applyStages call env world view s₂) := by
  induction s₁ with
  | nil => intro l; rfl
  | cons st rest ih =>
    intro l
    simp only [List.cons_append, applyStages, ih]
    cases filterE _ l <;> rfl

theorem applyStages_one (st : Stage) (l : List α) (q : α → Bool)
    (h : ∀ x ∈ l, bindE (eval call (world x) (env.set st.param (view x)) st.body) (truthy (world x)) = .ok (q x)) :
    applyStages call env world view [st] l = .ok (l.filter q) := by
  simp only [applyStages, filterE_ok _ q l h, bindE_ok]

theorem applyStages_if (c : Bool) (st : Stage) (l : List α) (q : α → Bool)
    (h : c = true → ∀ x ∈ l,
      bindE (eval call (world x) (env.set st.param (view x)) st.body) (truthy (world x)) = .ok (q x)) :
    applyStages call env world view (if c then [st] else []) l = .ok (if c then l.filter q else l) := by
  cases c
  · rfl
  · exact applyStages_one st l q (h rfl)

/-- a stage stacked under `if self.<attr> is not None:`, whose predicate reads the attribute -/
theorem applyStages_unlessNone {β : Type} (o : Option β) (st : Stage) (l : List α) (q : β → α → Bool)
    (h : ∀ t, o = some t → ∀ x ∈ l,
      bindE (eval call (world x) (env.set st.param (view x)) st.body) (truthy (world x)) = .ok (q t x)) :
    applyStages call env world view (if o.isNone then [] else [st]) l
      = .ok (match (generalizing := false) o with
             | some t => l.filter (q t)
             | none => l) := by
  cases o with
  | none => rfl
  | some t => exact applyStages_one st l (q t) (h t rfl)

end stages

theorem stage_K1 (call : CallFn) (env : Env) (w : World) (i : Item) :
    bindE (eval call w (env.set stK1.param (.item i)) stK1.body) (truthy w) = .ok (evP (fun _ => true) i) := by
  cases i <;> simp only [stK1, eval, Env.set_same, bindE_ok, truthy_bool, evP] <;> rfl

theorem natCast_beq (a b : Nat) : ((a : Int) == (b : Int)) = (a == b) := by
  rw [Bool.eq_iff_iff]; simp only [beq_iff_eq]; omega

/-- `lambda e: e.<f> == self.filter_tid` on an element whose field `f` is the number `n` -/
theorem stage_tidEq (call : CallFn) (env : Env) (w : World) (x : Nat) (f : Field) (v : Val) (n t : Nat)
    (hf : getField v f = .ok (.int n)) (ht : w.heap.cfg.filterTid = some t) :
    bindE (eval call w (env.set x v) (.eq (.field (.var x) f) (.self .filterTid))) (truthy w) = .ok (n == t) := by
  simp only [eval, Env.set_same, bindE_ok, hf, getAttr, ht, pyEq_int, truthy_bool, natCast_beq]

theorem stage_K3 (p : Prog) (hA : p.isEventidAllowed = Expected.isEventidAllowed) (prog_d : Nat) (env : Env) (w : World) (fcv : Val) (r : Ref) (fc : List Nat)
    (h1 : env 1 = some fcv) (hr : classRef fcv = some r) (hfc : w.heap.deref r = some fc) (e : Kevent) :
    bindE (eval (callAt p (prog_d + 1)) w (env.set stK3.param (.item (.event e))) stK3.body) (truthy w)
      = .ok (evP (fun e => isEventidAllowed w.heap.cfg e.eventid fc) (.event e)) := by
  have hc := eval_classOrOwn (callAt p (prog_d + 1)) w (env.set 5 (.item (.event e))) fcv r
    ((Env.set_other _ _ _ _ (by decide)).trans h1) hr
  simp only [stK3, eval, Env.set_same, hc, bindE_ok, getField,
    callAt_allowed p hA prog_d w e.eventid (.ref r) r fc rfl hfc, truthy_bool, evP]

theorem runKevents_expected (p : Prog) (hK : p.kevents = Expected.kevents)
    (hA : p.isEventidAllowed = Expected.isEventidAllowed) (cfg : Cfg) (arg : Option (List Nat)) (items : List Item) :
    runKevents p cfg arg items = .ok ((Filters.kevents cfg arg items).map Item.event) := by
  obtain ⟨r, fc, hr, hfc, hfcm⟩ : ∃ r fc, classRef (argHeap cfg arg).2 = some r ∧ (argHeap cfg arg).1.deref r = some fc ∧
      Filters.kevents cfg arg items = keventsWith cfg fc items := by
    cases arg with
    | none => exact ⟨.selfClass, cfg.filterClass, rfl, rfl, rfl⟩
    | some l => exact ⟨.loc 0, l, rfl, rfl, rfl⟩
  have hcfg : (argHeap cfg arg).1.cfg = cfg := by cases arg <;> rfl
  have hrun := runBlock_kevents (callAt p depth) { heap := (argHeap cfg arg).1 } _ r fc hr hfc
  have hk : p.kevents = Expected.kevents := hK
  simp only [runKevents, runListing, hk, hrun, bindE_ok, hcfg, hfcm, keventsWith, stagesK, applyStages_append]
  generalize (argHeap cfg arg).1 = h at *
  subst hcfg
  rw [applyStages_one _ _ (evP fun _ => true) ?_, bindE_ok,
    applyStages_unlessNone h.cfg.filterTid _ _ (fun t => evP fun e => e.tid == t) ?_, bindE_ok,
    applyStages_if _ _ _ (evP fun e => isEventidAllowed h.cfg e.eventid fc) ?_]
  · cases h.cfg.filterTid <;> cases (!fc.isEmpty || !h.cfg.filterSubclass.isEmpty) <;>
      simp only [map_event_filter, filterMap_asEvent_map, if_true, Bool.false_eq_true, if_false]
  · cases h.cfg.filterTid <;>
      exact fun _ => forall_filter_evP fun e => stage_K3 p hA 1 _ _ _ r fc rfl hr hfc e
  · exact fun t ht => forall_filter_evP fun e => stage_tidEq _ _ _ 4 .tid _ e.tid t rfl ht
  · exact fun x _ => stage_K1 _ _ _ x


def stL1 : Stage := ⟨2, .isLog (.var 2)⟩
def stL2 : Stage := ⟨3, .eq (.field (.var 3) .threadIdentifier) (.self .filterTid)⟩
def stL3 : Stage :=
  ⟨4, .inPair (.self .filterProcess) (.field (.var 4) .process) (.strOf (.field (.var 4) .processIdentifier))⟩

def stagesL (cfg : Cfg) : List Stage :=
  [stL1] ++ (if cfg.filterTid.isNone then [] else [stL2]) ++ (if cfg.filterProcess.isNone then [] else [stL3])

def log3 : Stmt :=
  .ite (.isNone (.self .filterProcess)) .done (.assignFilter 1 stL3.param stL3.body (.var 1) .done) (.ret (.var 1))
def log2 : Stmt := .ite (.isNone (.self .filterTid)) .done (.assignFilter 1 stL2.param stL2.body (.var 1) .done) log3
def log1 : Stmt := .assignFilter 1 stL1.param stL1.body (.var 1) log2

theorem osLogEvents_body :
    Expected.osLogEvents.body = .assign 1 (.parseStream (.self .threadsPids) (.self .pidsNames) (.var 0)) log1 := rfl

theorem runBlock_osLogEvents (call : CallFn) (w : World) :
    ∃ env : Env, runBlock call Expected.osLogEvents [.kdebug] w = .ok (.stream .parse (stagesL w.heap.cfg), env, w) := by
  have hpad : padArgs Expected.osLogEvents [.kdebug] = some [.kdebug] := rfl
  have h0 : eval call w (Env.ofArgs [.kdebug]) (.parseStream (.self .threadsPids) (.self .pidsNames) (.var 0))
      = .ok (.stream .parse []) := rfl
  simp only [runBlock, hpad]
  rw [osLogEvents_body, exec_assign _ _ _ _ _ _ _ h0, log1, exec_stage, log2,
    exec_stage_unless _ _ _ _ _ _ _ _ _ _ _ _ (eval_isNone_filterTid ..) (truthy_bool ..), log3,
    exec_stage_unless _ _ _ _ _ _ _ _ _ _ _ _ (eval_isNone_filterProcess ..) (truthy_bool ..)]
  simp only [exec, eval, Env.set_same, bindE_ok]
  exact ⟨_, rfl⟩

theorem stage_L1 (call : CallFn) (env : Env) (w : World) (i : Item) :
    bindE (eval call w (env.set stL1.param (.item i)) stL1.body) (truthy w) = .ok (logP (fun _ => true) i) := by
  cases i <;> simp only [stL1, eval, Env.set_same, bindE_ok, truthy_bool, logP]

theorem stage_L3 (call : CallFn) (env : Env) (w : World) (p : String) (hp : w.heap.cfg.filterProcess = some p)
    (l : LogRec) :
    bindE (eval call w (env.set stL3.param (.item (.log l))) stL3.body) (truthy w)
      = .ok (logP (fun l => p == l.process || p == pidText l) (.log l)) := by
  simp only [stL3, eval, Env.set_same, bindE_ok, getField, getAttr, hp, pyEq_str, logP, pidText]
  cases p == l.process <;> rfl

theorem runOsLogEvents_expected (p : Prog) (hL : p.osLogEvents = Expected.osLogEvents) (cfg : Cfg) (items : List Item) :
    runOsLogEvents p cfg items = .ok ((Filters.osLogEvents cfg items).map Item.log) := by
  obtain ⟨env, hrun⟩ := runBlock_osLogEvents (callAt p depth) { heap := { cfg := cfg } }
  have hk : p.osLogEvents = Expected.osLogEvents := hL
  simp only [runOsLogEvents, runListing, hk, hrun, bindE_ok, osLogEvents, stagesL, applyStages_append]
  rw [applyStages_one _ _ (logP fun _ => true) ?_, bindE_ok,
    applyStages_unlessNone cfg.filterTid _ _ (fun t => logP fun l => l.threadIdentifier == t) ?_, bindE_ok,
    applyStages_unlessNone cfg.filterProcess _ _ (fun p => logP fun l => p == l.process || p == pidText l) ?_]
  · cases cfg.filterTid <;> cases cfg.filterProcess <;> simp only [map_log_filter, filterMap_asLog_map]
  · cases cfg.filterTid <;> exact fun p hp => forall_filter_logP fun l => stage_L3 _ _ _ p hp l
  · exact fun t ht => forall_filter_logP fun l => stage_tidEq _ _ _ 3 .threadIdentifier _ l.threadIdentifier t rfl ht
  · exact fun x _ => stage_L1 _ _ _ x

theorem runIsEventidAllowed_expected (p : Prog) (hA : p.isEventidAllowed = Expected.isEventidAllowed) (cfg : Cfg) (eventid : Nat) (arg : Option (List Nat)) :
    runIsEventidAllowed p cfg eventid arg
      = .ok (.bool (isEventidAllowed cfg eventid (match arg with | none => cfg.filterClass | some l => l))) := by
  cases arg with
  | none => exact callAt_allowed p hA 1 { heap := { cfg := cfg } } eventid .none .selfClass cfg.filterClass rfl rfl
  | some l => exact callAt_allowed p hA 1 { heap := { cfg := cfg, locs := [l] } } eventid (.ref (.loc 0)) (.loc 0) l rfl rfl

/-- `_filter_process_callback` in the model's words: the process filter equals the decimal text of the thread's pid
    (`-1` when the thread is not in `threads_pids`) or the name `pids_names` has for that pid (`''` when none). -/
def procMatches (fp : String) (t : Tables) (tid : Nat) : Bool :=
  fp == toString (((t.threadsPids.lookup tid).map Int.ofNat).getD (-1)) ||
  fp == (match t.threadsPids.lookup tid with
         | some p => (t.pidsNames.lookup p).getD ""
         | none => "")

theorem eval_firstRecord (call : CallFn) (w : World) (env : Env) (t : Nat) (k : Kevent)
    (h : env t = some (.trace k)) : eval call w env (Expected.firstRecord t) = .ok (.item (.event k)) := by
  simp [Expected.firstRecord, eval, h, getField]

theorem callAt_filterProcessCallback (p : Prog) (hC : p.filterProcessCallback = Expected.filterProcessCallback) (d : Nat) (w : World) (first : Kevent) :
    callAt p (d + 1) .filterProcessCallback [.trace first] w
      = .ok (.bool (match w.heap.cfg.filterProcess with
                    | some fp => procMatches fp w.tabs first.tid
                    | none => false)) := by
  have hg : p.get .filterProcessCallback = Expected.filterProcessCallback := hC
  have hpad : padArgs Expected.filterProcessCallback [.trace first] = some [.trace first] := rfl
  have h0 : Env.ofArgs [Val.trace first] 0 = some (.trace first) := rfl
  have hrec := eval_firstRecord (callAt p d) w (Env.ofArgs [.trace first]) 0 first h0
  have hpid : eval (callAt p d) w (Env.ofArgs [.trace first]) Expected.pidOf
      = .ok (.int (((w.tabs.threadsPids.lookup first.tid).map Int.ofNat).getD (-1))) := by
    simp only [Expected.pidOf, eval, hrec, bindE_ok, getField, getAttr, dictGet, Int.natCast_nonneg, if_true,
      Int.toNat_natCast]
    cases w.tabs.threadsPids.lookup first.tid <;> rfl
  have hname : eval (callAt p d) w (Env.ofArgs [.trace first])
        Expected.nameOf
      = .ok (.str (match w.tabs.threadsPids.lookup first.tid with
                   | some p => (w.tabs.pidsNames.lookup p).getD ""
                   | none => "")) := by
    simp only [Expected.nameOf, eval, hpid, bindE_ok, getAttr, dictGet]
    cases w.tabs.threadsPids.lookup first.tid with
    | none => rfl
    | some p =>
      simp only [Option.map_some, Option.getD_some, Int.ofNat_eq_natCast, Int.natCast_nonneg, if_true,
        Int.toNat_natCast]
      cases w.tabs.pidsNames.lookup p <;> rfl
  simp only [callAt, hg, runBlock, hpad]
  cases hfp : w.heap.cfg.filterProcess with
  | none =>
    simp only [Expected.filterProcessCallback, exec, eval, hpid, hname, bindE_ok, getAttr, hfp, pyEq_none_str,
      truthy_bool, Bool.false_eq_true, if_false, if_true]
  | some fp =>
    simp only [Expected.filterProcessCallback, exec, eval, hpid, hname, bindE_ok, getAttr, hfp, pyEq_str,
      truthy_bool, procMatches]
    cases fp == toString ((Option.map Int.ofNat (List.lookup first.tid w.tabs.threadsPids)).getD (-1)) <;>
      simp

theorem runFilterProcessCallback_expected (p : Prog) (hC : p.filterProcessCallback = Expected.filterProcessCallback)
    (cfg : Cfg) (t : Tables) (first : Kevent) :
    runFilterProcessCallback p cfg t first
      = .ok (.bool (match cfg.filterProcess with | some fp => procMatches fp t first.tid | none => false)) :=
  callAt_filterProcessCallback p hC 1 { heap := { cfg := cfg }, tabs := t } first

end KdVerif.PyIRFl