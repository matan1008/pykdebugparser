import KdVerif.Spec.PyIRVnExpected
/-
  The expected IR of `vnode_generator` / `parse_vnodes` / `parse_vnode` (`Spec/PyIRVnExpected`), run by the interpreter
  of `Model/PyIRVn`, is `Trace.vnodeGen` / `Trace.parseVnodes` / `Trace.parseVnode` — for every list of records that
  carry their argument words, every `dec`, every code table; same vnodes, same exception.  Core Lean only.
-/
namespace KdVerif.PyIRVn
open KdVerif.Trace

/-- Every record carries its argument words (`event.values[0]` exists).  `from_kd_buf` always gives four
    (`struct.unpack('<QQQQ', …)`), so do the encoders of `Spec/Reassembly`; a `Kevent` of the model with an EMPTY
    `values` is not a record the code can meet: there `event.values[0]` raises IndexError while `Trace.vnodeGen`
    reads 0. -/
def HasWords (events : List Kevent) : Prop := ∀ e ∈ events, e.values ≠ []

instance (events : List Kevent) : Decidable (HasWords events) := by unfold HasWords; infer_instance

/-- `Trace.vnodeGen` as a GENERATOR: the vnodes yielded before it ends, and the exception that ends it (if any).
    `Trace.vnodeGen` is `list(…)` of it (`collect_vnodeYields`). -/
def vnodeYields (dec : Bytes → Except PyErr String) :
    List Kevent → (path : Bytes) → (vnodeId : Nat) → (evs : List Kevent) → List Vnode × Option PyErr
  | [], _, _, _ => ([], none)
  | e :: rest, path, vid, evs =>
    let evs' := evs ++ [e]
    let vid' := if hasStart e then (e.values[0]?).getD 0 else vid
    let path' := if hasStart e then path ++ e.data.drop 8 else path ++ e.data
    if hasEnd e then
      match dec (stripNul path') with
      | .error x => ([], some x)
      | .ok s => (⟨evs', vid', s⟩ :: (vnodeYields dec rest [] 0 []).1, (vnodeYields dec rest [] 0 []).2)
    else vnodeYields dec rest path' vid' evs'

theorem collect_vnodeYields (dec : Bytes → Except PyErr String) (events : List Kevent) :
    ∀ (path : Bytes) (vid : Nat) (evs : List Kevent),
      collect (vnodeYields dec events path vid evs) = vnodeGen dec events path vid evs := by
  induction events with
  | nil => intro _ _ _; rfl
  | cons e rest ih =>
    intro path vid evs
    cases hs : hasStart e <;> cases he : hasEnd e <;>
      simp only [vnodeYields, vnodeGen, hs, he, if_true, if_false, Bool.false_eq_true, ← ih]
    all_goals cases dec (stripNul _) <;> cases h : (vnodeYields dec rest [] 0 []).2 <;>
      simp [collect, h, bind, Except.bind, pure, Except.pure]

@[simp] theorem ofArgs_vals (args : List Val) (j : Nat) : (Env.ofArgs args).vals j = args[j]? := rfl
@[simp] theorem unown_vals (env : Env) (vs : List Nat) : (env.unown vs).vals = env.vals := rfl
@[simp] theorem bind_vals (env : Env) (v : Nat) (x : Val) (f : Bool) : (env.bind v x f).vals = env.vals.set v x := rfl
@[simp] theorem setVal_vals (env : Env) (v : Nat) (x : Val) : (env.setVal v x).vals = env.vals.set v x := rfl
@[simp] theorem setVal_owned (env : Env) (v : Nat) (x : Val) : (env.setVal v x).owned = env.owned := rfl
@[simp] theorem unown_owned (env : Env) (vs : List Nat) (j : Nat) :
    (env.unown vs).owned j = (env.owned j && !vs.contains j) := rfl
@[simp] theorem bind_owned (env : Env) (v : Nat) (x : Val) (f : Bool) (j : Nat) :
    (env.bind v x f).owned j = if j = v then f else env.owned j := rfl
@[simp] theorem set_apply (vals : Vals) (i : Nat) (v : Val) (j : Nat) :
    (vals.set i v) j = if j = i then some v else vals j := rfl

attribute [local simp] exec eval truthy Expr.vars Expr.isFresh

theorem replace1_zero (b : Bytes) : replace1 b 0 [] = stripNul b := by
  induction b with
  | nil => rfl
  | cons x xs ih =>
    simp only [replace1, stripNul, List.flatMap_cons, List.filter_cons] at ih ⊢
    by_cases hx : x = 0 <;> simp [hx, ih]

/-- what the loop of `vnode_generator` keeps in its locals between two records -/
def Inv (env : Env) (path : Bytes) (vid : Nat) (evs : List Kevent) : Prop :=
  env.vals 1 = some (.bytes path) ∧ env.vals 2 = some (.int vid) ∧ env.vals 3 = some (.events evs) ∧ env.owned 3 = true

/-- the generator's outcome as the interpreter reports it -/
def outOf (err : Option PyErr) : Except PyErr Outcome :=
  match err with
  | none => .ok .normal
  | some x => .error x

/-- The `for` loop of the expected `vnode_generator` yields what `vnodeYields` yields and ends as it ends: one record
    at a time, by running the loop body (`body`, kept abstract so that only the step at hand is unfolded) in each of
    the cases START / END / `dec` failing.  (`simp` would write `q &&& 1` as `q % 2`.) -/
theorem forLoop_spec (cx : Ctx) (body : Env → Res) (hb : ∀ env, body env = exec cx Expected.loopBody env)
    (events : List Kevent) :
    ∀ (env : Env) (path : Bytes) (vid : Nat) (evs : List Kevent), Inv env path vid evs → HasWords events →
      (forLoop body 4 events env).ys = (vnodeYields cx.dec events path vid evs).1 ∧
      (forLoop body 4 events env).out = outOf (vnodeYields cx.dec events path vid evs).2 := by
  induction events with
  | nil => intro env path vid evs _ _; exact ⟨rfl, rfl⟩
  | cons e rest ih =>
    intro env path vid evs ⟨h1, h2, h3, ho⟩ hw
    obtain ⟨w, ws, hv⟩ := List.exists_cons_of_ne_nil (hw e List.mem_cons_self)
    have next := fun env' path' vid' evs' hi => ih env' path' vid' evs' hi fun x hx => hw x (List.mem_cons_of_mem _ hx)
    by_cases he : e.qual &&& 2 = 0
    · by_cases hs : e.qual &&& 1 = 0 <;>
        simp [-Nat.and_one_is_mod, forLoop, vnodeYields, hb, Expected.loopBody, Expected.endTest, hasStart, hasEnd, hs, he,
          h1, h3, ho, hv, Res.after]
      all_goals exact next _ _ _ _ (by simp [Inv, h2, ho])
    · cases hd : cx.dec (stripNul (if hasStart e = true then path ++ e.data.drop 8 else path ++ e.data)) <;>
        by_cases hs : e.qual &&& 1 = 0 <;>
        simp [-Nat.and_one_is_mod, hasStart, hs] at hd <;>
        simp [-Nat.and_one_is_mod, forLoop, vnodeYields, hb, Expected.loopBody, Expected.endTest, Expected.emptyBytes,
          hasStart, hasEnd, hs, he, h1, h2, h3, ho, hv, hd, replace1_zero, Res.after, outOf]
      all_goals exact next _ _ _ _ (by simp [Inv])

theorem runFn_vnodeGenerator (cx : Ctx) (events : List Kevent) (hw : HasWords events) :
    runFn cx Expected.vnodeGenerator (.events events) =
      .ok (.gen (vnodeYields cx.dec events [] 0 []).1 (vnodeYields cx.dec events [] 0 []).2) := by
  obtain ⟨hy, ho⟩ := forLoop_spec cx (fun env' => exec cx Expected.loopBody env') (fun _ => rfl) events
    ((((((((Env.ofArgs [.events events]).unown []).bind 1 (.bytes []) false).unown []).bind 2 (.int 0) false).unown []).bind 3
      (.events []) true).unown [0]) [] 0 [] (by simp [Inv]) hw
  cases hY : (vnodeYields cx.dec events [] 0 []).2 <;>
    simp [runFn, Expected.vnodeGenerator, Expected.emptyBytes, hy, ho, hY, outOf, Res.after]

theorem compLoop_filter (cond : Vals → Except PyErr Val) (v : Nat) (vals : Vals) (p : Kevent → Bool)
    (h : ∀ x, cond (vals.set v (.event x)) = .ok (.bool (p x))) (l : List Kevent) :
    compLoop cond v vals l = .ok (l.filter p) := by
  induction l with
  | nil => rfl
  | cons x xs ih =>
    simp only [compLoop, h, ih, truthy, List.filter_cons]
    cases p x <;> rfl

/-- `[e for e in events if self.trace_codes.get(e.eventid) == 'VFS_LOOKUP']` keeps exactly the lookup records. -/
theorem eval_lookupsOnly (cx : Ctx) (vals : Vals) (events : List Kevent) (h0 : vals 0 = some (.events events)) :
    eval cx vals Expected.lookupsOnly =
      .ok (.events (events.filter fun e => cx.codes e.eventid == some "VFS_LOOKUP")) := by
  rw [Expected.lookupsOnly, eval, eval, h0]
  simp only
  rw [compLoop_filter _ 1 vals fun e => cx.codes e.eventid == some "VFS_LOOKUP"]
  intro x
  cases hc : cx.codes x.eventid <;> simp [hc, Bool.beq_eq_decide_eq]

theorem runFn_plain (cx : Ctx) (f : FnDef) (arg : Val) (hp : f.params = 1) (hg : f.isGen = false) :
    runFn cx f arg =
      if !(exec cx f.body (Env.ofArgs [arg])).ys.isEmpty then .error .unmodelled
      else match (exec cx f.body (Env.ofArgs [arg])).out with
        | .ok (.ret v) => .ok v
        | .ok .normal => .ok .none
        | .error x => .error x := by
  simp only [runFn, hp, hg, ne_eq, not_true_eq_false, if_false, Bool.false_eq_true]
  rfl

/-- `self.parse_vnodes(events)` of the expected program, at any call depth ≥ 2. -/
theorem callAt_parseVnodes (dec : Bytes → Except PyErr String) (codes : Nat → Option String) (d : Nat)
    (events : List Kevent) (hw : HasWords events) :
    callAt dec codes Expected.prog (d + 2) .parseVnodes (.events events) =
      match vnodeGen dec (events.filter fun e => codes e.eventid == some "VFS_LOOKUP") [] 0 [] with
      | .ok l => .ok (.vnodes l)
      | .error x => .error x := by
  have hg : callAt dec codes Expected.prog (d + 1) .vnodeGenerator (.events _) = _ :=
    runFn_vnodeGenerator { dec := dec, codes := codes, call := callAt dec codes Expected.prog d } _
      fun e he => hw e (List.mem_filter.1 he : e ∈ events ∧ (codes e.eventid == some "VFS_LOOKUP") = true).1
  rw [callAt, ← collect_vnodeYields]
  show runFn _ Expected.parseVnodes _ = _
  rw [runFn_plain _ _ _ rfl rfl]
  cases hy : (vnodeYields dec (events.filter fun e => codes e.eventid == some "VFS_LOOKUP") [] 0 []).2 <;>
    simp [Expected.parseVnodes, eval_lookupsOnly, hg, hy, collect]

theorem run_parseVnodes (env : Trace.Env) (events : List Kevent) (hw : HasWords events) :
    runParseVnodes Expected.prog env.dec env.codes events = parseVnodes env events := by
  rw [runParseVnodes, callAt_parseVnodes env.dec env.codes 0 events hw]
  show _ = vnodeGen env.dec (events.filter fun e => env.codes e.eventid == some "VFS_LOOKUP") [] 0 []
  cases vnodeGen env.dec (events.filter fun e => env.codes e.eventid == some "VFS_LOOKUP") [] 0 [] <;> rfl

theorem run_parseVnode (env : Trace.Env) (events : List Kevent) (hw : HasWords events) :
    runParseVnode Expected.prog env.dec env.codes events = parseVnode env events := by
  have hp : callAt env.dec env.codes Expected.prog 2 .parseVnodes (.events events) =
      match vnodeGen env.dec (events.filter (isLookup env)) [] 0 [] with
      | .ok l => .ok (.vnodes l)
      | .error x => .error x := callAt_parseVnodes env.dec env.codes 0 events hw
  rw [runParseVnode, callAt, show Expected.prog.get .parseVnode = Expected.parseVnode from rfl,
    runFn_plain _ _ _ rfl rfl, parseVnode, parseVnodes]
  rcases h : vnodeGen env.dec (events.filter (isLookup env)) [] 0 [] with x | _ | _
  · by_cases hx : x = .indexError <;> simp [Expected.parseVnode, hp, h, hx, Res.after]
  all_goals simp [Expected.parseVnode, hp, h, Res.after]

theorem vnodeGen_error_from_dec (dec : Bytes → Except PyErr String) (events : List Kevent) :
    ∀ (path : Bytes) (vid : Nat) (evs : List Kevent) (x : PyErr),
      vnodeGen dec events path vid evs = .error x → ∃ b, dec b = .error x := by
  induction events with
  | nil => intro _ _ _ x h; cases h
  | cons e rest ih =>
    intro path vid evs x h
    by_cases he : hasEnd e = true
    · simp only [vnodeGen, he, if_true, bind, Except.bind] at h
      split at h
      · next y hd => exact ⟨_, by rw [hd]; cases h; rfl⟩
      · split at h
        · next y hr => cases h; exact ih _ _ _ _ hr
        · cases h
    · simp only [vnodeGen, he, Bool.false_eq_true, if_false] at h
      exact ih _ _ _ _ h

theorem run_generator (dec : Bytes → Except PyErr String) (codes : Nat → Option String) (events : List Kevent)
    (hw : HasWords events) :
    runGenerator Expected.prog dec codes events = vnodeYields dec events [] 0 [] := by
  have hg := runFn_vnodeGenerator { dec := dec, codes := codes, call := callAt dec codes Expected.prog 0 } _ hw
  simp only [runGenerator, callAt, Prog.get, Expected.prog] at hg ⊢
  rw [hg]

end KdVerif.PyIRVn
