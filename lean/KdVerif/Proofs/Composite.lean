import KdVerif.Proofs.TraceDispatch
import KdVerif.Gen.Decoders
/-
  Lemmas for C20 (composite traces): the stable insertion sort of the launch trace, the dispatch of
  `handleWith` on the composite names, independence of the recursion fuel of `parseFuel`, and the evaluation of the
  generated `RealFaultAddress*` decoders (their IR is compared syntactically with `realFaultFields` in the kernel,
  so a change to `handle_real_fault_address` in the repository invalidates these lemmas).
-/
namespace KdVerif.Composite
open KdVerif KdVerif.IR KdVerif.Trace

theorem insertStable_perm (x : Nat × Bytes) (l : List (Nat × Bytes)) : (insertStable x l).Perm (x :: l) := by
  induction l with
  | nil => exact List.Perm.refl _
  | cons y ys ih =>
    unfold insertStable
    split
    · exact List.Perm.refl _
    · exact (List.Perm.cons y ih).trans (List.Perm.swap x y ys)

theorem sortStable_perm (l : List (Nat × Bytes)) : (sortStable l).Perm l := by
  induction l with
  | nil => exact List.Perm.refl _
  | cons x xs ih =>
    show (insertStable x (sortStable xs)).Perm (x :: xs)
    exact (insertStable_perm x _).trans (List.Perm.cons x ih)

theorem insertStable_sorted (x : Nat × Bytes) (l : List (Nat × Bytes)) (h : l.Pairwise (fun a b => a.1 ≤ b.1)) :
    (insertStable x l).Pairwise (fun a b => a.1 ≤ b.1) := by
  induction l with
  | nil => simp [insertStable]
  | cons y ys ih =>
    unfold insertStable
    have hy := List.pairwise_cons.mp h
    split
    · rename_i hxy
      refine List.pairwise_cons.mpr ⟨?_, h⟩
      intro z hz
      rcases List.mem_cons.mp hz with rfl | hz
      · exact hxy
      · exact Nat.le_trans hxy (hy.1 z hz)
    · rename_i hxy
      refine List.pairwise_cons.mpr ⟨?_, ih hy.2⟩
      intro z hz
      have hz' : z ∈ x :: ys := (insertStable_perm x ys).subset hz
      rcases List.mem_cons.mp hz' with rfl | hz'
      · omega
      · exact hy.1 z hz'

theorem sortStable_sorted (l : List (Nat × Bytes)) : (sortStable l).Pairwise (fun a b => a.1 ≤ b.1) := by
  induction l with
  | nil => simp [sortStable]
  | cons x xs ih => exact insertStable_sorted x _ ih

theorem insertStable_filter (a : Nat) (x : Nat × Bytes) (l : List (Nat × Bytes)) :
    (insertStable x l).filter (fun e => e.1 == a) = (x :: l).filter (fun e => e.1 == a) := by
  induction l with
  | nil => rfl
  | cons y ys ih =>
    unfold insertStable
    split
    · rfl
    · rename_i hxy
      by_cases hya : y.1 = a
      · have hxa : ¬ x.1 = a := by omega
        simp [hya, hxa] at ih ⊢
        exact ih
      · simp [List.filter_cons, hya] at ih ⊢
        exact ih

/-- Stability: the records with one load address come out in the order they went in. -/
theorem sortStable_filter (a : Nat) (l : List (Nat × Bytes)) :
    (sortStable l).filter (fun e => e.1 == a) = l.filter (fun e => e.1 == a) := by
  induction l with
  | nil => rfl
  | cons x xs ih =>
    show (insertStable x (sortStable xs)).filter _ = _
    rw [insertStable_filter, List.filter_cons, List.filter_cons, ih]

theorem handleWith_vmfault (nested : Tabs → List Kevent → HRes) (env : Env) (t : Tabs) (events : List Kevent) :
    handleWith nested env t "MACH_vmfault" events = hMachVmfault nested env t events := by
  simp [handleWith]

theorem handleWith_launch (nested : Tabs → List Kevent → HRes) (env : Env) (t : Tabs) (events : List Kevent) :
    handleWith nested env t "DBG_DYLD_TIMING_LAUNCH_EXECUTABLE" events = hDyldLaunch env t events := by
  simp [handleWith]

theorem handleWith_perf (nested : Tabs → List Kevent → HRes) (env : Env) (t : Tabs) (events : List Kevent) :
    handleWith nested env t "PERF_Event" events = hPerfEvent env t events := by
  simp [handleWith]

theorem realEvents_length (events : List Kevent) : (realEvents events).length + 2 ≤ events.length ∨ realEvents events = [] := by
  unfold realEvents
  by_cases h : 2 ≤ events.length
  · left
    have := List.length_filter_le (fun x => decide (0x1320008 ≤ x.eventid ∧ x.eventid ≤ 0x1320014)) ((events.drop 1).dropLast)
    simp only [List.length_dropLast, List.length_drop] at this
    omega
  · right
    have : (events.drop 1).dropLast = [] := by
      apply List.eq_nil_of_length_eq_zero
      simp only [List.length_dropLast, List.length_drop]; omega
    rw [this]; rfl

theorem hMachVmfault_congr (n₁ n₂ : Tabs → List Kevent → HRes) (env : Env) (t : Tabs) (events : List Kevent)
    (h : realEvents events ≠ [] → n₁ t (realEvents events) = n₂ t (realEvents events)) :
    hMachVmfault n₁ env t events = hMachVmfault n₂ env t events := by
  unfold hMachVmfault vmfaultCore
  by_cases he : realEvents events = []
  · simp [he]
  · simp only [h he]

theorem handleWith_congr (n₁ n₂ : Tabs → List Kevent → HRes) (env : Env) (t : Tabs) (name : String) (events : List Kevent)
    (h : realEvents events ≠ [] → n₁ t (realEvents events) = n₂ t (realEvents events)) :
    handleWith n₁ env t name events = handleWith n₂ env t name events := by
  unfold handleWith
  split <;> first | rfl | exact hMachVmfault_congr n₁ n₂ env t events h

theorem parseEventListWith_congr (n₁ n₂ : Tabs → List Kevent → HRes) (env : Env) (t : Tabs) (events : List Kevent)
    (h : realEvents events ≠ [] → n₁ t (realEvents events) = n₂ t (realEvents events)) :
    parseEventListWith n₁ env t events = parseEventListWith n₂ env t events := by
  unfold parseEventListWith
  split
  · rfl
  · split
    · rfl
    · split
      · exact handleWith_congr n₁ n₂ env t _ _ h
      · rfl

/-- More fuel than records: the answer does not depend on the fuel. -/
theorem parseFuel_stable (env : Env) : ∀ (n m : Nat) (t : Tabs) (events : List Kevent),
    events.length < n → events.length < m → parseFuel n env t events = parseFuel m env t events := by
  intro n
  induction n with
  | zero => intro m t events h; omega
  | succ n ih =>
    intro m t events hn hm
    match m, hm with
    | m + 1, hm =>
      show parseEventListWith (parseFuel n env) env t events = parseEventListWith (parseFuel m env) env t events
      apply parseEventListWith_congr
      intro hne
      rcases realEvents_length events with hl | hl
      · exact ih m t _ (by omega) (by omega)
      · exact absurd hl hne

/-- `parse_event_list` satisfies its recursive definition (the fuel is invisible). -/
theorem parseEventList_unfold (env : Env) (t : Tabs) (events : List Kevent) :
    parseEventList env t events = parseEventListWith (parseEventList env) env t events := by
  show parseEventListWith (parseFuel events.length env) env t events = _
  apply parseEventListWith_congr
  intro hne
  rcases realEvents_length events with hl | hl
  · exact parseFuel_stable env _ _ t _ (by omega) (by omega)
  · exact absurd hl hne

theorem handle_unfold (env : Env) (t : Tabs) (name : String) (events : List Kevent) :
    handle env t name events = handleWith (parseEventList env) env t name events := by
  show handleWith (parseFuel events.length env) env t name events = _
  apply handleWith_congr
  intro hne
  rcases realEvents_length events with hl | hl
  · exact parseFuel_stable env _ _ t _ (by omega) (by omega)
  · exact absurd hl hne

/-- The environment uses the tables regenerated from the repository (code table, host tables and text decoder
    stay arbitrary). -/
structure StdEnv (env : Env) : Prop where
  tables : env.tables = Gen.Decoders.tables
  decoders : env.decoders = Gen.Decoders.decoders

/-- `handle_real_fault_address`: `addr_type(events, args[0], args[1] >> 16, to_vm_prot((args[1] >> 8) & 0xff),
    DbgVmFaultType(args[1] & 0xff), args[2], args[3])`, as the translator renders it. -/
def realFaultFields : List Expr :=
  [(.startArg 0), (.shr (.startArg 1) (.int 16)),
   (.ite (.band (.shr (.startArg 1) (.int 8)) (.int 255))
     (.flagsOf 42 (.band (.shr (.startArg 1) (.int 8)) (.int 255))) (.singleton (.memberConst 42 0))),
   (.enumOf 6 (.band (.startArg 1) (.int 255))), (.startArg 2), (.startArg 3)]

def isRealFaultDecoder (cls : String) (d : Decoder) : Bool :=
  d.cls == cls && d.supported && d.fields == realFaultFields

/-- Kernel-checked against the regenerated decoder table: the three names are registered, each builds the dataclass
    of its own name with exactly the constructor arguments above. -/
theorem realFault_decoders_ok :
    ∀ n ∈ realFaultClasses, ((Gen.Decoders.decoders.find? (·.name == n)).map (isRealFaultDecoder n)) = some true := by
  decide +kernel

theorem findDecoder_realFault {env : Env} (h : StdEnv env) {n : String} (hn : n ∈ realFaultClasses) :
    ∃ d, findDecoder env n = some d ∧ d.cls = n ∧ d.supported = true ∧ d.fields = realFaultFields := by
  have := realFault_decoders_ok n hn
  unfold findDecoder
  rw [h.decoders]
  cases hf : Gen.Decoders.decoders.find? (·.name == n) with
  | none => rw [hf] at this; cases this
  | some d =>
    rw [hf] at this
    simp only [Option.map_some, Option.some.injEq, isRealFaultDecoder, Bool.and_eq_true, beq_iff_eq] at this
    exact ⟨d, rfl, this.1.1, this.1.2, this.2⟩

/-- `find?` answers with the element at position `i` when that is the first one to pass.  For a concrete list of named
    entries the elaborator is slow at comparing string literals and the kernel is not: the position is given and the
    kernel confirms the test. -/
theorem find?_eq_of_first {α : Type} {p : α → Bool} {l : List α} (i : Nat) {x : α} (hx : l[i]? = some x)
    (h : ((l.take i).all (fun y => !p y) && p x) = true) : l.find? p = some x := by
  induction l generalizing i with
  | nil => simp at hx
  | cons y ys ih =>
    cases i with
    | zero =>
      simp only [List.getElem?_cons_zero, Option.some.injEq] at hx
      subst hx
      simp only [List.take_zero, List.all_nil, Bool.true_and] at h
      simp only [List.find?_cons, h]
    | succ i =>
      simp only [List.getElem?_cons_succ] at hx
      simp only [List.take_succ_cons, List.all_cons, Bool.and_eq_true, Bool.not_eq_eq_eq_not, Bool.not_true] at h
      simp only [List.find?_cons, h.1.1]
      exact ih i hx (Bool.and_eq_true_iff.mpr ⟨h.1.2, h.2⟩)

theorem enums_vmProt : Gen.Decoders.tables.enums[42]? = some Gen.Enums.VmProtection := by rfl
theorem enums_faultType : Gen.Decoders.tables.enums[6]? = some Gen.Enums.DbgVmFaultType := by rfl

theorem find_faultType : Gen.Decoders.tables.enums.find? (·.name == "DbgVmFaultType") = some Gen.Enums.DbgVmFaultType :=
  find?_eq_of_first 6 rfl (by decide +kernel)
theorem find_vmProt : Gen.Decoders.tables.enums.find? (·.name == "VmProtection") = some Gen.Enums.VmProtection :=
  find?_eq_of_first 42 rfl (by decide +kernel)
theorem find_sampler : Gen.Decoders.tables.enums.find? (·.name == "SamplerAction") = some Gen.Enums.SamplerAction :=
  find?_eq_of_first 34 rfl (by decide +kernel)
theorem find_callstack : Gen.Decoders.tables.enums.find? (·.name == "CallstackFlag") = some Gen.Enums.CallstackFlag :=
  find?_eq_of_first 4 rfl (by decide +kernel)

theorem realFault_not_hand :
    ∀ n ∈ realFaultClasses, handNames.contains n = false ∧ (n == "MACH_vmfault") = false := by decide +kernel

theorem usesLookups_realFault (d : Decoder) (h : d.fields = realFaultFields) : usesLookups d = false := by
  unfold usesLookups; rw [h]; decide

/-- `to_vm_prot`. -/
def vmProtMembers (x : Nat) : List EnumMember :=
  if x = 0 then [⟨"VM_PROT_NONE", 0⟩] else Gen.Enums.VmProtection.flagsOf x

theorem shr_cast (a k : Nat) : ((a : Int) / (2 ^ k : Int)) = ((a >>> k : Nat) : Int) := by
  rw [Nat.shiftRight_eq_div_pow]; norm_cast

theorem eval_shr_nat (c : Ctx) (a : Expr) (n k : Nat) (h : eval c a = .ok (.int n)) :
    eval c (.shr a (.int k)) = .ok (.int ((n >>> k : Nat) : Int)) := by
  simp only [eval, h, asNat, bind, Except.bind, pure, Except.pure]
  have : ¬ ((k : Int) < 0) := by omega
  simp only [this, if_false, Int.toNat_natCast, shr_cast]

theorem eval_band_nat (c : Ctx) (a : Expr) (n m : Nat) (h : eval c a = .ok (.int n)) :
    eval c (.band a (.int m)) = .ok (.int ((n &&& m : Nat) : Int)) := by
  simp only [eval, h, asNat, bind, Except.bind, pure, Except.pure, bitAnd]
  have : (0 : Int) ≤ n ∧ (0 : Int) ≤ m := by omega
  simp only [this, and_self, if_true, Int.toNat_natCast]

theorem eval_toVmProt (c : Ctx) (h42 : c.tables.enums[42]? = some Gen.Enums.VmProtection) (x : Expr) (n : Nat)
    (hx : eval c x = .ok (.int n)) :
    eval c (.ite x (.flagsOf 42 x) (.singleton (.memberConst 42 0))) = .ok (.members (vmProtMembers n)) := by
  have hs : eval c (.singleton (.memberConst 42 0)) = .ok (.members [⟨"VM_PROT_NONE", 0⟩]) := by
    simp only [eval, h42, bind, Except.bind, pure, Except.pure]; rfl
  have hf : eval c (.flagsOf 42 x) = .ok (.members (Gen.Enums.VmProtection.flagsOf n)) := by
    simp [eval, hx, h42, asNat, bind, Except.bind, pure, Except.pure]
  rw [eval]
  simp only [hx, hs, hf, bind, Except.bind, truthy, vmProtMembers]
  by_cases hz : n = 0 <;> simp [hz]

theorem eval_faultType (c : Ctx) (h6 : c.tables.enums[6]? = some Gen.Enums.DbgVmFaultType) (x : Expr) (n : Nat)
    (hx : eval c x = .ok (.int n)) :
    eval c (.enumOf 6 x) = match Gen.Enums.DbgVmFaultType.ofValue (n : Int) with
      | some m => .ok (.member "DbgVmFaultType" m)
      | none => .error .valueError := by
  simp only [eval, hx, h6, asNat, bind, Except.bind, pure, Except.pure]
  cases Gen.Enums.DbgVmFaultType.ofValue (n : Int) <;> rfl

theorem evalFields_realFault (c : Ctx) (h42 : c.tables.enums[42]? = some Gen.Enums.VmProtection)
    (h6 : c.tables.enums[6]? = some Gen.Enums.DbgVmFaultType) (a0 a1 a2 a3 : Nat)
    (hw : c.win.startArgs = [a0, a1, a2, a3]) :
    evalFields c realFaultFields =
      match Gen.Enums.DbgVmFaultType.ofValue ((a1 &&& 255 : Nat) : Int) with
      | some m => .ok [.int a0, .int ((a1 >>> 16 : Nat) : Int), .members (vmProtMembers ((a1 >>> 8) &&& 255)),
                       .member "DbgVmFaultType" m, .int a2, .int a3]
      | none => .error .valueError := by
  have e0 : eval c (.startArg 0) = .ok (.int a0) := by simp [eval, hw]
  have e1 : eval c (.startArg 1) = .ok (.int a1) := by simp [eval, hw]
  have e2 : eval c (.startArg 2) = .ok (.int a2) := by simp [eval, hw]
  have e3 : eval c (.startArg 3) = .ok (.int a3) := by simp [eval, hw]
  have eu : eval c (.shr (.startArg 1) (.int 16)) = .ok (.int ((a1 >>> 16 : Nat) : Int)) := eval_shr_nat c _ a1 16 e1
  have ep : eval c (.band (.shr (.startArg 1) (.int 8)) (.int 255)) = .ok (.int ((a1 >>> 8 &&& 255 : Nat) : Int)) :=
    eval_band_nat c _ _ 255 (eval_shr_nat c _ a1 8 e1)
  have ef : eval c (.band (.startArg 1) (.int 255)) = .ok (.int ((a1 &&& 255 : Nat) : Int)) := eval_band_nat c _ _ 255 e1
  have eprot := eval_toVmProt c h42 _ _ ep
  have etype := eval_faultType c h6 _ _ ef
  simp only [realFaultFields, evalFields, e0, eu, eprot, etype, e2, e3, bind, Except.bind, pure, Except.pure]
  cases Gen.Enums.DbgVmFaultType.ofValue ((a1 &&& 255 : Nat) : Int) <;> rfl

/-- What `parse_event_list` answers on a record list `r :: rest` whose first record the code table names one of the
    three `RealFaultAddress*` kinds (the handler reads `r` only), as `handle_mach_vmfault` reads it. -/
theorem parse_realFault {env : Env} (h : StdEnv env) (nested : Tabs → List Kevent → HRes) (t : Tabs)
    (r : Kevent) (rest : List Kevent) (n : String) (hn : n ∈ realFaultClasses) (hc : env.codes r.eventid = some n)
    (h4 : r.values.length = 4) :
    match Gen.Enums.DbgVmFaultType.ofValue ((arg r 1 &&& 255 : Nat) : Int) with
    | none => parseEventListWith nested env t (r :: rest) = .error .valueError
    | some _ => ∃ out, parseEventListWith nested env t (r :: rest) = .ok (some out, t) ∧
        pidProtOf out = .ok (some (arg r 3), some ((vmProtMembers ((arg r 1 >>> 8) &&& 255)).map (·.name))) := by
  obtain ⟨a0, a1, a2, a3, hv⟩ : ∃ a0 a1 a2 a3, r.values = [a0, a1, a2, a3] := by
    match hvs : r.values, h4 with
    | [a0, a1, a2, a3], _ => exact ⟨a0, a1, a2, a3, rfl⟩
  rw [show arg r 1 = a1 by simp [arg, hv], show arg r 3 = a3 by simp [arg, hv]]
  obtain ⟨d, hd, hcls, hsup, hfields⟩ := findDecoder_realFault h hn
  have hhandled : isHandled env n = true := by simp [isHandled, hd]
  have hp : parseEventListWith nested env t (r :: rest) = handleWith nested env t n (r :: rest) := by
    simp [parseEventListWith, hc, hhandled]
  rw [hp, handle_generated nested env t n _ (realFault_not_hand n hn).1, hd]
  simp only [hsup, Bool.not_true, Bool.false_eq_true, if_false]
  obtain ⟨W, hW, hWs⟩ : ∃ W, mkWindow env t (r :: rest) (usesLookups d) = .ok W ∧ W.startArgs = r.values := by
    rw [usesLookups_realFault d hfields]
    exact ⟨_, rfl, rfl⟩
  have hev := evalFields_realFault { host := env.host, tables := env.tables, win := W }
    (by rw [h.tables]; exact enums_vmProt) (by rw [h.tables]; exact enums_faultType) a0 a1 a2 a3 (hWs.trans hv)
  unfold runGeneratedObj
  rw [hW]
  simp only [bind, Except.bind, hfields, hev]
  cases Gen.Enums.DbgVmFaultType.ofValue ((a1 &&& 255 : Nat) : Int) with
  | none => rfl
  | some m => exact ⟨_, rfl, by simp [pidProtOf, hcls, hn]⟩

theorem mapM_ok {α β : Type} (f : α → Except PyErr β) (g : α → β) (l : List α) (h : ∀ e ∈ l, f e = .ok (g e)) :
    l.mapM f = .ok (l.map g) := by
  induction l with
  | nil => rfl
  | cons x xs ih =>
    rw [List.mapM_cons, h x List.mem_cons_self, ih (fun e he => h e (List.mem_cons_of_mem _ he))]
    rfl

theorem uuidBytes_ok (e : Kevent) (h : 16 ≤ e.data.length) : uuidBytes e = .ok (e.data.take 16) := by
  simp only [uuidBytes, List.length_take]
  rw [if_pos (by omega)]

theorem inj_of_nodup_map {α β : Type} (f : α → β) : ∀ (l : List α), (l.map f).Nodup → ∀ a ∈ l, ∀ b ∈ l, f a = f b → a = b := by
  intro l
  induction l with
  | nil => intro _ a ha; cases ha
  | cons x xs ih =>
    intro hnd a ha b hb hab
    rw [List.map_cons, List.nodup_cons] at hnd
    rcases List.mem_cons.mp ha with ha' | ha' <;> rcases List.mem_cons.mp hb with hb' | hb'
    · rw [ha', hb']
    · subst ha'; exact absurd (hab ▸ List.mem_map_of_mem hb') hnd.1
    · subst hb'; exact absurd (hab.symm ▸ List.mem_map_of_mem ha') hnd.1
    · exact ih hnd.2 a ha' b hb' hab

/-- Membership of a flag name in `[m.name for m in E if m.value & x]` is the bit test of that member, for any enum
    whose iterated members have distinct names. -/
theorem contains_flag_name (d : EnumDef) (m : EnumMember) (hm : m ∈ d.iter) (hnd : (d.iter.map (·.name)).Nodup)
    (hv : 0 ≤ m.value) (x : Nat) :
    ((d.flagsOf x).map (·.name)).contains m.name = decide (x &&& m.value.toNat ≠ 0) := by
  rw [Nat.and_comm, Bool.eq_iff_iff]
  simp only [List.contains_iff_mem, List.mem_map, EnumDef.flagsOf, List.mem_filter, decide_eq_true_eq]
  constructor
  · rintro ⟨m', ⟨hm', hp⟩, hname⟩
    have : m' = m := inj_of_nodup_map (·.name) d.iter hnd m' hm' m hm hname
    subst this
    exact hp.1
  · intro hp
    exact ⟨m, ⟨hm, hp, hv⟩, rfl⟩

end KdVerif.Composite
