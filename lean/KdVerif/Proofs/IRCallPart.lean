import KdVerif.Proofs.IRDecoders
/-
  The one reflective fact that two property files rest on — C09 states it, C10 needs it for the BSD family —
  and its consequence for all windows.  Imported by these two only: a change that breaks this pass breaks the
  build of exactly the properties that have to evaluate it.
-/
namespace KdVerif.DecoderFacts
open KdVerif.IR

/-- No piece of any call part reads the END record, a result string or a context table (kernel-checked
    against the generated table). -/
theorem calls_read_start_only : decoders.all callReadsStartOnly = true := by decide +kernel

/-- The call text of a syscall / trap decoder (or the exception raised while building it) is the same in
    two windows with the same START words and lookups. -/
theorem callText_congr (d : Decoder) (hd : d ∈ decoders) (hsys : syscallLike d = true)
    (s : Shape) (hs : d.shape = some s) (h : Host) (t : Tables) (w w' : Window) (hw : SameStart w w') :
    evalPieces (ctx h t w) (callPiecesOf d s) = evalPieces (ctx h t w') (callPiecesOf d s) := by
  have := List.all_eq_true.mp calls_read_start_only d hd
  simp only [callReadsStartOnly, hs, hsys, Bool.not_true, Bool.false_or] at this
  apply evalPieces_congr callSel _ _ _ _ this
  constructor <;> simp [callSel, ctx, hw.start, hw.lookups, hw.rest]

end KdVerif.DecoderFacts
