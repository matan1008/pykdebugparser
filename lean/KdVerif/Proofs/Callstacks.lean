import KdVerif.Spec.Callstacks
/-
  Lemmas for C15: the bisect loop, insertion into the parallel lists, lookup.
-/
namespace KdVerif.Callstacks

/-- The loop terminates without error on ANY list and stays inside `[lo, hi]`; on a sorted list it keeps "everything
    left of `lo` is ≤ x, everything from `hi` on is > x". -/
theorem bisectGo_spec (a : List Nat) (x : Nat) : ∀ fuel lo hi, lo ≤ hi → hi ≤ a.length → hi - lo < fuel →
    ∃ r, bisectGo a x fuel lo hi = .ok r ∧ lo ≤ r ∧ r ≤ hi ∧
      (a.Pairwise (· ≤ ·) →
        (∀ i (h : i < a.length), i < lo → a[i] ≤ x) → (∀ i (h : i < a.length), hi ≤ i → x < a[i]) →
        (∀ i (h : i < a.length), i < r → a[i] ≤ x) ∧ (∀ i (h : i < a.length), r ≤ i → x < a[i])) := by
  intro fuel
  induction fuel with
  | zero => intro lo hi _ _ h; exact absurd h (Nat.not_lt_zero _)
  | succ n ih =>
    intro lo hi hle hlen hf
    unfold bisectGo
    by_cases hlt : lo < hi
    · obtain ⟨hm1, hm2⟩ : lo ≤ (lo + hi) / 2 ∧ (lo + hi) / 2 < hi := by omega
      generalize (lo + hi) / 2 = m at hm1 hm2 ⊢
      have hm : m < a.length := Nat.lt_of_lt_of_le hm2 hlen
      simp only [hlt, if_true, List.getElem?_eq_getElem hm]
      by_cases hx : x < a[m]
      · simp only [hx, if_true]
        obtain ⟨r, h1, h2, h3, h4⟩ := ih lo m hm1 (Nat.le_of_lt hm) (by omega)
        refine ⟨r, h1, h2, by omega, fun hs hL _ => h4 hs hL ?_⟩
        intro i h hi'
        rcases Nat.eq_or_lt_of_le hi' with rfl | hi'
        · exact hx
        · exact Nat.lt_of_lt_of_le hx (List.pairwise_iff_getElem.1 hs m i hm h hi')
      · simp only [hx, if_false]
        obtain ⟨r, h1, h2, h3, h4⟩ := ih (m + 1) hi hm2 hlen (by omega)
        refine ⟨r, h1, by omega, h3, fun hs _ hR => h4 hs ?_ hR⟩
        intro i h hi'
        rcases Nat.eq_or_lt_of_le (Nat.le_of_lt_succ hi') with rfl | hi'
        · exact Nat.le_of_not_lt hx
        · exact Nat.le_trans (List.pairwise_iff_getElem.1 hs i m h hm hi') (Nat.le_of_not_lt hx)
    · simp only [hlt, if_false]
      have : hi = lo := Nat.le_antisymm (Nat.le_of_not_lt hlt) hle
      subst this
      exact ⟨hi, rfl, Nat.le_refl _, Nat.le_refl _, fun _ hL hR => ⟨hL, hR⟩⟩

/-- `bisect_right` on a sorted list: the partition point. -/
theorem bisect_sorted (a : List Nat) (x : Nat) (hs : a.Pairwise (· ≤ ·)) :
    ∃ r, bisect a x = .ok r ∧ r ≤ a.length ∧ (∀ y ∈ a.take r, y ≤ x) ∧ (∀ y ∈ a.drop r, x < y) := by
  obtain ⟨r, h1, _, h2, h⟩ := bisectGo_spec a x (a.length + 1) 0 a.length (Nat.zero_le _) (Nat.le_refl _) (Nat.lt_succ_self _)
  obtain ⟨h3, h4⟩ := h hs (fun i _ h => absurd h (Nat.not_lt_zero i)) (fun i h h' => absurd h (Nat.not_lt_of_le h'))
  refine ⟨r, h1, h2, ?_, ?_⟩
  · intro y hy
    obtain ⟨i, hi, rfl⟩ := List.getElem_of_mem hy
    rw [List.getElem_take]
    rw [List.length_take] at hi
    exact h3 i (by omega) (by omega)
  · intro y hy
    obtain ⟨i, hi, rfl⟩ := List.getElem_of_mem hy
    rw [List.getElem_drop]
    rw [List.length_drop] at hi
    exact h4 (r + i) (by omega) (by omega)
theorem partition_point_unique (a : List Nat) (x r : Nat) (hr : r ≤ a.length)
    (h1 : ∀ y ∈ a.take r, y ≤ x) (h2 : ∀ y ∈ a.drop r, x < y) : r = (a.filter (· ≤ x)).length := by
  conv => rhs; rw [← List.take_append_drop r a]
  rw [List.filter_append]
  have e1 : (a.take r).filter (· ≤ x) = a.take r := by
    rw [List.filter_eq_self]; intro y hy; simpa using h1 y hy
  have e2 : (a.drop r).filter (· ≤ x) = [] := by
    rw [List.filter_eq_nil_iff]; intro y hy; have := h2 y hy; simp; omega
  rw [e1, e2]; simp; omega

theorem inv_empty : Inv Images.empty := ⟨List.Pairwise.nil, rfl⟩

theorem pairs_fst (st : Images) (h : Inv st) : (pairs st).map Prod.fst = st.addrs := by
  unfold pairs; rw [List.map_fst_zip]; have := h.2; omega

theorem pairs_snd (st : Images) (h : Inv st) : (pairs st).map Prod.snd = st.uuids := by
  unfold pairs; rw [List.map_snd_zip]; have := h.2; omega

theorem pairs_sorted (st : Images) (h : Inv st) : (pairs st).Pairwise (fun p q => p.1 < q.1) := by
  have := h.1
  rw [← pairs_fst st h, List.pairwise_map] at this
  exact this

theorem pyInsert_zip {α β : Type} (l : List α) (m : List β) (i : Nat) (x : α) (y : β) (h : l.length = m.length) :
    (pyInsert l i x).zip (pyInsert m i y) = pyInsert (l.zip m) i (x, y) := by
  unfold pyInsert
  rw [List.zip_append (by simp [h]), List.zip_cons_cons]
  simp only [List.zip, List.take_zipWith, List.drop_zipWith]

theorem mem_pyInsert {α : Type} (l : List α) (i : Nat) (x y : α) : y ∈ pyInsert l i x ↔ y ∈ l ∨ y = x := by
  rw [pyInsert, List.mem_append, List.mem_cons, ← or_assoc, or_right_comm, ← List.mem_append, List.take_append_drop]

theorem insertImage_spec (st : Images) (a : Nat) (u : Uuid) (h : Inv st) :
    ∃ st', insertImage st a u = .ok st' ∧ Inv st' ∧
      (∀ y, y ∈ st'.addrs ↔ y ∈ st.addrs ∨ y = a) ∧
      (∀ p, p ∈ pairs st' ↔ p ∈ pairs st ∨ (a ∉ st.addrs ∧ p = (a, u))) := by
  by_cases hm : a ∈ st.addrs
  · refine ⟨st, by simp [insertImage, hm], h, ?_, ?_⟩
    · intro y; constructor
      · exact .inl
      · rintro (h | rfl); exact h; exact hm
    · intro p; simp [hm]
  · -- a new address: the insertion point splits the list into the smaller and the larger addresses
    obtain ⟨r, h1, _, h3', h4⟩ := bisect_sorted st.addrs a (h.1.imp (fun h => Nat.le_of_lt h))
    have h3 : ∀ y ∈ st.addrs.take r, y < a := fun y hy =>
      Nat.lt_of_le_of_ne (h3' y hy) fun e => hm (e ▸ List.mem_of_mem_take hy)
    refine ⟨⟨pyInsert st.addrs r a, pyInsert st.uuids r u⟩, by simp [insertImage, hm, h1], ⟨?_, ?_⟩, ?_, ?_⟩
    · show (pyInsert st.addrs r a).Pairwise (· < ·)
      unfold pyInsert
      rw [List.pairwise_append]
      refine ⟨h.1.sublist (List.take_sublist _ _), ?_, ?_⟩
      · rw [List.pairwise_cons]
        exact ⟨h4, h.1.sublist (List.drop_sublist _ _)⟩
      · intro x hx y hy
        rw [List.mem_cons] at hy
        rcases hy with rfl | hy
        · exact h3 x hx
        · exact Nat.lt_trans (h3 x hx) (h4 y hy)
    · show (pyInsert st.addrs r a).length = (pyInsert st.uuids r u).length
      have := h.2
      simp [pyInsert]; omega
    · intro y; exact mem_pyInsert _ _ _ _
    · intro p
      show p ∈ (pyInsert st.addrs r a).zip (pyInsert st.uuids r u) ↔ _
      rw [pyInsert_zip _ _ _ _ _ h.2, mem_pyInsert]
      simp [hm, pairs]


theorem insertAll_append (st : Images) (l₁ l₂ : List (Nat × Uuid)) :
    insertAll st (l₁ ++ l₂) = match insertAll st l₁ with
      | .error e => .error e
      | .ok st' => insertAll st' l₂ := by
  induction l₁ generalizing st with
  | nil => rfl
  | cons p t ih =>
    obtain ⟨a, u⟩ := p
    simp only [List.cons_append, insertAll]
    cases insertImage st a u with
    | error e => rfl
    | ok st' => exact ih st'

/-- The state after any sequence of announcements, characterised by membership:
    an image is present iff it was present before, or its address was absent and this is the
    FIRST announcement of that address. -/
theorem insertAll_spec (anns : List (Nat × Uuid)) : ∀ (st : Images), Inv st →
    ∃ st', insertAll st anns = .ok st' ∧ Inv st' ∧
      (∀ y, y ∈ st'.addrs ↔ y ∈ st.addrs ∨ y ∈ anns.map Prod.fst) ∧
      (∀ a u, (a, u) ∈ pairs st' ↔
        (a, u) ∈ pairs st ∨ (a ∉ st.addrs ∧ anns.find? (fun p => p.1 = a) = some (a, u))) := by
  induction anns with
  | nil => intro st h; exact ⟨st, rfl, h, by simp, by simp⟩
  | cons p t ih =>
    intro st h
    obtain ⟨b, v⟩ := p
    obtain ⟨st1, e1, i1, m1, p1⟩ := insertImage_spec st b v h
    obtain ⟨st2, e2, i2, m2, p2⟩ := ih st1 i1
    refine ⟨st2, by simp only [insertAll, e1]; exact e2, i2, ?_, ?_⟩
    · intro y; rw [m2, m1]; simp only [List.map_cons, List.mem_cons]; exact or_assoc
    · intro a u
      rw [p2, p1, m1, List.find?_cons]
      by_cases hab : b = a
      · subst hab
        simp only [decide_true, Option.some.injEq, Prod.mk.injEq]
        grind
      · have hd : decide ((b, v).1 = a) = false := by simp [hab]
        simp only [hd, Prod.mk.injEq]
        grind

theorem images_ext (s₁ s₂ : Images) (h₁ : Inv s₁) (h₂ : Inv s₂) (h : ∀ p, p ∈ pairs s₁ ↔ p ∈ pairs s₂) : s₁ = s₂ := by
  have hs₁ := pairs_sorted s₁ h₁
  have hs₂ := pairs_sorted s₂ h₂
  have nd : ∀ l : List (Nat × Uuid), l.Pairwise (fun p q => p.1 < q.1) → l.Nodup := by
    intro l hl
    exact hl.imp (fun {p q} hpq e => by subst e; exact Nat.lt_irrefl _ hpq)
  have hp : (pairs s₁).Perm (pairs s₂) := (List.perm_ext_iff_of_nodup (nd _ hs₁) (nd _ hs₂)).2 h
  have he : pairs s₁ = pairs s₂ :=
    List.Perm.eq_of_pairwise (le := fun p q => p.1 < q.1)
      (fun a b _ _ hab hba => absurd hab (Nat.lt_asymm hba)) hs₁ hs₂ hp
  have ea : s₁.addrs = s₂.addrs := by rw [← pairs_fst s₁ h₁, ← pairs_fst s₂ h₂, he]
  have eu : s₁.uuids = s₂.uuids := by rw [← pairs_snd s₁ h₁, ← pairs_snd s₂ h₂, he]
  cases s₁; cases s₂; simp_all

theorem find_of_nodup_keys (l : List (Nat × Uuid)) (hn : (l.map Prod.fst).Nodup) (a : Nat) (u : Uuid) :
    l.find? (fun p => p.1 = a) = some (a, u) ↔ (a, u) ∈ l := by
  constructor
  · exact List.mem_of_find?_eq_some
  · intro hm
    induction l with
    | nil => cases hm
    | cons p t ih =>
      rw [List.map_cons, List.nodup_cons] at hn
      rw [List.find?_cons]
      rcases List.mem_cons.1 hm with rfl | hm
      · simp
      · have : p.1 ≠ a := by
          intro e
          apply hn.1
          rw [e]
          exact List.mem_map.2 ⟨(a, u), hm, rfl⟩
        simp only [this, decide_false]
        exact ih hn.2 hm


/-- `bisect − 1` on the strictly ascending address list. -/
theorem lookupFrame_spec (st : Images) (h : Inv st) (f : Nat) :
    ∃ fr, lookupFrame st f = .ok fr ∧ fr.address = f ∧
      (fr.image = none ↔ ∀ a ∈ st.addrs, f < a) ∧
      (∀ u off, fr.image = some (u, off) →
        ∃ a, (a, u) ∈ pairs st ∧ a ≤ f ∧ off = ((f - a : Nat) : Int) ∧ ∀ a' ∈ st.addrs, a' ≤ f → a' ≤ a) := by
  obtain ⟨r, h1, h2, h3, h4⟩ := bisect_sorted st.addrs f (h.1.imp (fun h => Nat.le_of_lt h))
  unfold lookupFrame
  simp only [h1]
  by_cases hr : r = 0
  · subst hr
    refine ⟨⟨f, none⟩, by simp, rfl, ?_, ?_⟩
    · simp only [true_iff]
      intro a ha
      exact h4 a (by simpa using ha)
    · intro u off hh; cases hh
  · have hlt : r - 1 < st.addrs.length := by omega
    have hlt' : r - 1 < st.uuids.length := by have := h.2; omega
    have hle : st.addrs[r - 1] ≤ f := by
      apply h3
      rw [List.mem_take_iff_getElem]
      exact ⟨r - 1, by omega, rfl⟩
    simp only [hr, if_false, List.getElem?_eq_getElem hlt, List.getElem?_eq_getElem hlt']
    refine ⟨_, rfl, rfl, ?_, ?_⟩
    · simp only [reduceCtorEq, false_iff]
      intro hall
      have := hall _ (List.getElem_mem hlt)
      omega
    · intro u off hh
      simp only [Option.some.injEq, Prod.mk.injEq] at hh
      obtain ⟨rfl, rfl⟩ := hh
      refine ⟨st.addrs[r - 1], ?_, hle, by omega, ?_⟩
      · unfold pairs
        rw [List.mem_iff_getElem]
        exact ⟨r - 1, by simp; omega, by simp⟩
      · intro a' ha' hle'
        obtain ⟨j, hj, rfl⟩ := List.getElem_of_mem ha'
        rcases Nat.lt_or_ge j r with hjr | hjr
        · rcases Nat.eq_or_lt_of_le (Nat.le_sub_one_of_lt hjr) with rfl | hlt'
          · exact Nat.le_refl _
          · exact Nat.le_of_lt (List.pairwise_iff_getElem.1 h.1 j (r - 1) hj hlt hlt')
        · have := h4 st.addrs[j] (List.mem_drop_iff_getElem.2 ⟨j - r, by omega, by congr 1; omega⟩)
          omega

theorem lookupAll_spec (st : Images) (h : Inv st) (frs : List Nat) :
    ∃ frames, lookupAll st frs = .ok frames ∧ frames.map (·.address) = frs ∧
      ∀ fr ∈ frames, lookupFrame st fr.address = .ok fr := by
  induction frs with
  | nil => exact ⟨[], rfl, rfl, by simp⟩
  | cons f fs ih =>
    obtain ⟨fr, e1, e2, _⟩ := lookupFrame_spec st h f
    obtain ⟨frames, e3, e4, e5⟩ := ih
    refine ⟨fr :: frames, by simp [lookupAll, e1, e3], by simp [e2, e4], ?_⟩
    intro x hx
    rcases List.mem_cons.1 hx with rfl | hx
    · rw [e2]; exact e1
    · exact e5 x hx


theorem any_filter {α : Type} (l : List α) (p q : α → Bool) :
    (l.filter p).any q = l.any (fun m => p m && q m) := by
  induction l with
  | nil => rfl
  | cons x xs ih => by_cases h : p x <;> simp [h, ih]

/-- Over the reflected `SamplerAction` enum, `SAMPLER_USTACK in to_sampler_action(flags)` is bit 3. -/
theorem ustackSet_iff (flags : Nat) : ustackSet flags = true ↔ 8 &&& flags ≠ 0 := by
  unfold ustackSet EnumDef.flagsOf
  rw [any_filter]
  simp [Gen.Enums.SamplerAction, Gen.Enums.SamplerAction_iter, Gen.Enums.SamplerAction_iter_0]

theorem words_flatMap_length (l : List Rec) : (l.flatMap Rec.words).length = 4 * l.length := by
  induction l with
  | nil => rfl
  | cons r t ih => simp [List.flatMap_cons, Rec.words, ih]; omega

theorem words_flatMap_getElem? (l : List Rec) : ∀ k,
    (l.flatMap Rec.words)[k]? = (l[k / 4]?).bind (fun r => r.words[k % 4]?) := by
  induction l with
  | nil => intro k; simp
  | cons r t ih =>
    intro k
    rw [List.flatMap_cons, List.getElem?_append]
    have hl : r.words.length = 4 := rfl
    by_cases hk : k < 4
    · have h0 : k / 4 = 0 := by omega
      have hm : k % 4 = k := by omega
      simp [hl, hk, h0, hm]
    · have h0 : k / 4 = (k - 4) / 4 + 1 := by omega
      have hm : k % 4 = (k - 4) % 4 := by omega
      simp only [hl, hk, if_false, ih (k - 4)]
      rw [h0, List.getElem?_cons_succ, hm]

theorem insertByAddr_perm (x : Nat × Uuid) (l : List (Nat × Uuid)) : (insertByAddr x l).Perm (x :: l) := by
  induction l with
  | nil => exact List.Perm.refl _
  | cons y ys ih =>
    unfold insertByAddr
    split
    · exact (List.Perm.cons y ih).trans (List.Perm.swap x y ys)
    · exact List.Perm.refl _

theorem sortByAddr_perm (l : List (Nat × Uuid)) : (sortByAddr l).Perm l := by
  induction l with
  | nil => exact List.Perm.refl _
  | cons x xs ih => exact (insertByAddr_perm x _).trans (List.Perm.cons x ih)

theorem insertByAddr_sorted (x : Nat × Uuid) (l : List (Nat × Uuid))
    (h : l.Pairwise (fun p q => p.1 ≤ q.1)) : (insertByAddr x l).Pairwise (fun p q => p.1 ≤ q.1) := by
  induction l with
  | nil => simp [insertByAddr]
  | cons y ys ih =>
    unfold insertByAddr
    rw [List.pairwise_cons] at h
    split
    · rename_i hlt
      rw [List.pairwise_cons]
      refine ⟨?_, ih h.2⟩
      intro z hz
      rcases List.mem_cons.1 ((insertByAddr_perm x ys).subset hz) with rfl | hz
      · exact Nat.le_of_lt hlt
      · exact h.1 z hz
    · rename_i hnlt
      rw [List.pairwise_cons]
      refine ⟨?_, List.pairwise_cons.2 h⟩
      intro z hz
      rcases List.mem_cons.1 hz with rfl | hz
      · omega
      · have := h.1 z hz; omega

theorem sortByAddr_sorted (l : List (Nat × Uuid)) : (sortByAddr l).Pairwise (fun p q => p.1 ≤ q.1) := by
  induction l with
  | nil => exact List.Pairwise.nil
  | cons x xs ih => exact insertByAddr_sorted x _ ih

theorem insertByAddr_filter (x : Nat × Uuid) (l : List (Nat × Uuid)) (a : Nat) :
    (insertByAddr x l).filter (fun p => p.1 = a) = (x :: l).filter (fun p => p.1 = a) := by
  induction l with
  | nil => rfl
  | cons y ys ih =>
    unfold insertByAddr
    split
    · rename_i hlt
      rw [List.filter_cons, ih]
      by_cases hy : y.1 = a
      · have hx : x.1 ≠ a := by omega
        simp [hy, hx]
      · simp [List.filter_cons, hy]
    · rfl

/-- Stability: records with one load address keep their order. -/
theorem sortByAddr_filter (l : List (Nat × Uuid)) (a : Nat) :
    (sortByAddr l).filter (fun p => p.1 = a) = l.filter (fun p => p.1 = a) := by
  induction l with
  | nil => rfl
  | cons x xs ih =>
    show (insertByAddr x (sortByAddr xs)).filter _ = _
    rw [insertByAddr_filter, List.filter_cons, List.filter_cons, ih]

/-- In particular the first record with a given load address is the same before and after sorting. -/
theorem sortByAddr_find? (l : List (Nat × Uuid)) (a : Nat) :
    (sortByAddr l).find? (fun p => p.1 = a) = l.find? (fun p => p.1 = a) := by
  rw [← List.head?_filter, ← List.head?_filter, sortByAddr_filter]


theorem step_spec (st : Images) (h : Inv st) (it : Item) :
    ∃ st' o, step st it = .ok (st', o) ∧ Inv st' ∧ insertAll st (announced it) = .ok st' ∧
      o.isSome = qualifies it ∧
      ∀ f r frs, it = .sample f r → csFrames f r = some frs →
        ∃ frames, lookupAll st frs = .ok frames ∧ o = some ⟨f.ts, f.tid, frames⟩ := by
  cases it with
  | sample f r =>
    cases hc : csFrames f r with
    | none =>
      refine ⟨st, none, by simp [step, hc], h, rfl, by simp [qualifies, hc], ?_⟩
      rintro _ _ frs ⟨⟩ h'
      rw [hc] at h'
      cases h'
    | some frs =>
      obtain ⟨frames, e1, _, _⟩ := lookupAll_spec st h frs
      refine ⟨st, some ⟨f.ts, f.tid, frames⟩, by simp [step, hc, e1], h, rfl, by simp [qualifies, hc], ?_⟩
      rintro _ _ frs' ⟨⟩ h'
      rw [hc] at h'
      cases h'
      exact ⟨frames, e1, rfl⟩
  | image a u =>
    obtain ⟨st', e1, i1, _, _⟩ := insertImage_spec st a u h
    exact ⟨st', none, by simp [step, e1], i1, by simp [announced, insertAll, e1], rfl, fun _ _ _ e => nomatch e⟩
  | launch imgs =>
    obtain ⟨st', e1, i1, _, _⟩ := insertAll_spec (sortByAddr imgs) st h
    exact ⟨st', none, by simp [step, e1], i1, e1, rfl, fun _ _ _ e => nomatch e⟩
  | other =>
    exact ⟨st, none, rfl, h, rfl, rfl, fun _ _ _ e => nomatch e⟩

theorem feedFrom_spec (s : List Item) : ∀ st, Inv st →
    ∃ st' cs, feedFrom st s = .ok (st', cs) ∧ Inv st' ∧ insertAll st (announcedAll s) = .ok st' ∧
      cs.length = (s.filter qualifies).length ∧
      ∀ pre f r post frs, s = pre ++ Item.sample f r :: post → csFrames f r = some frs →
        ∃ stm frames, insertAll st (announcedAll pre) = .ok stm ∧ Inv stm ∧ lookupAll stm frs = .ok frames ∧
          cs[(pre.filter qualifies).length]? = some ⟨f.ts, f.tid, frames⟩ := by
  induction s with
  | nil =>
    intro st h
    refine ⟨st, [], rfl, h, rfl, rfl, ?_⟩
    intro pre f r post frs e; cases pre <;> cases e
  | cons it t ih =>
    intro st h
    obtain ⟨st1, o, e1, i1, a1, q1, s1⟩ := step_spec st h it
    obtain ⟨st2, cs2, e2, i2, a2, l2, s2⟩ := ih st1 i1
    refine ⟨st2, o.toList ++ cs2, by simp only [feedFrom, e1, e2], i2, ?_, ?_, ?_⟩
    · show insertAll st (announced it ++ announcedAll t) = _
      rw [insertAll_append, a1]; exact a2
    · rw [List.filter_cons, ← q1]
      cases o <;> simp [l2]
    · intro pre f r post frs e hc
      cases pre with
      | nil =>
        simp only [List.nil_append, List.cons.injEq] at e
        obtain ⟨rfl, rfl⟩ := e
        obtain ⟨frames, e3, rfl⟩ := s1 f r frs rfl hc
        exact ⟨st, frames, rfl, h, e3, by simp⟩
      | cons it' pre' =>
        simp only [List.cons_append, List.cons.injEq] at e
        obtain ⟨rfl, rfl⟩ := e
        obtain ⟨stm, frames, e3, i3, e4, e5⟩ := s2 pre' f r post frs rfl hc
        refine ⟨stm, frames, ?_, i3, e4, ?_⟩
        · show insertAll st (announced it ++ announcedAll pre') = _
          rw [insertAll_append, a1]; exact e3
        · rw [List.filter_cons, ← q1]
          cases o <;> simpa using e5

theorem feedFrom_append (s t : List Item) : ∀ st, feedFrom st (s ++ t) =
    match feedFrom st s with
    | .error e => .error e
    | .ok (st', cs) =>
      match feedFrom st' t with
      | .error e => .error e
      | .ok (st'', cs') => .ok (st'', cs ++ cs') := by
  induction s with
  | nil =>
    intro st
    simp only [List.nil_append, feedFrom]
    cases feedFrom st t <;> rfl
  | cons it r ih =>
    intro st
    simp only [List.cons_append, feedFrom]
    cases step st it with
    | error e => rfl
    | ok p =>
      obtain ⟨st1, o⟩ := p
      simp only [ih st1]
      cases feedFrom st1 r with
      | error e => rfl
      | ok q =>
        obtain ⟨st2, cs⟩ := q
        simp only []
        cases feedFrom st2 t with
        | error e => rfl
        | ok q' => simp only [List.append_assoc]

end KdVerif.Callstacks
