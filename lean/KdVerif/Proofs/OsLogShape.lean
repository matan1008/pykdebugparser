import KdVerif.Proofs.OsLog
import KdVerif.Proofs.TraceId
/-
  Lemmas for C16: a well-shaped value (Spec/OsLogFormat) is accepted by its transform, with the
  value the format prescribes.
-/
namespace KdVerif.OsLog
open Spec.OsLogFormat Spec.Firehose

theorem optKey_dict_none {d : Dict} {k : String} {f : PVal → Except PyErr α} {x : α}
    (h : d.lookup k = none) : optKey (.dict d) k f x = .ok x := by
  simp [optKey, contains, andThen, h]

theorem optKey_dict_some {d : Dict} {k : String} {f : PVal → Except PyErr α} {x : α} {v : PVal}
    (h : d.lookup k = some v) : optKey (.dict d) k f x = f v := by
  simp [optKey, contains, subscr, andThen, h]

theorem optKey_ok {d : Dict} {k : String} {f : PVal → Except PyErr α} {x : α} {p : PVal → Bool}
    (hs : optOk d k p = true) (hf : ∀ v, p v = true → ∃ r, f v = .ok r) :
    ∃ r, optKey (.dict d) k f x = .ok r := by
  unfold optOk at hs
  cases hl : d.lookup k with
  | none => exact ⟨x, optKey_dict_none hl⟩
  | some v =>
    rw [hl] at hs
    obtain ⟨r, hr⟩ := hf v hs
    exact ⟨r, by rw [optKey_dict_some hl, hr]⟩

theorem optKey_plain (d : Dict) (k n : String) :
    optKey (.dict d) k (plainField n) [] =
      .ok (match d.lookup k with | some v => [(n, v)] | none => []) := by
  cases hl : d.lookup k with
  | none => rw [optKey_dict_none hl]
  | some v => rw [optKey_dict_some hl]; rfl

theorem strIndex_of_isIdx {S : Strings} {v : PVal} (h : isIdx S v = true) :
    ∃ n s, v = .int n ∧ S.lookup n = some s ∧ strIndex S v = .ok (.str s) := by
  cases v with
  | int n =>
    simp only [isIdx] at h
    cases hl : S.lookup n with
    | none => simp [hl] at h
    | some s => exact ⟨n, s, rfl, hl, by simp [strIndex, numOf, hl]⟩
  | _ => simp [isIdx] at h

theorem strField_ok {S : Strings} (name : String) {v : PVal} (h : isIdx S v = true) :
    ∃ r, strField S name v = .ok r := by
  obtain ⟨_, s, _, _, hs⟩ := strIndex_of_isIdx h
  exact ⟨[(name, .str s)], by simp [strField, andThen, hs]⟩

theorem parseTokens_ok {S : Strings} {t : PVal} (h : tokensShaped S t = true) :
    ∃ r, parseTokens S t = .ok r := by
  cases t with
  | list xs =>
    simp only [tokensShaped, List.all_eq_true] at h
    unfold parseTokens
    by_cases ht : truthy (.list xs) = true
    · obtain ⟨ys, hys⟩ := mapE_ok_exists (f := strIndex S) xs (fun a ha => by
        obtain ⟨_, s, _, _, hs⟩ := strIndex_of_isIdx (h a ha)
        exact ⟨_, hs⟩)
      simp only [ht, if_true, iter, andThen, hys]
      exact ⟨_, rfl⟩
    · simp only [ht]
      exact ⟨_, rfl⟩
  | _ => simp [tokensShaped] at h

theorem parsePlaceholder_ok {S : Strings} {p : PVal} (h : placeholderShaped S p = true) :
    ∃ r, parsePlaceholder S p = .ok r := by
  cases p with
  | dict d =>
    simp only [placeholderShaped, Bool.and_eq_true] at h
    obtain ⟨⟨⟨⟨⟨h1, h2⟩, h3⟩, h4⟩, hw⟩, hp⟩ := h
    obtain ⟨a1, e1⟩ := optKey_ok (x := []) h1 (fun v hv => strField_ok "raw_string" hv)
    obtain ⟨a2, e2⟩ := optKey_ok (x := []) h2 (fun v hv => parseTokens_ok hv)
    obtain ⟨a3, e3⟩ := optKey_ok (x := []) h3 (fun v hv => strField_ok "type_namespace" hv)
    obtain ⟨a4, e4⟩ := optKey_ok (x := []) h4 (fun v hv => strField_ok "type" hv)
    cases hlw : d.lookup "w" with
    | none => simp [hlw] at hw
    | some w =>
      cases hlp : d.lookup "p" with
      | none => simp [hlp] at hp
      | some pr =>
        simp only [parsePlaceholder, andThen, e1, e2, e3, e4, subscr, hlw, hlp]
        exact ⟨_, rfl⟩
  | _ => simp [placeholderShaped] at h

theorem getEq_category (d : Dict) (n : Int) :
    getEq (match d.lookup "c" with | some v => [("category", v)] | none => []) "category" n = categoryIs d n := by
  unfold getEq categoryIs
  cases d.lookup "c" <;> simp [List.lookup]

theorem parseArg_ok {S : Strings} {a : PVal} (h : argShaped S a = true) : ∃ r, parseArg S a = .ok r := by
  cases a with
  | dict d =>
    simp only [argShaped] at h
    obtain ⟨b5, e5⟩ := optKey_ok (x := ([] : Dict)) (f := fun v => if categoryIs d 2 = true
        then strField S "object_representation" v else plainField "object_representation" v) h fun v hv => by
      cases hc : categoryIs d 2 with
      | true =>
        rw [hc] at hv
        exact strField_ok "object_representation" hv
      | false => exact ⟨_, rfl⟩
    unfold parseArg
    simp only [optKey_plain, andThen_ok, getEq_category, e5]
    generalize (List.isEmpty _ || getEq _ "availability" 3) = c
    cases categoryIs d 1 <;> cases c <;> exact ⟨_, rfl⟩
  | _ => simp [argShaped] at h

theorem parseSegment_ok {S : Strings} {seg : PVal} (h : segmentShaped S seg = true) :
    ∃ r, parseSegment S seg = .ok r := by
  cases seg with
  | dict d =>
    simp only [segmentShaped, Bool.and_eq_true] at h
    obtain ⟨⟨h1, h2⟩, h3⟩ := h
    obtain ⟨l, e1⟩ := optKey_ok (x := []) h1 (fun v hv => strField_ok "literal_prefix" hv)
    obtain ⟨p, e2⟩ := optKey_ok (x := ([] : Dict))
      (f := fun v => parsePlaceholder S v >>=? fun r => .ok [("placeholder", r)]) h2 (fun v hv => by
        obtain ⟨r, hr⟩ := parsePlaceholder_ok hv
        simp only [hr, andThen_ok]
        exact ⟨_, rfl⟩)
    obtain ⟨a, e3⟩ := optKey_ok (x := ([] : Dict))
      (f := fun v => parseArg S v >>=? fun r => .ok [("arg", r)]) h3 (fun v hv => by
        obtain ⟨r, hr⟩ := parseArg_ok hv
        simp only [hr, andThen_ok]
        exact ⟨_, rfl⟩)
    simp only [parseSegment, e1, e2, e3, andThen_ok]
    exact ⟨_, rfl⟩
  | _ => simp [segmentShaped] at h

theorem parseDecomposed_ok {S : Strings} {dm : PVal} (h : decomposedShaped S dm = true) :
    ∃ r, parseDecomposed S dm = .ok r := by
  cases dm with
  | dict d =>
    simp only [decomposedShaped, Bool.and_eq_true] at h
    obtain ⟨hs, hpc⟩ := h
    cases hls : d.lookup "s" with
    | none => simp [hls] at hs
    | some st =>
      cases hlp : d.lookup "pc" with
      | none => simp [hlp] at hpc
      | some pc =>
        rw [hlp] at hpc
        by_cases ht : truthy pc = true
        · simp only [ht, Bool.not_true, Bool.false_or] at hpc
          cases hlg : d.lookup "seg" with
          | none => simp [hlg, segmentsShaped] at hpc
          | some sg =>
            rw [hlg] at hpc
            cases sg with
            | list segs =>
              simp only [segmentsShaped, List.all_eq_true] at hpc
              obtain ⟨outs, ho⟩ := mapE_ok_exists (f := parseSegment S) segs
                (fun a ha => parseSegment_ok (hpc a ha))
              simp only [parseDecomposed, subscr, andThen, hls, hlp, hlg, ht, if_true, iter, ho]
              exact ⟨_, rfl⟩
            | _ => simp [segmentsShaped] at hpc
        · simp only [parseDecomposed, subscr, andThen, hls, hlp, ht]
          exact ⟨_, rfl⟩
  | _ => simp [decomposedShaped] at h

theorem parseDecomposed_segments {S : Strings} {dm r pc : PVal} (h : parseDecomposed S dm = .ok r)
    (hpc : subscr dm "pc" = .ok pc) (ht : truthy pc = true) :
    ∃ st sg segs outs, subscr dm "s" = .ok st ∧ subscr dm "seg" = .ok sg ∧ iter sg = .ok segs ∧
      r = .dict [("placeholder_count", pc), ("state", st), ("segments", .list outs)] ∧
      outs.length = segs.length ∧
      ∀ (i : Nat) (h1 : i < segs.length) (h2 : i < outs.length), parseSegment S segs[i] = .ok outs[i] := by
  unfold parseDecomposed at h
  simp only [hpc, andThen_ok, ht, if_true, andThen_eq_ok] at h
  obtain ⟨st, hs, sg, hg, segs, hi, outs, hm, h⟩ := h
  obtain ⟨hl, hall⟩ := mapE_ok_inv segs outs hm
  exact ⟨st, sg, segs, outs, hs, hg, hi, (Except.ok.inj h).symm, hl, hall⟩

theorem dictShape_ok {pairs : List (String × String)} {v : PVal} (h : hasKeys (pairs.map (·.2)) v = true) :
    ∃ d, v = .dict d ∧
      dictShape pairs v = .ok (.dict (pairs.map fun p => (p.1, (d.lookup p.2).getD PVal.none))) := by
  cases v with
  | dict d =>
    refine ⟨d, rfl, ?_⟩
    simp only [hasKeys, List.all_eq_true, List.mem_map] at h
    have := mapE_ok_of_forall (f := fun p : String × String => subscr (.dict d) p.2 >>=? fun x => .ok (p.1, x))
      (g := fun p => (p.1, (d.lookup p.2).getD PVal.none)) pairs (by
        intro p hp
        have hk := h p.2 ⟨p, hp, rfl⟩
        cases hl : d.lookup p.2 with
        | none => simp [hl] at hk
        | some x => simp [subscr, andThen, hl])
    simp only [dictShape, this, andThen_ok]
  | _ => simp [hasKeys] at h

/-- `unix_date` (PARTIAL, see the file header of Props/C16): the model's instant is exact. -/
theorem timestamp_exact {d : Dict} {ks ku : String} {s u : Int}
    (hs : d.lookup ks = some (.int s)) (hu : d.lookup ku = some (.int u))
    (hs0 : 0 ≤ s) (hs1 : s < 2 ^ 32) (hu0 : 0 ≤ u) (hu1 : u < 1000000) :
    timestamp (.dict d) ks ku = .ok (.datetime s u.toNat) := by
  have e1 : (s * 1000000 + u) / 1000000 = s := by omega
  have e2 : (s * 1000000 + u) % 1000000 = u := by omega
  have e3 : ¬ (s < minSec ∨ maxSec < s) := by
    unfold minSec maxSec
    omega
  simp only [timestamp, subscr, hs, hu, andThen, numOf, e1, e2, e3, if_false]

theorem intIn_spec {d : Dict} {k : String} {b : Int} (h : intIn d k b = true) :
    ∃ n, d.lookup k = some (.int n) ∧ 0 ≤ n ∧ n < b := by
  unfold intIn at h
  split at h
  · rename_i n hl
    simp only [Bool.and_eq_true, decide_eq_true_eq] at h
    exact ⟨n, hl, h.1, h.2⟩
  · cases h

theorem enumOfVal_ok {e : EnumRef} {n : Int} (h0 : 0 ≤ n) (h : refAccepts e n.toNat = true) :
    ∃ r, enumOfVal e (.int n) = .ok r := by
  obtain ⟨v, hv, _⟩ := enumCall_of_accepts e _ h
  have : ¬ n < 0 := by omega
  simp only [enumOfVal, numOf, this, if_false, andThen, hv]
  exact ⟨_, rfl⟩


theorem parseTraceIdentifier_ok {w : Int} (h0 : 0 ≤ w) (h1 : w < 2 ^ 64)
    (h : inDomain Gen.OsLog.idTables (unpackId w.toNat) = true) :
    ∃ r, parseTraceIdentifier Gen.OsLog.idTables (.int w) = .ok r := by
  have hw : w.toNat < 2 ^ 64 := by omega
  obtain ⟨d, hd, _⟩ := decodeId_unpack w.toNat hw h
  have : ¬ w < 0 := by omega
  simp only [parseTraceIdentifier, numOf, this, if_false, hd, andThen_ok]
  exact ⟨_, rfl⟩

theorem transform_ok (S : Strings) (tr : Transform) (v : PVal)
    (h : Shaped Gen.OsLog.idTables S tr v = true) :
    ∃ r, applyTransform Gen.OsLog.idTables S tr v = .ok r := by
  cases tr with
  | plain => exact ⟨v, rfl⟩
  | strIndex =>
    obtain ⟨_, s, _, _, hs⟩ := strIndex_of_isIdx (by simpa [Shaped] using h)
    exact ⟨_, hs⟩
  | enumOf e =>
    cases v with
    | int n =>
      simp only [Shaped, Bool.and_eq_true, decide_eq_true_eq] at h
      exact enumOfVal_ok h.1 h.2
    | _ => simp [Shaped] at h
  | dictShape pairs =>
    obtain ⟨d, _, hd⟩ := dictShape_ok (pairs := pairs) (by simpa [Shaped] using h)
    exact ⟨_, hd⟩
  | listDictShape pairs =>
    cases v with
    | list xs =>
      simp only [Shaped, List.all_eq_true] at h
      obtain ⟨ys, hys⟩ := mapE_ok_exists (f := dictShape pairs) xs (fun a ha => by
        obtain ⟨d, _, hd⟩ := dictShape_ok (pairs := pairs) (h a ha)
        exact ⟨_, hd⟩)
      simp only [applyTransform, iter, hys, andThen_ok]
      exact ⟨_, rfl⟩
    | _ => simp [Shaped] at h
  | timestamp ks ku =>
    cases v with
    | dict d =>
      simp only [Shaped, Bool.and_eq_true] at h
      obtain ⟨s, hs, hs0, hs1⟩ := intIn_spec h.1
      obtain ⟨u, hu, hu0, hu1⟩ := intIn_spec h.2
      exact ⟨_, timestamp_exact hs hu hs0 hs1 hu0 hu1⟩
    | _ => simp [Shaped] at h
  | decomposed => exact parseDecomposed_ok (by simpa [Shaped] using h)
  | traceId =>
    cases v with
    | int w =>
      simp only [Shaped, Bool.and_eq_true, decide_eq_true_eq] at h
      exact parseTraceIdentifier_ok h.1.1 h.1.2 h.2
    | _ => simp [Shaped] at h
  | unsupported src => simp [Shaped] at h

end KdVerif.OsLog
