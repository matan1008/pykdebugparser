import KdVerif.Spec.PyIRExpected
import KdVerif.Proofs.Pairing
/-
  The expected IR of the pairing methods (`Spec/PyIRExpected`), run by the interpreter of `Model/PyIR`,
  is `Model/Pairing.step` / `gate` on the abstraction of the heap.  Three layers:
    A. association lists (`AList`) = Python dicts with unique keys;
    B. the append loop `for eventid in d[t]: d[t][eventid].append(e)` executed by `forLoop`/`exec` appends
       `e` to every list of `d[t]` (needs: keys of `d[t]` unique);
    C. closed forms of the five methods, then `abs (heap after feed) = (step (abs heap) e).1`.
-/
namespace KdVerif.PyIR

namespace AList
variable {β γ : Type}

theorem lookup_set_self (k : Nat) (v : β) (m : AList β) : lookup k (set k v m) = some v := by
  induction m with
  | nil => simp [set, lookup]
  | cons p r ih => by_cases h : p.1 = k <;> simp [set, lookup, h, ih]

theorem lookup_set_ne {k k' : Nat} (h : k' ≠ k) (v : β) (m : AList β) :
    lookup k' (set k v m) = lookup k' m := by
  induction m with
  | nil => simp [set, lookup, Ne.symm h]
  | cons p r ih =>
    by_cases hp : p.1 = k
    · simp [set, lookup, hp, Ne.symm h]
    · by_cases hp' : p.1 = k' <;> simp [set, lookup, hp, hp', ih, h]

theorem mem_keys_iff (k : Nat) (m : AList β) : k ∈ keys m ↔ (lookup k m).isSome = true := by
  induction m with
  | nil => simp [keys, lookup]
  | cons p r ih =>
    by_cases hp : p.1 = k
    · simp [keys, lookup, hp]
    · have : ¬ k = p.1 := fun h => hp h.symm
      simpa [keys, lookup, hp, this] using ih

theorem lookup_eq_none_iff (k : Nat) (m : AList β) : lookup k m = none ↔ k ∉ keys m := by
  rw [mem_keys_iff]; cases lookup k m <;> simp

theorem keys_set_of_mem {k : Nat} (v : β) {m : AList β} (h : k ∈ keys m) : keys (set k v m) = keys m := by
  induction m with
  | nil => simp [keys] at h
  | cons p r ih =>
    by_cases hp : p.1 = k
    · simp [set, keys, hp]
    · have hk : k ∈ keys r := by simpa [keys, Ne.symm hp] using h
      have := ih hk
      simp only [keys] at this
      simp [set, keys, hp, this]

theorem keys_set_of_not_mem {k : Nat} (v : β) {m : AList β} (h : k ∉ keys m) :
    keys (set k v m) = keys m ++ [k] := by
  induction m with
  | nil => simp [set, keys]
  | cons p r ih =>
    have hp : ¬ p.1 = k := fun h' => h (by simp [keys, h'])
    have hk : k ∉ keys r := fun h' => h (by simp only [keys, List.map_cons, List.mem_cons]; exact Or.inr h')
    have := ih hk
    simp only [keys] at this
    simp [set, keys, hp, this]

theorem nodup_keys_set (k : Nat) (v : β) {m : AList β} (h : (keys m).Nodup) : (keys (set k v m)).Nodup := by
  by_cases hk : k ∈ keys m
  · rw [keys_set_of_mem v hk]; exact h
  · rw [keys_set_of_not_mem v hk]
    rw [List.nodup_append]
    refine ⟨h, by simp, ?_⟩
    intro a ha b hb
    simp only [List.mem_singleton] at hb
    subst hb
    intro hab; subst hab; exact hk ha

theorem set_set (k : Nat) (v v' : β) (m : AList β) : set k v' (set k v m) = set k v' m := by
  induction m with
  | nil => simp [set]
  | cons p r ih => by_cases hp : p.1 = k <;> simp [set, hp, ih]

theorem lookup_erase_ne {k k' : Nat} (h : k' ≠ k) (m : AList β) : lookup k' (erase k m) = lookup k' m := by
  induction m with
  | nil => simp [erase]
  | cons p r ih =>
    by_cases hp : p.1 = k
    · simp [erase, lookup, hp, Ne.symm h]
    · by_cases hp' : p.1 = k' <;> simp [erase, lookup, hp, hp', ih, h]

theorem lookup_erase_self (k : Nat) {m : AList β} (h : (keys m).Nodup) : lookup k (erase k m) = none := by
  induction m with
  | nil => simp [erase, lookup]
  | cons p r ih =>
    have hr : (keys r).Nodup := by simp only [keys, List.map_cons, List.nodup_cons] at h; exact h.2
    by_cases hp : p.1 = k
    · have : k ∉ keys r := by
        simp only [keys, List.map_cons, List.nodup_cons] at h
        rw [← hp]; exact h.1
      simpa [erase, hp] using (lookup_eq_none_iff k r).2 this
    · simp [erase, lookup, hp, ih hr]

theorem keys_erase_sublist (k : Nat) (m : AList β) : (keys (erase k m)).Sublist (keys m) := by
  induction m with
  | nil => simp [erase, keys]
  | cons p r ih =>
    by_cases hp : p.1 = k
    · simp [erase, keys, hp]
    · simp only [keys] at ih
      simp [erase, keys, hp, ih]

theorem nodup_keys_erase (k : Nat) {m : AList β} (h : (keys m).Nodup) : (keys (erase k m)).Nodup :=
  (keys_erase_sublist k m).nodup h

theorem lookup_map_val (f : β → γ) (k : Nat) (m : AList β) :
    lookup k (m.map fun p => (p.1, f p.2)) = (lookup k m).map f := by
  induction m with
  | nil => simp [lookup]
  | cons p r ih => by_cases hp : p.1 = k <;> simp [lookup, hp, ih]

theorem keys_map_val (f : β → γ) (m : AList β) : keys (m.map fun p => (p.1, f p.2)) = keys m := by
  simp [keys, List.map_map, Function.comp_def]

theorem contains_eq (k : Nat) (m : AList β) : contains k m = (lookup k m).isSome := rfl

end AList

@[simp] theorem tbl_setTbl_same (w : World) (d : Bool) (t : Tbl) : (w.setTbl d t).tbl d = t := by
  cases d <;> rfl

theorem tbl_setTbl_ne (w : World) {d d' : Bool} (h : d' ≠ d) (t : Tbl) : (w.setTbl d t).tbl d' = w.tbl d' := by
  cases d <;> cases d' <;> first | rfl | exact absurd rfl h

@[simp] theorem setTbl_setTbl (w : World) (d : Bool) (t t' : Tbl) : (w.setTbl d t).setTbl d t' = w.setTbl d t' := by
  cases d <;> rfl

@[simp] theorem calls_setTbl (w : World) (d : Bool) (t : Tbl) : (w.setTbl d t).calls = w.calls := by
  cases d <;> rfl

open Expected

-- the equations of the interpreter and of its helpers enter the simp set here, once, for every `simp` call below
attribute [local simp] eval exec evalField evalIn evalIndex evalGet AList.contains evTid evEid evQual

/-- The invariant of the append loop: after the keys `ks`, `e` is appended to exactly their lists. -/
def mapOn (ks : List Nat) (e : Kevent) (m : Inner) : Inner :=
  m.map fun p => if p.1 ∈ ks then (p.1, p.2 ++ [e]) else p

theorem mapOn_set (ks : List Nat) (e : Kevent) (k : Nat) (l : List Kevent) (m : Inner)
    (hnd : (AList.keys m).Nodup) (hl : AList.lookup k m = some l) (hk : k ∉ ks) :
    mapOn ks e (AList.set k (l ++ [e]) m) = mapOn (k :: ks) e m := by
  induction m with
  | nil => simp [AList.lookup] at hl
  | cons p r ih =>
    obtain ⟨a, b⟩ := p
    simp only [AList.keys, List.map_cons, List.nodup_cons] at hnd
    by_cases ha : a = k
    · subst ha
      simp only [AList.lookup, if_true, Option.some.injEq] at hl
      subst hl
      have hr : ∀ p ∈ r, (if p.1 ∈ ks then (p.1, p.2 ++ [e]) else p) =
          (if p.1 ∈ a :: ks then (p.1, p.2 ++ [e]) else p) := by
        intro p hp
        have : p.1 ≠ a := fun h => hnd.1 (h ▸ List.mem_map_of_mem (f := (·.1)) hp)
        simp [this]
      simp only [mapOn, AList.set, if_true, List.map_cons, hk, if_false, List.mem_cons, true_or]
      congr 1
      exact List.map_congr_left (fun p hp => by simpa using hr p hp)
    · have hl' : AList.lookup k r = some l := by simpa [AList.lookup, ha] using hl
      have := ih hnd.2 hl'
      simp only [mapOn] at this
      simp only [mapOn, AList.set, ha, if_false, List.map_cons, this, List.mem_cons, false_or]

theorem mapOn_keys (e : Kevent) (m : Inner) :
    mapOn (AList.keys m) e m = m.map fun p => (p.1, p.2 ++ [e]) := by
  apply List.map_congr_left
  intro p hp
  have : p.1 ∈ AList.keys m := List.mem_map_of_mem (f := (·.1)) hp
  simp [this]

theorem keys_mapOn (ks : List Nat) (e : Kevent) (m : Inner) : AList.keys (mapOn ks e m) = AList.keys m := by
  simp only [AList.keys, mapOn, List.map_map]
  apply List.map_congr_left
  intro p _
  simp only [Function.comp]
  split <;> rfl

/-- the body of the append loop: `state[event.tid][eventid].append(event)` -/
def appendBody : Stmt := .append (.index (.index (.var 1) evTid) (.var 2)) (.var 0) .done

/-- the local variables of a `_feed_*` method: `event` = v0, `state` = v1 -/
structure EnvOK (env : Env) (e : Kevent) (d : Bool) : Prop where
  ev : env 0 = some (.event e)
  st : env 1 = some (.table d)

theorem EnvOK.set {env : Env} {e : Kevent} {d : Bool} (h : EnvOK env e d) (i : Nat) (hi : 2 ≤ i) (v : Val) :
    EnvOK (env.set i v) e d := by
  constructor
  · have : ¬ 0 = i := by omega
    simp [Env.set, this, h.ev]
  · have : ¬ 1 = i := by omega
    simp [Env.set, this, h.st]

variable (acts : List (Nat × Meth)) (cfg : Cfg) (callee : Callee)

section
variable {env : Env} {w : World} {e : Kevent} {d : Bool} (h : EnvOK env e d)
include h

theorem EnvOK.eval_tid : eval cfg w env evTid = .ok (.int e.tid) := by simp [h.ev]

theorem EnvOK.eval_eid : eval cfg w env evEid = .ok (.int e.eventid) := by simp [h.ev]

theorem EnvOK.eval_tidIn :
    eval cfg w env (.isIn evTid (.var 1)) = .ok (.bool (AList.lookup e.tid (w.tbl d)).isSome) := by
  simp [h.ev, h.st]

theorem EnvOK.eval_inner {m : Inner} (hm : AList.lookup e.tid (w.tbl d) = some m) :
    eval cfg w env (.index (.var 1) evTid) = .ok (.inner d e.tid) := by
  simp [h.ev, h.st, hm]

theorem EnvOK.eval_eidIn {m : Inner} (hm : AList.lookup e.tid (w.tbl d) = some m) :
    eval cfg w env (.isIn evEid (.index (.var 1) evTid)) = .ok (.bool (AList.lookup e.eventid m).isSome) := by
  simp [h.ev, h.st, hm]

end

theorem exec_appendBody {env : Env} {w : World} {e : Kevent} {d : Bool} (henv : EnvOK env e d) {k : Nat}
    {m : Inner} {l : List Kevent} (hk : env 2 = some (.int k))
    (hm : AList.lookup e.tid (w.tbl d) = some m) (hl : AList.lookup k m = some l) :
    exec acts cfg callee appendBody env w =
      .ok (.normal, env, w.setTbl d (AList.set e.tid (AList.set k (l ++ [e]) m) (w.tbl d))) := by
  simp [appendBody, henv.ev, henv.st, hk, hm, hl]


theorem AList.set_lookup_self {β : Type} {k : Nat} {v : β} {m : AList β} (h : AList.lookup k m = some v) :
    AList.set k v m = m := by
  induction m with
  | nil => simp [AList.lookup] at h
  | cons p r ih =>
    obtain ⟨a, b⟩ := p
    by_cases ha : a = k <;> simp_all [AList.set, AList.lookup]

theorem setTbl_tbl (w : World) (d : Bool) : w.setTbl d (w.tbl d) = w := by cases d <;> rfl

theorem forLoop_append {e : Kevent} {d : Bool} (ks : List Nat) :
    ∀ {env : Env} {w : World} {m : Inner}, EnvOK env e d → AList.lookup e.tid (w.tbl d) = some m →
      (AList.keys m).Nodup → (∀ k ∈ ks, k ∈ AList.keys m) → ks.Nodup →
      ∃ env', EnvOK env' e d ∧
        forLoop (fun env w => exec acts cfg callee appendBody env w) 2 (.inner d e.tid) (AList.keys m) ks env w =
          .ok (.normal, env', w.setTbl d (AList.set e.tid (mapOn ks e m) (w.tbl d))) := by
  induction ks with
  | nil =>
    intro env w m henv hm _ _ _
    exact ⟨env, henv, by simp [forLoop, mapOn, AList.set_lookup_self hm, setTbl_tbl]⟩
  | cons k ks ih =>
    intro env w m henv hm hnd hks hksnd
    have hk : k ∈ AList.keys m := hks k (by simp)
    obtain ⟨l, hl⟩ := Option.isSome_iff_exists.1 ((AList.mem_keys_iff k m).1 hk)
    have henv1 := henv.set 2 (Nat.le_refl 2) (.int k)
    have hb := exec_appendBody acts cfg callee henv1 (k := k) (by simp [Env.set]) hm hl
    have hkeys : AList.keys (AList.set k (l ++ [e]) m) = AList.keys m := AList.keys_set_of_mem _ hk
    simp only [List.nodup_cons] at hksnd
    obtain ⟨env', henv', h'⟩ := ih (env := env.set 2 (.int k))
      (w := w.setTbl d (AList.set e.tid (AList.set k (l ++ [e]) m) (w.tbl d)))
      (m := AList.set k (l ++ [e]) m) henv1 (by simp [AList.lookup_set_self])
      (by rw [hkeys]; exact hnd) (by intro k' hk'; rw [hkeys]; exact hks k' (by simp [hk'])) hksnd.2
    refine ⟨env', henv', ?_⟩
    rw [hkeys] at h'
    simp only [forLoop, hb, iterKeys, tbl_setTbl_same, AList.lookup_set_self, hkeys, if_true, h',
      setTbl_setTbl, AList.set_set, mapOn_set ks e k l m hnd hl hksnd.1]

def appendInner (e : Kevent) (m : Inner) : Inner := m.map fun p => (p.1, p.2 ++ [e])

/-- Heap effect of `for eventid in state.get(t, {}): state[t][eventid].append(e)`. -/
def hAppend (w : World) (d : Bool) (t : Nat) (e : Kevent) : World :=
  match AList.lookup t (w.tbl d) with
  | some m => w.setTbl d (AList.set t (appendInner e m) (w.tbl d))
  | none => w

theorem exec_forKeys (v : Nat) (it : Expr) (body next : Stmt) (env : Env) (w : World) :
    exec acts cfg callee (.forKeys v it body next) env w =
      match eval cfg w env it with
      | .error x => .error x
      | .ok itv =>
        match iterKeys w itv with
        | .error x => .error x
        | .ok ks =>
          match forLoop (fun env w => exec acts cfg callee body env w) v itv ks ks env w with
          | .ok (.normal, env', w') => exec acts cfg callee next env' w'
          | r => r := by
  rw [exec]
  rfl

/-- the append loop over an iterable that evaluates to `state[event.tid]` -/
theorem exec_appendLoop {env : Env} {w : World} {e : Kevent} {d : Bool} {m : Inner} (it : Expr) (next : Stmt)
    (henv : EnvOK env e d) (hm : AList.lookup e.tid (w.tbl d) = some m) (hnd : (AList.keys m).Nodup)
    (hit : eval cfg w env it = .ok (.inner d e.tid)) :
    ∃ env', EnvOK env' e d ∧
      exec acts cfg callee (appendLoop it next) env w =
        exec acts cfg callee next env' (w.setTbl d (AList.set e.tid (appendInner e m) (w.tbl d))) := by
  obtain ⟨env', henv', h⟩ := forLoop_append acts cfg callee (AList.keys m) henv hm hnd (fun _ h => h) hnd
  refine ⟨env', henv', ?_⟩
  rw [mapOn_keys] at h
  show exec acts cfg callee (.forKeys 2 _ appendBody next) env w = _
  rw [exec_forKeys]
  simp only [hit, iterKeys, hm, h, appendInner]

theorem exec_appendLoop_get {env : Env} {w : World} {e : Kevent} {d : Bool} (next : Stmt)
    (henv : EnvOK env e d) (hwf : ∀ m, AList.lookup e.tid (w.tbl d) = some m → (AList.keys m).Nodup) :
    ∃ env', EnvOK env' e d ∧
      exec acts cfg callee (appendLoop (.getOrEmpty (.var 1) evTid) next) env w =
        exec acts cfg callee next env' (hAppend w d e.tid e) := by
  cases hm : AList.lookup e.tid (w.tbl d) with
  | none => exact ⟨env, henv, by simp [appendLoop, henv.ev, henv.st, hm, iterKeys, forLoop, hAppend]⟩
  | some m =>
    simp only [hAppend, hm]
    exact exec_appendLoop acts cfg callee _ next henv hm (hwf m hm) (by simp [henv.ev, henv.st, hm])

section methods
variable (cfg : Cfg)

/-- What `parse_event_list(l)` does, as a function of the heap. -/
def hPel (l : List Kevent) (w : World) : Except PyErr (Val × World) :=
  match l with
  | [] => .error .indexError
  | x :: _ =>
    .ok ((match cfg.codes x.eventid with
          | some nm => if cfg.hasHandler nm then Val.result nm l else Val.none
          | none => Val.none),
         { w with calls := w.calls ++ [l] })

theorem invoke_pel (n : Nat) (l : List Kevent) (w : World) :
    invoke prog cfg (n + 1) .parseEventList [.list l] w = hPel cfg l w := by
  cases l with
  | nil => simp [invoke, prog, Prog.method, parseEventList, Val.storable, firstEid, Env.ofArgs, hPel, finish]
  | cons x xs =>
    cases hc : cfg.codes x.eventid with
    | none => simp [invoke, prog, Prog.method, parseEventList, Val.storable, firstEid, Env.ofArgs, hPel, hc, finish]
    | some nm =>
      cases hh : cfg.hasHandler nm <;>
        simp [invoke, prog, Prog.method, parseEventList, Val.storable, firstEid, Env.ofArgs, hPel, hc, hh, doCall, finish]

/-- Unique keys: the two tables and every `table[tid]` are Python dicts. -/
def WF (w : World) : Prop :=
  ∀ d, (AList.keys (w.tbl d)).Nodup ∧ ∀ t m, AList.lookup t (w.tbl d) = some m → (AList.keys m).Nodup

/-- Heap after `_feed_start_event(e, table d)`. -/
def hStart (w : World) (d : Bool) (e : Kevent) : World :=
  w.setTbl d (AList.set e.tid
    (appendInner e (AList.set e.eventid [] ((AList.lookup e.tid (w.tbl d)).getD []))) (w.tbl d))

theorem envOK_ofArgs (e : Kevent) (d : Bool) : EnvOK (Env.ofArgs [.event e, .table d]) e d :=
  ⟨by simp [Env.ofArgs], by simp [Env.ofArgs]⟩

theorem exec_startRest (acts : List (Nat × Meth)) (callee : Callee) {env : Env} {w : World} {e : Kevent} {d : Bool}
    {m : Inner} (henv : EnvOK env e d) (hm : AList.lookup e.tid (w.tbl d) = some m) (hnd : (AList.keys m).Nodup) :
    ∃ env', exec acts cfg callee startRest env w =
      .ok (.ret .none, env', w.setTbl d (AList.set e.tid (appendInner e (AList.set e.eventid [] m)) (w.tbl d))) := by
  have hm1 : AList.lookup e.tid ((w.setTbl d (AList.set e.tid (AList.set e.eventid [] m) (w.tbl d))).tbl d) =
      some (AList.set e.eventid [] m) := by simp [AList.lookup_set_self]
  obtain ⟨env', _, h⟩ := exec_appendLoop acts cfg callee _ (.ret .none) henv hm1 (AList.nodup_keys_set _ _ hnd)
    (henv.eval_inner cfg hm1)
  refine ⟨env', ?_⟩
  rw [startRest, exec]
  simp only [henv.eval_inner cfg hm, henv.eval_eid cfg, hm, h]
  simp [AList.set_set]

theorem invoke_succ (p : Prog) (n : Nat) (m : Meth) (args : List Val) (w : World)
    (hlen : args.length = (p.method m).params) (hst : args.all Val.storable = true) (hm : m ≠ .parseEventList) :
    invoke p cfg (n + 1) m args w =
      finish (exec p.actions cfg (invoke p cfg n) (p.method m).body (Env.ofArgs args) w) := by
  cases m <;> first | exact absurd rfl hm | simp [invoke, hlen, hst]

theorem exec_feedStart (acts : List (Nat × Meth)) (callee : Callee) {env : Env} {w : World} {e : Kevent} {d : Bool}
    (henv : EnvOK env e d) (hwf : WF w) :
    ∃ env', exec acts cfg callee feedStart.body env w = .ok (.ret .none, env', hStart w d e) := by
  have hd : eval cfg w env (.var 1) = .ok (.table d) := by simp [henv.st]
  rw [feedStart, exec, henv.eval_tidIn cfg]
  cases hm : AList.lookup e.tid (w.tbl d) with
  | some m =>
    obtain ⟨env', h⟩ := exec_startRest cfg acts callee henv hm ((hwf d).2 _ _ hm)
    exact ⟨env', by simp only [Option.isSome_some, h, hStart, hm, Option.getD_some]⟩
  | none =>
    have hm0 : AList.lookup e.tid ((w.setTbl d (AList.set e.tid [] (w.tbl d))).tbl d) = some [] := by
      simp [AList.lookup_set_self]
    obtain ⟨env', h⟩ := exec_startRest cfg acts callee henv hm0 (by simp [AList.keys])
    refine ⟨env', ?_⟩
    simp only [Option.isSome_none]
    rw [exec]
    simp only [hd, henv.eval_tid cfg, h, hStart, hm, Option.getD_none, tbl_setTbl_same, setTbl_setTbl, AList.set_set]

theorem invoke_start (n : Nat) (w : World) (e : Kevent) (d : Bool) (hwf : WF w) :
    invoke prog cfg (n + 1) .feedStart [.event e, .table d] w = .ok (.none, hStart w d e) := by
  obtain ⟨env', h⟩ := exec_feedStart cfg prog.actions (invoke prog cfg n) (envOK_ofArgs e d) hwf
  rw [invoke_succ cfg prog n .feedStart _ w rfl rfl (by decide)]
  show finish (exec prog.actions cfg (invoke prog cfg n) feedStart.body _ w) = _
  rw [h]; rfl

/-- What `_feed_end_event(e, table d)` does. -/
def hEnd (w : World) (d : Bool) (e : Kevent) : Except PyErr (Val × World) :=
  match AList.lookup e.tid (w.tbl d) with
  | none => .ok (.none, w)
  | some m =>
    match AList.lookup e.eventid m with
    | none => .ok (.none, w)
    | some l =>
      hPel cfg (l ++ [e]) (w.setTbl d (AList.set e.tid (AList.erase e.eventid (appendInner e m)) (w.tbl d)))

/-- What `_feed_single_event(e, table d)` does. -/
def hSingle (w : World) (d : Bool) (e : Kevent) : Except PyErr (Val × World) :=
  hPel cfg [e] (hAppend w d e.tid e)

theorem finish_exec_feedEnd (acts : List (Nat × Meth)) (callee : Callee)
    (hcallee : ∀ l w, callee .parseEventList [.list l] w = hPel cfg l w)
    {env : Env} {w : World} {e : Kevent} {d : Bool} (henv : EnvOK env e d) (hwf : WF w) :
    finish (exec acts cfg callee feedEnd.body env w) = hEnd cfg w d e := by
  rw [feedEnd, exec, henv.eval_tidIn cfg]
  cases hm : AList.lookup e.tid (w.tbl d) with
  | none => simp [finish, hEnd, hm]
  | some m =>
    simp only [Option.isSome_some]
    rw [exec, henv.eval_eidIn cfg hm]
    cases hl : AList.lookup e.eventid m with
    | none => simp [finish, hEnd, hm, hl]
    | some l =>
      obtain ⟨env', henv', h⟩ := exec_appendLoop acts cfg callee _
        (.pop 3 (.index (.var 1) evTid) evEid (.retCall (.self .parseEventList (.var 3)))) henv hm ((hwf d).2 _ _ hm)
        (henv.eval_inner cfg hm)
      simp only [Option.isSome_some, h]
      have hl' : AList.lookup e.eventid (appendInner e m) = some (l ++ [e]) := by
        rw [appendInner, AList.lookup_map_val (fun l => l ++ [e]), hl]; rfl
      simp [henv'.ev, henv'.st, AList.lookup_set_self, hl', doCall, Env.set, hcallee, finish, hEnd, hm, hl, AList.set_set]
      cases hPel cfg (l ++ [e]) _ <;> rfl


theorem finish_exec_feedSingle (acts : List (Nat × Meth)) (callee : Callee)
    (hcallee : ∀ l w, callee .parseEventList [.list l] w = hPel cfg l w)
    {env : Env} {w : World} {e : Kevent} {d : Bool} (henv : EnvOK env e d) (hwf : WF w) :
    finish (exec acts cfg callee feedSingle.body env w) = hSingle cfg w d e := by
  obtain ⟨env', henv', h⟩ := exec_appendLoop_get acts cfg callee
    (.retCall (.self .parseEventList (.list1 (.var 0)))) henv (fun m hm => (hwf d).2 _ _ hm)
  rw [feedSingle]
  simp only [h]
  simp [doCall, henv'.ev, hcallee, hSingle, finish, hPel]

theorem invoke_end (n : Nat) (w : World) (e : Kevent) (d : Bool) (hwf : WF w) :
    invoke prog cfg (n + 2) .feedEnd [.event e, .table d] w = hEnd cfg w d e := by
  rw [invoke_succ cfg prog (n + 1) .feedEnd _ w rfl rfl (by decide)]
  exact finish_exec_feedEnd cfg prog.actions _ (invoke_pel cfg n) (envOK_ofArgs e d) hwf

theorem invoke_single (n : Nat) (w : World) (e : Kevent) (d : Bool) (hwf : WF w) :
    invoke prog cfg (n + 2) .feedSingle [.event e, .table d] w = hSingle cfg w d e := by
  rw [invoke_succ cfg prog (n + 1) .feedSingle _ w rfl rfl (by decide)]
  exact finish_exec_feedSingle cfg prog.actions _ (invoke_pel cfg n) (envOK_ofArgs e d) hwf

/-- `domOf`: the event uses `self.on_going_traces` iff its code is known and its name is in `trace_handlers`. -/
def domOf (eid : Nat) : Bool :=
  match cfg.codes eid with
  | some nm => cfg.isTraceName nm
  | none => false

/-- `dec`: `eid in self.trace_codes and self.trace_codes[eid] in self.handlers`. -/
def dec (eid : Nat) : Bool :=
  match cfg.codes eid with
  | some nm => cfg.hasHandler nm
  | none => false

/-- What `self.qualifiers_actions[q](e, table d)` does when the entry is the method `m`. -/
def hAction (w : World) (d : Bool) (e : Kevent) : Meth → Except PyErr (Val × World)
  | .feedStart => .ok (.none, hStart w d e)
  | .feedEnd => hEnd cfg w d e
  | .feedSingle => hSingle cfg w d e
  | _ => .error .unmodelled

theorem invoke_action (n : Nat) (w : World) (e : Kevent) (d : Bool) (hwf : WF w) (m : Meth) :
    invoke prog cfg (n + 2) m [.event e, .table d] w = hAction cfg w d e m := by
  cases m with
  | feedStart => exact invoke_start cfg (n + 1) w e d hwf
  | feedEnd => exact invoke_end cfg n w e d hwf
  | feedSingle => exact invoke_single cfg n w e d hwf
  | _ => rfl

/-- What `feed(e)` does, as a function of the heap. -/
def hFeed (w : World) (e : Kevent) : Except PyErr (Val × World) :=
  match actions.lookup e.qual with
  | none => .error .keyError
  | some m => hAction cfg w (domOf cfg e.eventid) e m

theorem finish_exec_dispatch (n : Nat) (env : Env) (w : World) (e : Kevent) (henv : env 0 = some (.event e))
    (hwf : WF w) (a : Attr) (d : Bool) (ha : eval cfg w env (.selfAttr a) = .ok (.table d)) :
    finish (exec actions cfg (invoke prog cfg (n + 2)) (dispatch a) env w) =
      match actions.lookup e.qual with
      | none => .error .keyError
      | some m => hAction cfg w d e m := by
  rw [dispatch, exec, doCall]
  have hq : eval cfg w env evQual = .ok (.int e.qual) := by simp [henv]
  have h0 : eval cfg w env (.var 0) = .ok (.event e) := by simp [henv]
  simp only [hq, h0, ha]
  cases actions.lookup e.qual with
  | none => rfl
  | some m =>
    simp only [invoke_action cfg n w e d hwf m]
    cases hAction cfg w d e m with
    | error x => rfl
    | ok r => rfl

theorem feed_eq_hFeed (w : World) (e : Kevent) (hwf : WF w) : feed prog cfg w e = hFeed cfg w e := by
  rw [feed, invoke_succ cfg prog 2 .feed _ w rfl rfl (by decide)]
  have henv : (Env.ofArgs [Val.event e]) 0 = some (.event e) := rfl
  have key := finish_exec_dispatch cfg 0 _ w e henv hwf
  show finish (exec actions cfg (invoke prog cfg 2) Expected.feed.body _ w) = _
  rw [Expected.feed, exec]
  cases hc : cfg.codes e.eventid with
  | none =>
    have h1 : eval cfg w (Env.ofArgs [Val.event e]) (.isIn evEid (.selfAttr .traceCodes)) = .ok (.bool false) := by
      simp [henv, hc]
    simp only [h1]
    rw [key .onGoingEvents false (by simp)]
    simp [hFeed, domOf, hc]
  | some nm =>
    have h1 : eval cfg w (Env.ofArgs [Val.event e]) (.isIn evEid (.selfAttr .traceCodes)) = .ok (.bool true) := by
      simp [henv, hc]
    simp only [h1]
    rw [exec]
    cases ht : cfg.isTraceName nm with
    | false =>
      have h2 : eval cfg w (Env.ofArgs [Val.event e]) (.isIn (.index (.selfAttr .traceCodes) evEid) .traceHandlers) =
          .ok (.bool false) := by
        simp [henv, hc, ht]
      simp only [h2]
      rw [key .onGoingEvents false (by simp)]
      simp [hFeed, domOf, hc, ht]
    | true =>
      have h2 : eval cfg w (Env.ofArgs [Val.event e]) (.isIn (.index (.selfAttr .traceCodes) evEid) .traceHandlers) =
          .ok (.bool true) := by
        simp [henv, hc, ht]
      simp only [h2]
      rw [key .onGoingTraces true (by simp)]
      simp [hFeed, domOf, hc, ht]

/-- The abstraction: a key `(dom, tid, eid)` is present iff `tid in table_dom and eid in table_dom[tid]`, with the
    list stored there. -/
def abs (w : World) : Pairing.PState :=
  fun k => (AList.lookup k.tid (w.tbl k.dom)).bind (AList.lookup k.eid)

theorem abs_empty : abs World.empty = Pairing.PState.empty := by
  funext k; obtain ⟨d, t, i⟩ := k; cases d <;> rfl

theorem lookup_appendInner (e : Kevent) (k : Nat) (m : Inner) :
    AList.lookup k (appendInner e m) = (AList.lookup k m).map (· ++ [e]) := by
  rw [appendInner, AList.lookup_map_val (fun l => l ++ [e])]

theorem keys_appendInner (e : Kevent) (m : Inner) : AList.keys (appendInner e m) = AList.keys m := by
  rw [appendInner, AList.keys_map_val (fun l => l ++ [e])]

theorem abs_setInner (w : World) (d : Bool) (t : Nat) (m' : Inner) (k : Pairing.Key) :
    abs (w.setTbl d (AList.set t m' (w.tbl d))) k =
      if k.dom = d ∧ k.tid = t then AList.lookup k.eid m' else abs w k := by
  obtain ⟨kd, kt, ke⟩ := k
  by_cases hd : kd = d
  · subst hd
    by_cases ht : kt = t
    · subst ht; simp [abs, AList.lookup_set_self]
    · simp [abs, AList.lookup_set_ne ht, ht]
  · simp [abs, tbl_setTbl_ne w hd, hd]

/-- Erasing entry `i` of the inner table of thread `t` closes the key `⟨d, t, i⟩` and nothing else. -/
theorem abs_eraseInner (w : World) (d : Bool) (t i : Nat) {m' : Inner} (hm' : (AList.keys m').Nodup) :
    abs (w.setTbl d (AList.set t (AList.erase i m') (w.tbl d))) =
      Pairing.set (abs (w.setTbl d (AList.set t m' (w.tbl d)))) ⟨d, t, i⟩ none := by
  funext ⟨kd, kt, ke⟩
  simp only [Pairing.set_apply, abs_setInner, Pairing.Key.mk.injEq]
  by_cases hi : ke = i
  · subst hi
    by_cases h : kd = d ∧ kt = t <;> simp [h, AList.lookup_erase_self _ hm']
  · simp [hi, AList.lookup_erase_ne hi]

theorem wf_setInner {w : World} (hwf : WF w) (d : Bool) (t : Nat) {m' : Inner} (hm' : (AList.keys m').Nodup) :
    WF (w.setTbl d (AList.set t m' (w.tbl d))) := by
  intro d'
  by_cases hd : d' = d
  · subst hd
    rw [tbl_setTbl_same]
    refine ⟨AList.nodup_keys_set _ _ (hwf d').1, ?_⟩
    intro t' m hm
    by_cases ht : t' = t
    · subst ht
      rw [AList.lookup_set_self] at hm
      cases hm; exact hm'
    · rw [AList.lookup_set_ne ht] at hm
      exact (hwf d').2 _ _ hm
  · rw [tbl_setTbl_ne w hd]; exact hwf d'

theorem wf_calls {w : World} (hwf : WF w) (c : List (List Kevent)) : WF { w with calls := c } := by
  intro d; cases d
  · exact hwf false
  · exact hwf true

theorem abs_calls (w : World) (c : List (List Kevent)) : abs { w with calls := c } = abs w := by
  funext k; obtain ⟨d, t, i⟩ := k; cases d <;> rfl

theorem abs_hAppend (w : World) (d : Bool) (t : Nat) (e : Kevent) :
    abs (hAppend w d t e) = Pairing.appendAll (abs w) d t e := by
  funext k
  unfold hAppend
  cases hm : AList.lookup t (w.tbl d) with
  | none =>
    simp only [Pairing.appendAll]
    split
    · next h => obtain ⟨kd, kt, ke⟩ := k; simp only at h; obtain ⟨rfl, rfl⟩ := h; simp [abs, hm]
    · rfl
  | some m =>
    simp only [abs_setInner, Pairing.appendAll]
    split
    · next h =>
      obtain ⟨kd, kt, ke⟩ := k; simp only at h; obtain ⟨rfl, rfl⟩ := h
      simp [abs, hm, lookup_appendInner]
    · rfl

theorem wf_hAppend {w : World} (hwf : WF w) (d : Bool) (t : Nat) (e : Kevent) : WF (hAppend w d t e) := by
  unfold hAppend
  cases hm : AList.lookup t (w.tbl d) with
  | none => exact hwf
  | some m => exact wf_setInner hwf d t (by rw [keys_appendInner]; exact (hwf d).2 _ _ hm)

theorem abs_hStart (w : World) (d : Bool) (e : Kevent) :
    abs (hStart w d e) =
      Pairing.appendAll (Pairing.set (abs w) ⟨d, e.tid, e.eventid⟩ (some [])) d e.tid e := by
  funext k
  simp only [hStart, abs_setInner, Pairing.appendAll, Pairing.set]
  split
  · next h =>
    obtain ⟨kd, kt, ke⟩ := k; simp only at h; obtain ⟨rfl, rfl⟩ := h
    rw [lookup_appendInner]
    by_cases hke : ke = e.eventid
    · subst hke; simp [AList.lookup_set_self]
    · have : ¬ (Pairing.Key.mk kd e.tid ke = ⟨kd, e.tid, e.eventid⟩) := by simp [hke]
      rw [AList.lookup_set_ne hke]
      simp only [this, if_false, abs]
      cases AList.lookup e.tid (w.tbl kd) <;> simp [AList.lookup]
  · next h =>
    have : ¬ (k = ⟨d, e.tid, e.eventid⟩) := by
      intro hk; subst hk; exact h ⟨rfl, rfl⟩
    simp [this]

theorem wf_hStart {w : World} (hwf : WF w) (d : Bool) (e : Kevent) : WF (hStart w d e) := by
  refine wf_setInner hwf d e.tid ?_
  rw [keys_appendInner]
  apply AList.nodup_keys_set
  cases hm : AList.lookup e.tid (w.tbl d) with
  | none => simp [AList.keys]
  | some m => exact (hwf d).2 _ _ hm

/-- The name under which the handler of a window is looked up: `trace_codes[events[0].eventid]`. -/
def handlerName (v : List Kevent) : Nat :=
  match v with
  | x :: _ => (cfg.codes x.eventid).getD 0
  | [] => 0

/-- The value `feed` returns when the list `o` (if any) was handed to `parse_event_list`: `None`, or the result of
    the handler that `Pairing.gate` lets through. -/
def retOf : Option (List Kevent) → Val
  | none => .none
  | some l =>
    match Pairing.gate (dec cfg) l with
    | .ok (some v) => .result (handlerName cfg v) v
    | _ => .none

theorem hPel_eq_gate (l : List Kevent) (w : World) :
    hPel cfg l w =
      match Pairing.gate (dec cfg) l with
      | .error x => .error x
      | .ok none => .ok (.none, { w with calls := w.calls ++ [l] })
      | .ok (some v) => .ok (.result (handlerName cfg v) v, { w with calls := w.calls ++ [l] }) := by
  cases l with
  | nil => rfl
  | cons x xs =>
    cases hc : cfg.codes x.eventid with
    | none => simp [hPel, Pairing.gate, dec, hc]
    | some nm => cases hh : cfg.hasHandler nm <;> simp [hPel, Pairing.gate, dec, hc, hh, handlerName]

theorem hPel_cons (x : Kevent) (xs : List Kevent) (w : World) :
    hPel cfg (x :: xs) w = .ok (retOf cfg (some (x :: xs)), { w with calls := w.calls ++ [x :: xs] }) := by
  rw [hPel_eq_gate]
  simp only [retOf, Pairing.gate]
  split <;> simp_all

theorem hFeed_refines (w : World) (e : Kevent) (hwf : WF w) (hq : e.qual < 4) :
    ∃ w', hFeed cfg w e = .ok (retOf cfg (Pairing.step (domOf cfg) (abs w) e).2, w') ∧ WF w' ∧
      abs w' = (Pairing.step (domOf cfg) (abs w) e).1 ∧
      w'.calls = w.calls ++ (Pairing.step (domOf cfg) (abs w) e).2.toList := by
  by_cases h1 : e.qual = 1
  · rw [Pairing.step_start _ _ _ h1]
    refine ⟨hStart w (domOf cfg e.eventid) e, by rw [hFeed, h1]; rfl, wf_hStart hwf _ _, ?_, ?_⟩
    · rw [abs_hStart]; rfl
    · simp [hStart]
  · by_cases h2 : e.qual = 2
    · have hfe : hFeed cfg w e = hEnd cfg w (domOf cfg e.eventid) e := by rw [hFeed, h2]; rfl
      cases hm : AList.lookup e.tid (w.tbl (domOf cfg e.eventid)) with
      | none =>
        rw [Pairing.step_end_closed _ _ _ h2 (by simp [abs, Pairing.keyOf, hm])]
        exact ⟨w, by simp [hfe, hEnd, hm, retOf], hwf, rfl, by simp⟩
      | some m =>
        cases hl : AList.lookup e.eventid m with
        | none =>
          rw [Pairing.step_end_closed _ _ _ h2 (by simp [abs, Pairing.keyOf, hm, hl])]
          exact ⟨w, by simp [hfe, hEnd, hm, hl, retOf], hwf, rfl, by simp⟩
        | some l =>
          rw [Pairing.step_end_open _ _ _ l h2 (by simp [abs, Pairing.keyOf, hm, hl])]
          have hne : l ++ [e] ≠ [] := by simp
          obtain ⟨x, xs, hx⟩ := List.exists_cons_of_ne_nil hne
          have hnd : (AList.keys (appendInner e m)).Nodup := by
            rw [keys_appendInner]; exact (hwf (domOf cfg e.eventid)).2 _ _ hm
          refine ⟨_, by rw [hfe]; simp only [hEnd, hm, hl]; rw [hx, hPel_cons], ?_, ?_, ?_⟩
          · apply wf_calls
            exact wf_setInner hwf _ _ (AList.nodup_keys_erase _ hnd)
          · have happ := abs_hAppend w (domOf cfg e.eventid) e.tid e
            simp only [hAppend, hm] at happ
            rw [abs_calls, abs_eraseInner w _ _ _ hnd, happ]
            rfl
          · simp [hx]
    · have hq' : e.qual = 3 ∨ e.qual = 0 := by omega
      rw [Pairing.step_single _ _ _ h1 h2]
      have hfe : hFeed cfg w e = hSingle cfg w (domOf cfg e.eventid) e := by
        rcases hq' with h | h <;> rw [hFeed, h] <;> rfl
      refine ⟨_, by rw [hfe, hSingle, hPel_cons], ?_, ?_, ?_⟩
      · exact wf_calls (wf_hAppend hwf _ _ _) _
      · rw [abs_calls, abs_hAppend]
      · simp [hAppend]; split <;> simp

theorem feed_refines_step (w : World) (e : Kevent) (hwf : WF w) (hq : e.qual < 4) :
    ∃ w', feed prog cfg w e = .ok (retOf cfg (Pairing.step (domOf cfg) (abs w) e).2, w') ∧ WF w' ∧
      abs w' = (Pairing.step (domOf cfg) (abs w) e).1 ∧
      w'.calls = w.calls ++ (Pairing.step (domOf cfg) (abs w) e).2.toList := by
  rw [feed_eq_hFeed cfg w e hwf]; exact hFeed_refines cfg w e hwf hq

theorem outputs_cons (domOf : Nat → Bool) (s : Pairing.PState) (e : Kevent) (es : List Kevent) :
    Pairing.outputs domOf s (e :: es) =
      (Pairing.step domOf s e).2 :: Pairing.outputs domOf (Pairing.step domOf s e).1 es := rfl

theorem runFrom_refines (h : List Kevent) : ∀ (w : World), WF w → (∀ e ∈ h, e.qual < 4) →
    ∃ w', runFrom prog cfg w h = .ok ((Pairing.outputs (domOf cfg) (abs w) h).map (retOf cfg), w') ∧ WF w' ∧
      abs w' = (Pairing.runFrom (domOf cfg) (abs w) h).1 ∧
      w'.calls = w.calls ++ (Pairing.runFrom (domOf cfg) (abs w) h).2 := by
  induction h with
  | nil => intro w hwf _; exact ⟨w, rfl, hwf, rfl, by simp [Pairing.runFrom]⟩
  | cons e es ih =>
    intro w hwf hq
    obtain ⟨w1, h1, hwf1, ha1, hc1⟩ := feed_refines_step cfg w e hwf (hq e (by simp))
    obtain ⟨w2, h2, hwf2, ha2, hc2⟩ := ih w1 hwf1 (fun x hx => hq x (by simp [hx]))
    refine ⟨w2, ?_, hwf2, ?_, ?_⟩
    · simp only [runFrom, h1, h2, outputs_cons, List.map_cons, ha1]
    · rw [ha2, ha1, Pairing.runFrom_cons]
    · rw [hc2, hc1, ha1, Pairing.runFrom_cons, List.append_assoc]

theorem wf_empty : WF World.empty := by
  intro d; cases d <;> exact ⟨List.nodup_nil, fun _ _ h => by simp [World.empty, World.tbl, AList.lookup] at h⟩

end methods
end KdVerif.PyIR
