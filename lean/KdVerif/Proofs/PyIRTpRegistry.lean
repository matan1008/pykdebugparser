import KdVerif.Model.PyIRTp
import KdVerif.Proofs.PyIR
/-
  Lemmas about the handler registry `TracesParser.__init__` merges (`PyIRTp.merge`, `Model/PyIRTp`): a sequence of
  `dict.update` calls on insertion-ordered dicts; when no name is bound to two different values across the families, the
  merged registry does not depend on the order (or multiplicity) of the updates.  Used by `Props/C17`.
-/
namespace KdVerif.PyIRTp
open KdVerif.PyIR

section registry
variable {β : Type}

theorem lookup_set (k k' : Nat) (v : β) (m : AList β) :
    AList.lookup k (AList.set k' v m) = if k' = k then some v else AList.lookup k m := by
  by_cases h : k' = k
  · subst h; simp [AList.lookup_set_self]
  · have h' : k ≠ k' := fun e => h e.symm
    simp [h, AList.lookup_set_ne h']

theorem lookup_isSome_of_mem (k : Nat) (v : β) : ∀ (m : AList β), (k, v) ∈ m → (AList.lookup k m).isSome
  | [], h => by simp at h
  | p :: r, h => by
    simp only [AList.lookup]
    split
    · rfl
    · rename_i hk
      rcases List.mem_cons.mp h with h | h
      · exact absurd (by rw [← h]) hk
      · exact lookup_isSome_of_mem k v r h

theorem dictUpdate_sound (k : Nat) (v : β) (other : AList β) : ∀ (d : AList β),
    AList.lookup k (dictUpdate d other) = some v → (k, v) ∈ other ∨ AList.lookup k d = some v := by
  induction other with
  | nil => intro d h; exact Or.inr h
  | cons kv rest ih =>
    intro d h
    have h' : AList.lookup k (dictUpdate (AList.set kv.1 kv.2 d) rest) = some v := h
    rcases ih _ h' with hm | hl
    · exact Or.inl (List.mem_cons_of_mem _ hm)
    · rw [lookup_set] at hl
      by_cases hk : kv.1 = k
      · simp only [hk, if_true, Option.some.injEq] at hl
        refine Or.inl (List.mem_cons.mpr (Or.inl ?_))
        rw [← hk, ← hl]
      · simp only [hk, if_false] at hl
        exact Or.inr hl

theorem dictUpdate_complete (k : Nat) (other : AList β) : ∀ (d : AList β),
    ((AList.lookup k d).isSome ∨ ∃ v, (k, v) ∈ other) → (AList.lookup k (dictUpdate d other)).isSome := by
  induction other with
  | nil =>
    intro d h
    rcases h with h | ⟨v, h⟩
    · exact h
    · simp at h
  | cons kv rest ih =>
    intro d h
    show (AList.lookup k (dictUpdate (AList.set kv.1 kv.2 d) rest)).isSome
    apply ih
    by_cases hk : kv.1 = k
    · left; rw [lookup_set]; simp [hk]
    · rcases h with h | ⟨v, h⟩
      · left; rw [lookup_set]; simpa [hk] using h
      · rcases List.mem_cons.mp h with h | h
        · exact absurd (by rw [← h]) hk
        · exact Or.inr ⟨v, h⟩

/-- `merge` from an arbitrary dict `acc` instead of `{}`: the inductions over the updates need the accumulator general. -/
def mergeFrom (fam : Family → AList β) (acc : AList β) (us : List Family) : AList β :=
  us.foldl (fun r f => dictUpdate r (fam f)) acc

theorem mergeFrom_sound (fam : Family → AList β) (k : Nat) (v : β) (us : List Family) : ∀ (acc : AList β),
    AList.lookup k (mergeFrom fam acc us) = some v → (∃ f ∈ us, (k, v) ∈ fam f) ∨ AList.lookup k acc = some v := by
  induction us with
  | nil => intro acc h; exact Or.inr h
  | cons f rest ih =>
    intro acc h
    have h' : AList.lookup k (mergeFrom fam (dictUpdate acc (fam f)) rest) = some v := h
    rcases ih _ h' with ⟨g, hg, hm⟩ | hl
    · exact Or.inl ⟨g, List.mem_cons_of_mem _ hg, hm⟩
    · rcases dictUpdate_sound k v (fam f) acc hl with hm | hl
      · exact Or.inl ⟨f, by simp, hm⟩
      · exact Or.inr hl

theorem mergeFrom_complete (fam : Family → AList β) (k : Nat) (us : List Family) : ∀ (acc : AList β),
    ((AList.lookup k acc).isSome ∨ ∃ f ∈ us, ∃ v, (k, v) ∈ fam f) → (AList.lookup k (mergeFrom fam acc us)).isSome := by
  induction us with
  | nil =>
    intro acc h
    rcases h with h | ⟨f, hf, _⟩
    · exact h
    · simp at hf
  | cons f rest ih =>
    intro acc h
    show (AList.lookup k (mergeFrom fam (dictUpdate acc (fam f)) rest)).isSome
    apply ih
    rcases h with h | ⟨g, hg, v, hm⟩
    · exact Or.inl (dictUpdate_complete k (fam f) acc (Or.inl h))
    · rcases List.mem_cons.mp hg with hg | hg
      · subst hg; exact Or.inl (dictUpdate_complete k (fam g) acc (Or.inr ⟨v, hm⟩))
      · exact Or.inr ⟨g, hg, v, hm⟩

theorem merge_sound (fam : Family → AList β) (k : Nat) (v : β) (us : List Family)
    (h : AList.lookup k (merge fam us) = some v) : ∃ f ∈ us, (k, v) ∈ fam f := by
  rcases mergeFrom_sound fam k v us [] h with h | h
  · exact h
  · simp [AList.lookup] at h

theorem merge_complete (fam : Family → AList β) (k : Nat) (us : List Family) (f : Family) (v : β)
    (hf : f ∈ us) (hm : (k, v) ∈ fam f) : (AList.lookup k (merge fam us)).isSome :=
  mergeFrom_complete fam k us [] (Or.inr ⟨f, hf, v, hm⟩)

/-- **Disjoint families: the merged registry does not depend on the order (or the multiplicity) of the updates.**  If a
    name is bound to one value across all families (`huniq`), then for any sequence of updates the registry binds `k` to
    `v` exactly when some merged family does. -/
theorem merge_lookup_iff (fam : Family → AList β)
    (huniq : ∀ f g k v v', (k, v) ∈ fam f → (k, v') ∈ fam g → v = v') (us : List Family) (k : Nat) (v : β) :
    AList.lookup k (merge fam us) = some v ↔ ∃ f ∈ us, (k, v) ∈ fam f := by
  constructor
  · exact merge_sound fam k v us
  · rintro ⟨f, hf, hmem⟩
    have hs := merge_complete fam k us f v hf hmem
    cases hl : AList.lookup k (merge fam us) with
    | none => rw [hl] at hs; exact absurd hs (by simp)
    | some v' =>
      obtain ⟨g, _, hg⟩ := merge_sound fam k v' us hl
      rw [huniq g f k v' v hg hmem]

/-- … hence two update sequences that mention the same families build the same registry (as a dict: same lookups). -/
theorem merge_order_independent (fam : Family → AList β)
    (huniq : ∀ f g k v v', (k, v) ∈ fam f → (k, v') ∈ fam g → v = v') (us us' : List Family)
    (hsame : ∀ f, f ∈ us ↔ f ∈ us') (k : Nat) :
    AList.lookup k (merge fam us) = AList.lookup k (merge fam us') := by
  apply Option.ext
  intro v
  simp only [merge_lookup_iff fam huniq, hsame]

end registry

end KdVerif.PyIRTp
