import KdVerif.Proofs.Trunc
import KdVerif.Spec.ContainerV2
/-
  Round trip of the v2 header, the zero-padding skipper and the record loop on `encodeV2`.
-/
namespace KdVerif
open Reader Spec

/-- a C string ends at its FIRST NUL, whatever follows it. -/
theorem takeWhile_name (name rest : Bytes) (h0 : ∀ b ∈ name, b ≠ 0) :
    (name ++ 0 :: rest).takeWhile (· ≠ 0) = name := by
  induction name with
  | nil => simp
  | cons b t ih =>
    have hb : b ≠ 0 := h0 b (by simp)
    have := ih (fun x hx => h0 x (by simp [hx]))
    simp only [List.cons_append, List.takeWhile_cons]
    simp only [hb, ne_eq, not_false_eq_true, decide_true, if_true, this]

theorem cstringOf_name (name rest : Bytes) (h0 : ∀ b ∈ name, b ≠ 0) (hu : validUtf8 name = true) :
    cstringOf (name ++ 0 :: rest) = .ok name := by
  unfold cstringOf
  simp only [takeWhile_name name rest h0, hu, if_true]
  have : ¬ name.length = (name ++ 0 :: rest).length := by simp
  simp only [this, if_false]

theorem field_length (t : V2Thread) (h : t.name.length + t.junk.length ≤ 19) : (t.name ++ t.fieldTail).length = 20 := by
  simp [V2Thread.fieldTail, zeros]; omega

def toEntry (t : V2Thread) : ThreadEntry := ⟨t.tid, t.pid, t.name⟩

theorem encodeThread_length (t : V2Thread) (h : t.name.length + t.junk.length ≤ 19) : (encodeThread t).length = 32 := by
  simp [encodeThread, toLE_length, V2Thread.fieldTail, zeros]; omega

theorem threadEntry_cont {r : Reader} {t : V2Thread} {s : Bytes} (h : r.rest = encodeThread t ++ s)
    (wf : t.WF) : ∃ r', threadEntry r = (.ok (toEntry t), r') ∧ Cont r r' s := by
  obtain ⟨h1, h2, h3, h4, h5⟩ := wf
  simp only [encodeThread, List.append_assoc] at h
  obtain ⟨r1, e1, c1⟩ := int64ul_cont h h1
  obtain ⟨r2, e2, c2⟩ := int32ul_cont c1.1 h2
  have hl : (t.name ++ t.fieldTail).length = 0x14 := field_length t h4
  have c2' : r2.rest = (t.name ++ t.fieldTail) ++ s := by rw [c2.1]; simp
  obtain ⟨r3, e3, c3⟩ := readExact_cont c2' hl
  have hc : cstringOf (t.name ++ t.fieldTail) = .ok t.name := cstringOf_name _ _ h3 h5
  refine ⟨r3, ?_, c3.1, by rw [c3.2, c2.2, c1.2]⟩
  unfold threadEntry
  rw [RM.bind_ok e1, RM.bind_ok e2]
  have : fixedCString 0x14 r2 = (.ok t.name, r3) := by
    unfold fixedCString; rw [e3]; simp only [hc]
  rw [RM.bind_ok this]; rfl

theorem arrayN_threads_cont (ts : List V2Thread) {r : Reader} {s : Bytes}
    (h : r.rest = (ts.map encodeThread).flatten ++ s) (wf : ∀ t ∈ ts, t.WF) :
    ∃ r', arrayN threadEntry ts.length r = (.ok (ts.map toEntry), r') ∧ Cont r r' s := by
  induction ts generalizing r with
  | nil => exact ⟨r, rfl, by simpa using h, rfl⟩
  | cons t ts ih =>
    simp only [List.map_cons, List.flatten_cons, List.append_assoc] at h
    obtain ⟨r1, e1, c1⟩ := threadEntry_cont h (wf t (by simp))
    obtain ⟨r2, e2, c2⟩ := ih c1.1 (fun x hx => wf x (by simp [hx]))
    refine ⟨r2, ?_, c2.1, c2.2.trans c1.2⟩
    simp only [List.length_cons, arrayN, List.map_cons]
    rw [RM.bind_ok e1, RM.bind_ok e2]; rfl

theorem leadZeros_zeros (p : Nat) {tail : Bytes} (ht : tail = [] ∨ tail.head? ≠ some 0 ∧ tail ≠ []) :
    leadZeros (zeros p ++ tail) = p := by
  induction p with
  | zero =>
    rcases ht with rfl | ⟨hh, hne⟩
    · rfl
    · obtain ⟨b, t, rfl⟩ := List.exists_cons_of_ne_nil hne
      have hb : ¬ b = 0 := by simpa using hh
      simp [leadZeros, zeros, hb]
  | succ p ih => simpa [leadZeros, zeros, List.replicate_succ] using ih

theorem recordLoop_cont {ε : Type} (dec : Bytes → Except PyErr ε) (spec : Bytes → ε) (recs : List Bytes)
    {r : Reader} {fuel : Nat} (h : r.rest = recs.flatten)
    (hd : ∀ x ∈ recs, x.length = 64 ∧ dec x = .ok (spec x)) (hf : recs.length + 1 ≤ fuel) :
    (recordLoop dec fuel r).1 = recs.map spec ∧ (recordLoop dec fuel r).2.1 = none := by
  induction recs generalizing r fuel with
  | nil =>
    obtain ⟨fuel, rfl⟩ : ∃ k, fuel = k + 1 := ⟨fuel - 1, by omega⟩
    simp only [List.flatten_nil] at h
    simp [recordLoop, h]
  | cons x xs ih =>
    obtain ⟨fuel, rfl⟩ : ∃ k, fuel = k + 1 := ⟨fuel - 1, by omega⟩
    obtain ⟨hx, hdx⟩ := hd x (by simp)
    have h' : r.rest = x ++ xs.flatten := by simpa using h
    obtain ⟨h1, c1⟩ := read_cont h'
    rw [hx] at h1 c1
    have hne : ¬ x = [] := by
      intro hh; rw [hh] at hx; simp at hx
    have := ih c1.1 (fun y hy => hd y (by simp [hy])) (by simp at hf; omega)
    simp only [recordLoop, h1, hdx, List.map_cons, this.1, this.2, hne, if_false, and_self]


theorem split_zeros (l : Bytes) :
    ∃ k t, l = zeros k ++ t ∧ (t = [] ∨ t.head? ≠ some 0 ∧ t ≠ []) := by
  induction l with
  | nil => exact ⟨0, [], rfl, Or.inl rfl⟩
  | cons b l ih =>
    by_cases hb : b = 0
    · obtain ⟨k, t, e, c⟩ := ih
      exact ⟨k + 1, t, by subst hb; rw [e]; simp [zeros, List.replicate_succ], c⟩
    · exact ⟨0, b :: l, rfl, Or.inr ⟨by simpa using hb, by simp⟩⟩

theorem zeros_add (a b : Nat) : zeros a ++ zeros b = zeros (a + b) := by
  simp [zeros, List.replicate_append_replicate]

/-- the bytes of `encodeV2 f` behind the magic. -/
def v2Body (f : V2File) : Bytes :=
  toLE 4 f.threads.length ++ (zeros 8 ++ (zeros 4 ++ (toLE 4 f.is64 ++ (toLE 8 f.tick ++
    (zeros 0x100 ++ ((f.threads.map encodeThread).flatten ++ (zeros f.pad ++ f.recs.flatten)))))))

theorem headerV2_cont {r : Reader} {n is64 tick p : Nat} {ts : List V2Thread} {tail : Bytes}
    (h : r.rest = toLE 4 ts.length ++ (zeros 8 ++ (zeros 4 ++ (toLE 4 is64 ++ (toLE 8 tick ++
      (zeros 0x100 ++ ((ts.map encodeThread).flatten ++ (zeros p ++ tail))))))))
    (hn : ts.length < 2 ^ 32) (wts : ∀ t ∈ ts, t.WF) (hi : is64 < 2 ^ 32) (hk : tick < 2 ^ 64)
    (ht : tail = [] ∨ tail.head? ≠ some 0 ∧ tail ≠ []) (_hn' : n = ts.length) :
    ∃ r', headerV2 r = (.ok ⟨ts.length, is64, tick, ts.map toEntry, p⟩, r') ∧ Cont r r' tail := by
  obtain ⟨r1, e1, c1⟩ := int32ul_cont h hn
  obtain ⟨r2, e2, c2⟩ := padding_cont (n := 8) c1.1 (by simp only [zeros, List.length_replicate])
  obtain ⟨r3, e3, c3⟩ := padding_cont (n := 4) c2.1 (by simp only [zeros, List.length_replicate])
  obtain ⟨r4, e4, c4⟩ := int32ul_cont c3.1 hi
  obtain ⟨r5, e5, c5⟩ := int64ul_cont c4.1 hk
  obtain ⟨r6, e6, c6⟩ := padding_cont (n := 0x100) c5.1 (by simp only [zeros, List.length_replicate])
  obtain ⟨r7, e7, c7⟩ := arrayN_threads_cont ts c6.1 wts
  obtain ⟨l, r8, e8, d8, p8, l8⟩ := greedyZeros_spec _ r7 (Nat.le_refl _)
  rw [c7.1, leadZeros_zeros p ht] at p8 l8
  refine ⟨r8, ?_, ?_, ?_⟩
  · unfold headerV2
    rw [RM.bind_ok e1, RM.bind_ok e2, RM.bind_ok e3, RM.bind_ok e4, RM.bind_ok e5, RM.bind_ok e6,
      RM.bind_ok e7, RM.bind_ok (m := restFuel) (a := r7.rest.length + 1) (r' := r7) rfl, RM.bind_ok e8]
    simp [l8]
  · rw [Reader.rest, d8, p8, ← List.drop_drop]
    show r7.rest.drop p = tail
    rw [c7.1]
    simp [zeros]
  · rw [d8, c7.2, c6.2, c5.2, c4.2, c3.2, c2.2, c1.2]

theorem flatten_length_64 (recs : List Bytes) (h : ∀ x ∈ recs, x.length = 64) :
    recs.flatten.length = 64 * recs.length := by
  induction recs with
  | nil => rfl
  | cons x xs ih =>
    have := ih (fun y hy => h y (by simp [hy]))
    simp only [List.flatten_cons, List.length_append, List.length_cons, this, h x (by simp)]
    omega

/-- Whatever the records are, the header of an encoded file parses and gives the file's thread map
    (the padding skipper may eat leading zero bytes of the records, but it never fails). -/
theorem headerV2_encoded (f : V2File) (wf : f.WF) {r : Reader} (h : r.rest = v2Body f) :
    ∃ hd r', headerV2 r = (.ok hd, r') ∧ hd.threadmap = f.threads.map toEntry := by
  obtain ⟨hn, wts, hi, hk, _⟩ := wf
  obtain ⟨k, t, e, c⟩ := split_zeros f.recs.flatten
  have h' := h
  simp only [v2Body] at h'
  rw [e, ← List.append_assoc (zeros f.pad), zeros_add] at h'
  obtain ⟨r', e', _⟩ := headerV2_cont (n := f.threads.length) h' hn wts hi hk c rfl
  exact ⟨_, r', e', rfl⟩

theorem parseV2_tables {ε : Type} (dec : Bytes → Except PyErr ε) (prior : Tables) (f : V2File) (wf : f.WF)
    {r : Reader} (h : r.rest = v2Body f) :
    (parseV2 dec prior r).tables = setThreadMap prior (f.threads.map toEntry) := by
  obtain ⟨hd, r', e, htm⟩ := headerV2_encoded f wf h
  simp only [parseV2, e, htm]

/-- Records whose first one does not begin with a zero byte: the flattened record area is empty or begins with a
    non-zero byte (what the greedy padding skipper needs to stop where the padding ends). -/
theorem recs_flatten_tail (f : V2File) (wf : f.WF) (h0 : ∀ x, f.recs.head? = some x → x.head? ≠ some 0) :
    f.recs.flatten = [] ∨ f.recs.flatten.head? ≠ some 0 ∧ f.recs.flatten ≠ [] := by
  cases hrecs : f.recs with
  | nil => exact Or.inl rfl
  | cons x xs =>
    have hx := (wf.2.2.2.2 x (by simp [hrecs])).1
    have := h0 x (by simp [hrecs])
    cases x with
    | nil => simp at hx
    | cons b t =>
      simp at this
      simp [this]

theorem parseV2_events {ε : Type} (dec : Bytes → Except PyErr ε) (spec : Bytes → ε) (prior : Tables)
    (f : V2File) (wf : f.WF) (hd : ∀ x ∈ f.recs, dec x = .ok (spec x))
    (h0 : ∀ x, f.recs.head? = some x → x.head? ≠ some 0)
    {r : Reader} (h : r.rest = v2Body f) :
    (parseV2 dec prior r).events = f.recs.map spec ∧ (parseV2 dec prior r).err = none := by
  have ht := recs_flatten_tail f wf h0
  obtain ⟨hn, wts, hi, hk, hr⟩ := wf
  obtain ⟨r', e', c'⟩ := headerV2_cont (n := f.threads.length) h hn wts hi hk ht rfl
  have hl := flatten_length_64 f.recs (fun x hx => (hr x hx).1)
  have hfuel : f.recs.length + 1 ≤ r'.rest.length / 64 + 2 := by
    rw [c'.1, hl]; omega
  have := recordLoop_cont dec spec f.recs (r := r') (fuel := r'.rest.length / 64 + 2) c'.1
    (fun x hx => ⟨(hr x hx).1, hd x hx⟩) hfuel
  simp only [parseV2, e', this.1, this.2, and_self]

end KdVerif
