import KdVerif.Proofs.ReassemblyWindow
import KdVerif.Proofs.IR
/-
  C08 lemmas: the vocabulary of the path-parameter table (`PathSrc`, `pathParams`, `lockstep`) and its
  meaning: what each source evaluates to in ANY window, and how the lockstep check yields per-decoder facts.
-/
namespace KdVerif.Reassembly
open KdVerif.Trace KdVerif.IR

/-- The five ways a decoder picks the path shown for a parameter. -/
inductive PathSrc
  | first                 -- `parse_vnode(events).path`: lookup 0, '' when there is none
  | second                -- `parse_vnode([e for e in events if e not in first.ktraces]).path`: lookup 1 (K5), else ''
  | nth (i n : Nat)       -- `nodes[i].path if len(nodes) > n else ''`
  | last                  -- `nodes[-1].path if nodes else ''`
  | spawn                 -- posix_spawn: `vnodes[3].path if len(vnodes) >= 6 else (vnodes[0].path if vnodes else '')`
  deriving DecidableEq, Repr

def PathSrc.toExpr : PathSrc → Expr
  | .first => .lookupPathOrEmpty
  | .second => .lookupRestPathOrEmpty
  | .nth i n => .ite (.cmp .gt .lookupCount (.int n)) (.lookupPath (.idx i)) (.strLit [])
  | .last => .ite (.cmp .gt .lookupCount (.int 0)) (.lookupPath (.idx (-1))) (.strLit [])
  | .spawn => .ite (.cmp .ge .lookupCount (.int 6)) (.lookupPath (.idx 3))
      (.ite (.cmp .gt .lookupCount (.int 0)) (.lookupPath (.idx 0)) (.strLit []))

def PathSrc.wellFormed : PathSrc → Bool
  | .nth i n => i ≤ n
  | _ => true

def pathOr (o : Option Lookup) : String := (o.map (·.path)).getD ""

/-- The path a source denotes, given the window's lookups (in order) and its second-phase lookup. -/
def PathSrc.shown : PathSrc → List Lookup → Option Lookup → String
  | .first, L, _ => pathOr L[0]?
  | .second, _, r => pathOr r
  | .nth i n, L, _ => if n < L.length then pathOr L[i]? else ""
  | .last, L, _ => pathOr L.getLast?
  | .spawn, L, _ => if 6 ≤ L.length then pathOr L[3]? else pathOr L[0]?

/-- `"{path}"` -/
def quoted (e : Expr) : Expr := .cat (.strLit [34]) (.cat (.strOf e) (.strLit [34]))

def readsLookups (e : Expr) : Bool := !within noLookupSel e

def condReads (fs : List Expr) : Option Expr → Bool
  | some c => readsLookups (subst fs c)
  | none => false

/-- The parameters (position, condition, expression — constructor arguments inlined) that read lookups. -/
def pathParams (d : Decoder) : List (Nat × Option Expr × Expr) :=
  match d.shape with
  | some s =>
    (s.params.zipIdx.filter fun x => readsLookups (subst d.fields x.1.2) || condReads d.fields x.1.1).map
      fun x => (x.2, x.1.1.map (subst d.fields), subst d.fields x.1.2)
  | none => []

def rowExprs (l : List (Nat × PathSrc)) : List (Nat × Option Expr × Expr) :=
  l.map fun x => (x.1, none, quoted x.2.toExpr)

/-- The decoders with a lookup-reading parameter are, in the order of the decoder table, the rows of `tbl`: the
    same key, exactly the lookup-reading parameters. -/
def lockstep (ds : List Decoder) (tbl : List (Nat × List (Nat × PathSrc))) : Bool :=
  (ds.filter fun d => !(pathParams d).isEmpty).map (fun d => (d.key, pathParams d)) ==
    tbl.map fun r => (r.1, rowExprs r.2)

theorem selectLookup_idx (w : Window) (i : Nat) (hi : i < w.lookups.length) :
    selectLookup w (.idx (i : Int)) = .ok w.lookups[i] := by
  have h1 : ¬ ((i : Int) < 0) := by omega
  have h2 : (0 : Int) ≤ i ∧ (i : Int) < (w.lookups.length : Int) := ⟨by omega, by omega⟩
  simp only [selectLookup, h1, if_false, h2, and_self, if_true, Int.toNat_natCast, List.getElem?_eq_getElem hi]

theorem selectLookup_last (w : Window) (l : Lookup) (hl : w.lookups.getLast? = some l) :
    selectLookup w (.idx (-1)) = .ok l := by
  have hne : w.lookups ≠ [] := by intro h; rw [h] at hl; cases hl
  have hpos : 0 < w.lookups.length := List.length_pos_iff.mpr hne
  have h1 : ((-1 : Int) < 0) := by omega
  have h2 : (0 : Int) ≤ -1 + (w.lookups.length : Int) ∧ -1 + (w.lookups.length : Int) < (w.lookups.length : Int) :=
    ⟨by omega, by omega⟩
  have h3 : (-1 + (w.lookups.length : Int)).toNat = w.lookups.length - 1 := by omega
  rw [List.getLast?_eq_getElem?] at hl
  simp only [selectLookup, h1, if_true, h2, and_self, h3, hl]

section
attribute [local simp] eval asNat cmpInt truthy bind Except.bind pure Except.pure pathOr litString PathSrc.toExpr PathSrc.shown

theorem eval_toExpr (c : Ctx) (src : PathSrc) (hwf : src.wellFormed = true) :
    eval c src.toExpr = .ok (.str (src.shown c.win.lookups c.win.restFirst)) := by
  cases src with
  | first => cases h : c.win.lookups <;> simp [selectLookup, h]
  | second => cases h : c.win.restFirst <;> simp [selectLookup, h]
  | nth i n =>
    simp only [PathSrc.wellFormed, decide_eq_true_eq] at hwf
    by_cases hn : n < c.win.lookups.length
    · have hi : i < c.win.lookups.length := by omega
      simp [hn, selectLookup_idx c.win i hi, hi]
    · simp [hn]
  | last =>
    cases hl : c.win.lookups.getLast? with
    | none => simp [List.getLast?_eq_none_iff.mp hl]
    | some l =>
      have hpos : 0 < c.win.lookups.length := by
        cases h : c.win.lookups <;> simp [h] at hl ⊢
      simp [hpos, selectLookup_last c.win l hl, hl]
  | spawn =>
    -- the literals of the source are `Int`s: the facts about the length are restated over `Int` for `simp`
    by_cases h6 : (6 : Int) ≤ c.win.lookups.length
    · have h3 : 3 < c.win.lookups.length := by omega
      have s3 : selectLookup c.win (.idx 3) = .ok c.win.lookups[3] := selectLookup_idx c.win 3 h3
      simp [h6, s3, h3, show 6 ≤ c.win.lookups.length by omega]
    · by_cases h0 : 0 < c.win.lookups.length
      · have s0 : selectLookup c.win (.idx 0) = .ok c.win.lookups[0] := selectLookup_idx c.win 0 h0
        simp [h6, h0, s0, show ¬ 6 ≤ c.win.lookups.length by omega]
      · simp [List.eq_nil_of_length_eq_zero (Nat.eq_zero_of_not_pos h0)]

end

theorem evalS_quoted (c : Ctx) (src : PathSrc) (hwf : src.wellFormed = true) :
    evalS c (quoted src.toExpr) = .ok ("\"" ++ src.shown c.win.lookups c.win.restFirst ++ "\"") := by
  have hq : litString [34] = "\"" := by decide
  simp [evalS, quoted, eval, eval_toExpr c src hwf, bind, Except.bind, pure, Except.pure, pyStr, hq,
    String.append_assoc]

theorem lockstep_row_of_decoder {ds : List Decoder} {tbl : List (Nat × List (Nat × PathSrc))}
    (h : lockstep ds tbl = true) {d : Decoder} (hd : d ∈ ds) {x : Nat × Option Expr × Expr}
    (hx : x ∈ pathParams d) : ∃ l, (d.key, l) ∈ tbl ∧ pathParams d = rowExprs l := by
  have hm : (d.key, pathParams d) ∈ tbl.map fun r => (r.1, rowExprs r.2) := by
    rw [← eq_of_beq h]
    exact List.mem_map.2 ⟨d, List.mem_filter.2 ⟨hd, by simp [List.ne_nil_of_mem hx]⟩, rfl⟩
  obtain ⟨r, hr, he⟩ := List.mem_map.1 hm
  exact ⟨r.2, by rw [← (Prod.mk.inj he).1]; exact hr, (Prod.mk.inj he).2.symm⟩

theorem lockstep_decoder_of_row {ds : List Decoder} {tbl : List (Nat × List (Nat × PathSrc))}
    (h : lockstep ds tbl = true) {r : Nat × List (Nat × PathSrc)} (hr : r ∈ tbl) :
    ∃ d ∈ ds, pathParams d ≠ [] ∧ d.key = r.1 ∧ pathParams d = rowExprs r.2 := by
  have hm : (r.1, rowExprs r.2) ∈ (ds.filter fun d => !(pathParams d).isEmpty).map fun d => (d.key, pathParams d) := by
    rw [eq_of_beq h]
    exact List.mem_map.2 ⟨r, hr, rfl⟩
  obtain ⟨d, hd, he⟩ := List.mem_map.1 hm
  obtain ⟨hd, hne⟩ := List.mem_filter.1 hd
  exact ⟨d, hd, by simpa using hne, (Prod.mk.inj he).1, (Prod.mk.inj he).2⟩

/-- Decoders without a lookup-reading parameter may be left out of the walk. -/
theorem lockstep_filter (q : Decoder → Bool) (ds : List Decoder) (tbl : List (Nat × List (Nat × PathSrc)))
    (h : ∀ d ∈ ds, q d = false → pathParams d = []) : lockstep (ds.filter q) tbl = lockstep ds tbl := by
  unfold lockstep
  rw [List.filter_filter, List.filter_congr]
  intro d hd
  cases hq : q d with
  | true => rw [Bool.and_true]
  | false => rw [h d hd hq]; rfl

theorem mem_pathParams {d : Decoder} {s : Shape} (hs : d.shape = some s) (i : Nat) (c' : Option Expr) (p' : Expr) :
    (i, c', p') ∈ pathParams d ↔ ∃ c p, s.params[i]? = some (c, p) ∧
      (readsLookups (subst d.fields p) || condReads d.fields c) = true ∧
      c' = c.map (subst d.fields) ∧ p' = subst d.fields p := by
  simp only [pathParams, hs, List.mem_map, List.mem_filter, List.mem_zipIdx_iff_getElem?, Prod.exists,
    Prod.mk.injEq]
  constructor
  · rintro ⟨c, p, _, ⟨hget, hr⟩, rfl, rfl, rfl⟩
    exact ⟨c, p, hget, hr, rfl, rfl⟩
  · rintro ⟨c, p, hget, hr, rfl, rfl⟩
    exact ⟨c, p, i, ⟨hget, hr⟩, rfl, rfl, rfl⟩

theorem within_subst (s : Sel) (hs : s.fields = true) (fs : List Expr) (hfs : fs.all (within s) = true)
    (e : Expr) : within s (subst fs e) = within s e := by
  induction e with
  | field i =>
    unfold subst
    cases h : fs[i]? with
    | none => rfl
    | some f =>
      rw [Option.getD_some, List.all_eq_true.1 hfs f (List.mem_of_getElem? h)]
      exact hs.symm
  | _ =>
    unfold subst
    unfold within
    simp only [*]

def ctx (h : Host) (t : Tables) (w : Window) : Ctx := { host := h, tables := t, win := w }

end KdVerif.Reassembly
