import KdVerif.Spec.PyIRTrExpected
import KdVerif.Proofs.TraceTotal
import KdVerif.Proofs.TraceProjection
import KdVerif.Proofs.Reassembly
/-
  The expected IR of the ten handlers of trace_handlers/trace.py (`Spec/PyIRTrExpected`), run by the interpreter of
  `Model/PyIRTr`, is `Trace.hDataNewthread` … `Trace.hStringThreadname` of the hand model — for every `Env` (any
  `bytes.decode`), all tables and every non-empty window of four-word records: same trace (key, `ktraces`, text), same
  tables afterwards, same exception, same "returned None".  On the empty window every handler raises IndexError
  (`events[0]`), which `parse_event_list` does before it calls one.  Then, for any program whose ten handlers are the
  model's on such windows: `runVia P = Trace.run`.
-/
namespace KdVerif.PyIRTr
open KdVerif.Trace

theorem toString_str (s : String) : toString s = s := rfl

def handlerBody (P : Program) (key : String) : Option Stmt :=
  (P.handlers.lookup key).bind fun f => (P.funs.find? (·.name == f)).map (·.body)

theorem runHandler_of_body {P : Program} {key : String} {body : Stmt} (h : handlerBody P key = some body)
    (env : Env) (t : Tabs) (events : List Kevent) :
    runHandler P env key t events = runBody P env key body t events := by
  simp only [handlerBody, Option.bind_eq_some_iff, Option.map_eq_some_iff] at h
  obtain ⟨f, hk, d, hf, rfl⟩ := h
  simp only [runHandler, runHandler?, hk, hf, Option.getD_some]

/-- The i-th key of the `handlers` dict names the i-th function of the module.  One kernel evaluation serves the ten
    lookups by name; `body_…` below are its instances. -/
theorem handlerBody_expected :
    ∀ i : Fin 10, handlerBody Expected.prog Expected.handlers[i].1 = some Expected.funs[i].body := by decide +kernel

theorem body_dataNewthread : handlerBody Expected.prog "TRACE_DATA_NEWTHREAD" = some Expected.dataNewthread :=
  handlerBody_expected 0
theorem body_dataExec : handlerBody Expected.prog "TRACE_DATA_EXEC" = some Expected.dataExec :=
  handlerBody_expected 1
theorem body_dataThreadTerminate :
    handlerBody Expected.prog "TRACE_DATA_THREAD_TERMINATE" = some Expected.dataThreadTerminate :=
  handlerBody_expected 2
theorem body_dataThreadTerminatePid :
    handlerBody Expected.prog "TRACE_DATA_THREAD_TERMINATE_PID" = some Expected.dataThreadTerminatePid :=
  handlerBody_expected 3
theorem body_stringGlobal : handlerBody Expected.prog "TRACE_STRING_GLOBAL" = some Expected.stringGlobal :=
  handlerBody_expected 4
theorem body_stringNewthread : handlerBody Expected.prog "TRACE_STRING_NEWTHREAD" =
    some (Expected.stringPending "TraceStringNewthread" .lastDataNewthread) :=
  handlerBody_expected 5
theorem body_stringExec :
    handlerBody Expected.prog "TRACE_STRING_EXEC" = some (Expected.stringPending "TraceStringExec" .lastDataExec) :=
  handlerBody_expected 6
theorem body_stringProcExit : handlerBody Expected.prog "TRACE_STRING_PROC_EXIT" = some Expected.stringProcExit :=
  handlerBody_expected 7
theorem body_stringThreadname :
    handlerBody Expected.prog "TRACE_STRING_THREADNAME" = some (Expected.stringThreadname "TraceStringThreadname") :=
  handlerBody_expected 8
theorem body_stringThreadnamePrev : handlerBody Expected.prog "TRACE_STRING_THREADNAME_PREV" =
    some (Expected.stringThreadname "TraceStringThreadnamePrev") :=
  handlerBody_expected 9

/-- The ten lookups in one kernel evaluation; `cls_…` below are its instances. -/
theorem findClass_expected : ∀ c ∈ Expected.classes, findClass Expected.prog c.name = some c := by decide +kernel

section found
variable {P : Program} {cls : String} {c : ClassDef} (hc : findClass P cls = some c) {l : List Kevent}
include hc

theorem mkObj_of_class {args : List FVal} (ds : List FVal) (hn : args.length + ds.length = c.fields.length)
    (hd : defaultsOf (c.fields.drop args.length) = .ok ds) : mkObj P cls l args = .ok ⟨cls, l, args ++ ds⟩ := by
  simp only [mkObj, hc, Nat.not_lt.2 (hn ▸ Nat.le_add_right _ _), if_false, hd]

theorem objAttr_of_class {fs : List FVal} {name : String} (i : Nat) {v : FVal} (hk : (name == "ktraces") = false)
    (hi : fieldIdx c name = some i) (hv : fs[i]? = some v) : objAttr P ⟨cls, l, fs⟩ name = .ok v.toVal := by
  simp only [objAttr, hk, hc, hi, hv, Bool.false_eq_true, if_false]

theorem renderObj_of_class (fs : List FVal) : renderObj P ⟨cls, l, fs⟩ =
    match renderPieces c ⟨cls, l, fs⟩ c.str.base with
    | .error x => .error x
    | .ok s => renderAppends c ⟨cls, l, fs⟩ c.str.appends s := by
  simp only [renderObj, hc]
  rfl

end found

theorem cls_dataNewthread : findClass Expected.prog "TraceDataNewthread" = some Expected.clsDataNewthread :=
  findClass_expected Expected.clsDataNewthread (by simp [Expected.classes])
theorem cls_dataExec : findClass Expected.prog "TraceDataExec" = some Expected.clsDataExec :=
  findClass_expected Expected.clsDataExec (by simp [Expected.classes])
theorem cls_dataThreadTerminate :
    findClass Expected.prog "TraceDataThreadTerminate" = some Expected.clsDataThreadTerminate :=
  findClass_expected Expected.clsDataThreadTerminate (by simp [Expected.classes])
theorem cls_dataThreadTerminatePid :
    findClass Expected.prog "TraceDataThreadTerminatePid" = some Expected.clsDataThreadTerminatePid :=
  findClass_expected Expected.clsDataThreadTerminatePid (by simp [Expected.classes])
theorem cls_stringGlobal : findClass Expected.prog "TraceStringGlobal" = some Expected.clsStringGlobal :=
  findClass_expected Expected.clsStringGlobal (by simp [Expected.classes])
theorem cls_stringNewthread : findClass Expected.prog "TraceStringNewthread" =
    some (Expected.clsNamed "TraceStringNewthread" "New thread of parent: ") :=
  findClass_expected (Expected.clsNamed _ _) (by simp [Expected.classes])
theorem cls_stringExec :
    findClass Expected.prog "TraceStringExec" = some (Expected.clsNamed "TraceStringExec" "New process name: ") :=
  findClass_expected (Expected.clsNamed _ _) (by simp [Expected.classes])
theorem cls_stringProcExit : findClass Expected.prog "TraceStringProcExit" =
    some (Expected.clsNamed "TraceStringProcExit" "Process exit name: ") :=
  findClass_expected (Expected.clsNamed _ _) (by simp [Expected.classes])
theorem cls_stringThreadname : findClass Expected.prog "TraceStringThreadname" =
    some (Expected.clsNamed "TraceStringThreadname" "New thread name: ") :=
  findClass_expected (Expected.clsNamed _ _) (by simp [Expected.classes])
theorem cls_stringThreadnamePrev : findClass Expected.prog "TraceStringThreadnamePrev" =
    some (Expected.clsNamed "TraceStringThreadnamePrev" "Thread terminated name: ") :=
  findClass_expected (Expected.clsNamed _ _) (by simp [Expected.classes])

section named
variable {P : Program} {cls label : String} (hc : findClass P cls = some (Expected.clsNamed cls label))
  {l : List Kevent}
include hc

theorem mkObj_named {a : FVal} : mkObj P cls l [a] = .ok ⟨cls, l, [a]⟩ := mkObj_of_class hc [] rfl rfl

theorem attr_named {a : FVal} : objAttr P ⟨cls, l, [a]⟩ "name" = .ok a.toVal := objAttr_of_class hc 0 rfl rfl rfl

theorem render_named (s : String) : renderObj P ⟨cls, l, [.str s]⟩ = .ok (label ++ s) := by
  rw [renderObj_of_class hc]
  show Except.ok _ = _
  simp [FVal.fmt]

end named

section classes
variable (l : List Kevent)

theorem mkObj_dataNewthread (a b c d : FVal) :
    mkObj Expected.prog "TraceDataNewthread" l [a, b, c, d] = .ok ⟨"TraceDataNewthread", l, [a, b, c, d]⟩ :=
  mkObj_of_class cls_dataNewthread [] rfl rfl
theorem attr_dataNewthread_tid (a b c d : FVal) :
    objAttr Expected.prog ⟨"TraceDataNewthread", l, [a, b, c, d]⟩ "tid" = .ok a.toVal :=
  objAttr_of_class cls_dataNewthread 0 rfl rfl rfl
theorem attr_dataNewthread_pid (a b c d : FVal) :
    objAttr Expected.prog ⟨"TraceDataNewthread", l, [a, b, c, d]⟩ "pid" = .ok b.toVal :=
  objAttr_of_class cls_dataNewthread 1 rfl rfl rfl
theorem render_dataNewthread (a b : Nat) (c d : FVal) :
    renderObj Expected.prog ⟨"TraceDataNewthread", l, [.int a, .int b, c, d]⟩ =
      .ok s!"New thread {a} of parent: {b}" := by
  rw [renderObj_of_class cls_dataNewthread]
  show Except.ok _ = _
  simp [FVal.fmt, String.append_assoc, toString_str]

theorem mkObj_dataExec (a b c : FVal) :
    mkObj Expected.prog "TraceDataExec" l [a, b, c] = .ok ⟨"TraceDataExec", l, [a, b, c]⟩ :=
  mkObj_of_class cls_dataExec [] rfl rfl
theorem attr_dataExec_pid (a b c : FVal) :
    objAttr Expected.prog ⟨"TraceDataExec", l, [a, b, c]⟩ "pid" = .ok a.toVal :=
  objAttr_of_class cls_dataExec 0 rfl rfl rfl
theorem render_dataExec (a : Nat) (b c : FVal) :
    renderObj Expected.prog ⟨"TraceDataExec", l, [.int a, b, c]⟩ = .ok s!"New process pid: {a}" := by
  rw [renderObj_of_class cls_dataExec]
  show Except.ok _ = _
  simp [FVal.fmt, toString_str]

theorem mkObj_dataThreadTerminate (a b : FVal) :
    mkObj Expected.prog "TraceDataThreadTerminate" l [a, b] = .ok ⟨"TraceDataThreadTerminate", l, [a, b, .str ""]⟩ :=
  mkObj_of_class cls_dataThreadTerminate [.str ""] rfl rfl
theorem fieldIdx_dataThreadTerminate_name :
    (findClass Expected.prog "TraceDataThreadTerminate").bind (fieldIdx · "name") = some 2 := by
  rw [cls_dataThreadTerminate]; rfl

theorem mkObj_dataThreadTerminatePid (a b : FVal) :
    mkObj Expected.prog "TraceDataThreadTerminatePid" l [a, b] = .ok ⟨"TraceDataThreadTerminatePid", l, [a, b]⟩ :=
  mkObj_of_class cls_dataThreadTerminatePid [] rfl rfl
theorem attr_dataThreadTerminatePid_pid (a b : FVal) :
    objAttr Expected.prog ⟨"TraceDataThreadTerminatePid", l, [a, b]⟩ "pid" = .ok a.toVal :=
  objAttr_of_class cls_dataThreadTerminatePid 0 rfl rfl rfl
theorem render_dataThreadTerminatePid (a b : Nat) :
    renderObj Expected.prog ⟨"TraceDataThreadTerminatePid", l, [.int a, .int b]⟩ =
      .ok s!"Thread terminated thread pid: {a}, unique id {b}" := by
  rw [renderObj_of_class cls_dataThreadTerminatePid]
  show Except.ok _ = _
  simp [FVal.fmt, String.append_assoc, toString_str]

theorem mkObj_stringGlobal (a b c : FVal) :
    mkObj Expected.prog "TraceStringGlobal" l [a, b, c] = .ok ⟨"TraceStringGlobal", l, [a, b, c]⟩ :=
  mkObj_of_class cls_stringGlobal [] rfl rfl
theorem attr_stringGlobal_strId (a b c : FVal) :
    objAttr Expected.prog ⟨"TraceStringGlobal", l, [a, b, c]⟩ "str_id" = .ok b.toVal :=
  objAttr_of_class cls_stringGlobal 1 rfl rfl rfl
theorem attr_stringGlobal_vstr (a b c : FVal) :
    objAttr Expected.prog ⟨"TraceStringGlobal", l, [a, b, c]⟩ "vstr" = .ok c.toVal :=
  objAttr_of_class cls_stringGlobal 2 rfl rfl rfl
theorem render_stringGlobal (a : FVal) (b : Nat) (s : String) :
    renderObj Expected.prog ⟨"TraceStringGlobal", l, [a, .int b, .str s]⟩ =
      .ok s!"New global string: \"{s}\", id: {b}" := by
  rw [renderObj_of_class cls_stringGlobal]
  show Except.ok _ = _
  simp [FVal.fmt, String.append_assoc, toString_str]

theorem mkObj_stringNewthread (a : FVal) : mkObj Expected.prog "TraceStringNewthread" l [a] = .ok ⟨"TraceStringNewthread", l, [a]⟩ :=
  mkObj_named cls_stringNewthread
theorem attr_stringNewthread_name (a : FVal) : objAttr Expected.prog ⟨"TraceStringNewthread", l, [a]⟩ "name" = .ok a.toVal :=
  attr_named cls_stringNewthread

theorem mkObj_stringExec (a : FVal) : mkObj Expected.prog "TraceStringExec" l [a] = .ok ⟨"TraceStringExec", l, [a]⟩ :=
  mkObj_named cls_stringExec
theorem attr_stringExec_name (a : FVal) : objAttr Expected.prog ⟨"TraceStringExec", l, [a]⟩ "name" = .ok a.toVal :=
  attr_named cls_stringExec

theorem mkObj_stringProcExit (a : FVal) : mkObj Expected.prog "TraceStringProcExit" l [a] = .ok ⟨"TraceStringProcExit", l, [a]⟩ :=
  mkObj_named cls_stringProcExit
theorem attr_stringProcExit_name (a : FVal) : objAttr Expected.prog ⟨"TraceStringProcExit", l, [a]⟩ "name" = .ok a.toVal :=
  attr_named cls_stringProcExit

theorem mkObj_stringThreadname (a : FVal) : mkObj Expected.prog "TraceStringThreadname" l [a] = .ok ⟨"TraceStringThreadname", l, [a]⟩ :=
  mkObj_named cls_stringThreadname
theorem attr_stringThreadname_name (a : FVal) : objAttr Expected.prog ⟨"TraceStringThreadname", l, [a]⟩ "name" = .ok a.toVal :=
  attr_named cls_stringThreadname

theorem mkObj_stringThreadnamePrev (a : FVal) : mkObj Expected.prog "TraceStringThreadnamePrev" l [a] = .ok ⟨"TraceStringThreadnamePrev", l, [a]⟩ :=
  mkObj_named cls_stringThreadnamePrev
theorem attr_stringThreadnamePrev_name (a : FVal) : objAttr Expected.prog ⟨"TraceStringThreadnamePrev", l, [a]⟩ "name" = .ok a.toVal :=
  attr_named cls_stringThreadnamePrev

end classes

section keventAttr
variable (x : Kevent)

theorem keventAttr_data : keventAttr x "data" = .ok (.bytes x.data) := rfl
theorem keventAttr_values : keventAttr x "values" = .ok (.words x.values) := rfl
theorem keventAttr_tid : keventAttr x "tid" = .ok (.int x.tid) := rfl
theorem keventAttr_eventid : keventAttr x "eventid" = .ok (.int x.eventid) := rfl
theorem keventAttr_qual : keventAttr x "func_qualifier" = .ok (.int x.qual) := rfl

end keventAttr

section common
variable (P : Program) (env : Env) (e : Kevent) (rest : List Kevent) (st : St)

theorem eval_first : eval P env (e :: rest) st Expected.first = .ok (.kevent e) := by
  simp [Expected.first, eval]

theorem eval_first_nil : eval P env [] st Expected.first = .error .indexError := by
  simp [Expected.first, eval]

theorem eval_firstAttr (name : String) :
    eval P env (e :: rest) st (.attr Expected.first name) = keventAttr e name := by
  rw [eval, eval_first]

theorem eval_firstTid : eval P env (e :: rest) st Expected.firstTid = .ok (.int e.tid) := by
  rw [Expected.firstTid, eval_firstAttr, keventAttr_tid]

theorem eval_firstText : eval P env (e :: rest) st Expected.firstText =
    match env.dec (stripNul e.data) with | .ok s => .ok (.str s) | .error x => .error x := by
  simp only [Expected.firstText, eval, eval_first, keventAttr_data]
  cases env.dec (stripNul e.data) <;> rfl

theorem eval_word (k x : Nat) (h : e.values[k]? = some x) :
    eval P env (e :: rest) st (Expected.word k) = .ok (.int x) := by
  simp only [Expected.word, eval, eval_first, keventAttr_values, h]

theorem getElem?_arg (h4 : e.values.length = 4) (k : Nat) (hk : k < 4) : e.values[k]? = some (arg e k) := by
  rw [arg, List.getElem?_eq_getElem (h4 ▸ hk)]; rfl

theorem eval_arg (h4 : e.values.length = 4) (k : Nat) (hk : k < 4) :
    eval P env (e :: rest) st (Expected.word k) = .ok (.int (arg e k)) :=
  eval_word P env e rest st k _ (getElem?_arg e h4 k hk)

theorem bne_dec (a b : Nat) : (a != b) = decide (a ≠ b) := by
  by_cases h : a = b <;> simp [h]

theorem truthy_start (x : Kevent) : truthy (.int (x.qual &&& 1)) = .ok (hasStart x) := by
  show Except.ok (x.qual &&& 1 != 0) = _
  rw [bne_dec]; rfl

theorem truthy_end (x : Kevent) : truthy (.int (x.qual &&& 2)) = .ok (hasEnd x) := by
  show Except.ok (x.qual &&& 2 != 0) = _
  rw [bne_dec]; rfl

theorem exec_startGuard : exec P env (e :: rest) Expected.startGuard st =
    if hasStart e then (.normal, st) else (.ret .none, st) := by
  have h : evalCond P env (e :: rest) st Expected.firstStart = .ok (hasStart e) := by
    simp only [evalCond, Expected.firstStart, eval, eval_first, keventAttr_qual]
    exact truthy_start e
  simp only [Expected.startGuard, exec, h]
  cases hasStart e <;> simp [eval]

theorem eval_joinOwn : eval P env (e :: rest) st (.joinData (.attr Expected.first "eventid")) =
    .ok (.bytes (joinData (e :: rest))) := by
  rw [eval, eval_firstAttr, keventAttr_eventid]; rfl

end common

section handlers
variable (env : Env) (t : Tabs) (e : Kevent) (rest : List Kevent)

attribute [local simp] runBody finish exec eval evalArgs evalCond truthy Val.toFVal FVal.toVal Locals.set tableSet
  firstOf mk Dict.set

theorem run_dataNewthread (h4 : e.values.length = 4) :
    runHandler Expected.prog env "TRACE_DATA_NEWTHREAD" t (e :: rest) = hDataNewthread env t (e :: rest) := by
  rw [runHandler_of_body body_dataNewthread]
  simp [Expected.dataNewthread, eval_arg _ _ _ _ _ h4, eval_firstTid, mkObj_dataNewthread,
    attr_dataNewthread_tid, attr_dataNewthread_pid, render_dataNewthread, hDataNewthread]

theorem run_dataExec (h4 : e.values.length = 4) :
    runHandler Expected.prog env "TRACE_DATA_EXEC" t (e :: rest) = hDataExec env t (e :: rest) := by
  rw [runHandler_of_body body_dataExec]
  simp [Expected.dataExec, eval_arg _ _ _ _ _ h4, eval_firstTid, mkObj_dataExec, attr_dataExec_pid,
    render_dataExec, hDataExec]

theorem run_dataThreadTerminatePid (h4 : e.values.length = 4) :
    runHandler Expected.prog env "TRACE_DATA_THREAD_TERMINATE_PID" t (e :: rest) =
      hDataThreadTerminatePid env t (e :: rest) := by
  rw [runHandler_of_body body_dataThreadTerminatePid]
  simp [Expected.dataThreadTerminatePid, eval_arg _ _ _ _ _ h4, eval_firstTid, mkObj_dataThreadTerminatePid,
    attr_dataThreadTerminatePid_pid, render_dataThreadTerminatePid, hDataThreadTerminatePid]

theorem render_dataThreadTerminate (l : List Kevent) (a : Nat) (p : Option Nat) (name : String) :
    renderObj Expected.prog ⟨"TraceDataThreadTerminate", l, [.int a, (optNat p).toFVal.getD .none, .str name]⟩ =
      .ok (let rep := s!"Thread terminated tid: {a}"
           let rep := match p with | some pid => rep ++ s!", pid: {pid}" | none => rep
           if name ≠ "" then rep ++ s!", name: {name}" else rep) := by
  rw [renderObj_of_class cls_dataThreadTerminate]
  show renderAppends Expected.clsDataThreadTerminate _
    [(.isNotNone "pid", [.lit ", pid: ", .fld "pid"]), (.truthy "name", [.lit ", name: ", .fld "name"])]
    ("Thread terminated tid: " ++ ((FVal.int a).fmt ++ "")) = _
  have h1 : fieldIdx Expected.clsDataThreadTerminate "pid" = some 1 := by decide
  have h2 : fieldIdx Expected.clsDataThreadTerminate "name" = some 2 := by decide
  generalize Expected.clsDataThreadTerminate = c at *
  have hb : name ≠ "" → (name != "") = true := by intro h; simpa using h
  cases p <;> by_cases hn : name = "" <;> try have hb' := hb hn
  all_goals simp [renderAppends, evalSCond, fieldOf, optNat, renderPieces, FVal.fmt, 
    String.append_assoc, toString_str, *]

theorem run_dataThreadTerminate (h4 : e.values.length = 4) :
    runHandler Expected.prog env "TRACE_DATA_THREAD_TERMINATE" t (e :: rest) =
      hDataThreadTerminate env t (e :: rest) := by
  rw [runHandler_of_body body_dataThreadTerminate]
  have hr := render_dataThreadTerminate (e :: rest) (arg e 0) (t.threadsPids.get (arg e 0))
    ((t.tidsNames.get (arg e 0)).getD "")
  cases hp : t.threadsPids.get (arg e 0) <;> cases hn : t.tidsNames.get (arg e 0) <;>
  simp [hp, hn, optNat] at hr <;>
  simp [Expected.dataThreadTerminate, eval_arg _ _ _ _ _ h4, mkObj_dataThreadTerminate,
    fieldIdx_dataThreadTerminate_name, tableGet, hp, hn, optNat, optStr, hDataThreadTerminate, hr]

theorem run_stringProcExit :
    runHandler Expected.prog env "TRACE_STRING_PROC_EXIT" t (e :: rest) = hStringProcExit env t (e :: rest) := by
  rw [runHandler_of_body body_stringProcExit]
  cases hd : env.dec (stripNul e.data) <;>
  simp [Expected.stringProcExit, eval_firstText, hd, mkObj_stringProcExit, render_named cls_stringProcExit,
    hStringProcExit, bind, Except.bind, pure, Except.pure, toString_str]

/-- `handle_trace_string_newthread` and `…_exec`: the same body up to the dataclass and the table of pending records
    (`pend` in the model's `Tabs`). -/
theorem run_stringPending {key cls label : String} {tab : Table} (pend : Tabs → Dict Nat)
    (hb : handlerBody Expected.prog key = some (Expected.stringPending cls tab))
    (hc : findClass Expected.prog cls = some (Expected.clsNamed cls label))
    (ht : ∀ k, tableGet t tab k = optPending ((pend t).get k)) :
    runHandler Expected.prog env key t (e :: rest) =
      (do let name ← env.dec (stripNul e.data)
          pure (some (mk key (e :: rest) (label ++ name)),
            match (pend t).get e.tid with
            | some pid => { t with pidsNames := t.pidsNames.set pid name }
            | none => t)) := by
  rw [runHandler_of_body hb]
  cases hd : env.dec (stripNul e.data) <;> cases hp : (pend t).get e.tid <;>
  simp [Expected.stringPending, eval_firstText, eval_firstTid, hd, hp, ht, mkObj_named hc, attr_named hc,
    render_named hc, optPending, bind, Except.bind, pure, Except.pure]

theorem run_stringNewthread :
    runHandler Expected.prog env "TRACE_STRING_NEWTHREAD" t (e :: rest) = hStringNewthread env t (e :: rest) := by
  rw [run_stringPending env t e rest (·.pendingNewthread) body_stringNewthread cls_stringNewthread fun _ => rfl]
  rfl

theorem run_stringExec :
    runHandler Expected.prog env "TRACE_STRING_EXEC" t (e :: rest) = hStringExec env t (e :: rest) := by
  rw [run_stringPending env t e rest (·.pendingExec) body_stringExec cls_stringExec fun _ => rfl]
  rfl

/-- `handle_trace_string_threadname` and `…_prev`: the same body up to the dataclass, the same model function up to
    key and label. -/
theorem run_stringThreadname {key cls label : String}
    (hb : handlerBody Expected.prog key = some (Expected.stringThreadname cls))
    (hc : findClass Expected.prog cls = some (Expected.clsNamed cls label)) :
    runHandler Expected.prog env key t (e :: rest) = hStringThreadname key label env t (e :: rest) := by
  rw [runHandler_of_body hb]
  cases hs : hasStart e
  · simp [Expected.stringThreadname, exec_startGuard, hs, hStringThreadname]
  · cases hd : env.dec (stripNul (joinData (e :: rest))) <;>
    simp [Expected.stringThreadname, exec_startGuard, ↓eval_joinOwn, ↓eval_firstTid, hs, hd, mkObj_named hc,
      attr_named hc, render_named hc, hStringThreadname, bind, Except.bind, pure, Except.pure]

/-- Loop invariant of `handle_trace_string_global`: locals 0–3 are its `debugid`, `str_id`, `vstr`, `lookup_events`
    (local 4 is the loop variable `event`). -/
def GInv (s : St) (dbg sid : Nat) (vstr : Bytes) (evs : List Kevent) : Prop :=
  s.loc 0 = some (.int dbg) ∧ s.loc 1 = some (.int sid) ∧ s.loc 2 = some (.bytes vstr) ∧ s.loc 3 = some (.kevents evs)

theorem evalCond_start (P : Program) (evs : List Kevent) (st : St) (x : Kevent) (h4 : st.loc 4 = some (.kevent x)) :
    evalCond P env evs st (.band (.attr (.var 4) "func_qualifier") (.int 1)) = .ok (hasStart x) := by
  simp only [evalCond, eval, h4, keventAttr_qual]
  exact truthy_start x

theorem evalCond_end (P : Program) (evs : List Kevent) (st : St) (x : Kevent) (h4 : st.loc 4 = some (.kevent x)) :
    evalCond P env evs st (.band (.attr (.var 4) "func_qualifier") (.int 2)) = .ok (hasEnd x) := by
  simp only [evalCond, eval, h4, keventAttr_qual]
  exact truthy_end x

theorem body_skip (s : St) (x : Kevent) (h4 : s.loc 4 = some (.kevent x)) (hne : x.eventid ≠ e.eventid) :
    exec Expected.prog env (e :: rest) Expected.globalBody s = (.cont, s) := by
  have hb : (x.eventid != e.eventid) = true := by simpa using hne
  simp [Expected.globalBody, ↓eval_first, h4, keventAttr_eventid, hb]

theorem body_take (s : St) (x : Kevent) (dbg sid : Nat) (vstr : Bytes) (evs : List Kevent)
    (hx : x.values.length = 4) (h4 : s.loc 4 = some (.kevent x)) (hi : GInv s dbg sid vstr evs)
    (heq : x.eventid = e.eventid) :
    ∃ s', exec Expected.prog env (e :: rest) Expected.globalBody s = (if hasEnd x then .brk else .normal, s') ∧
      s'.tabs = s.tabs ∧
      GInv s' (if hasStart x then arg x 0 else dbg) (if hasStart x then arg x 1 else sid)
        (if hasStart x then vstr ++ x.data.drop 16 else vstr ++ x.data) (evs ++ [x]) := by
  obtain ⟨h0, h1, h2, h3⟩ := hi
  have hb : (x.eventid != e.eventid) = false := by simp [heq]
  have hne : (evalCond Expected.prog env (e :: rest) s
      (.ne (.attr (.var 4) "eventid") (.attr Expected.first "eventid"))) = .ok false := by
    simp [↓eval_first, h4, keventAttr_eventid, hb]
  cases hs : hasStart x <;> cases he : hasEnd x <;>
  simp [Expected.globalBody, ↓hne, ↓evalCond_start, ↓evalCond_end, h4, h0, h1, h2, h3, keventAttr_values,
    keventAttr_data, getElem?_arg x hx, hs, he, GInv]

/-- `l` ranges over the suffixes of the window: the body compares `event.eventid` with `events[0].eventid`, so the
    window `e :: rest` itself stays fixed through the induction. -/
theorem forLoop_global (l : List Kevent) (hl : ∀ x ∈ l, x.values.length = 4) :
    ∀ (s : St) (dbg sid : Nat) (vstr : Bytes) (evs : List Kevent), GInv s dbg sid vstr evs →
    ∃ s', forLoop (fun s => exec Expected.prog env (e :: rest) Expected.globalBody s) 4 l s = (.normal, s') ∧
      s'.tabs = s.tabs ∧
      GInv s' (globalLoop e.eventid l dbg sid vstr evs).1 (globalLoop e.eventid l dbg sid vstr evs).2.1
        (globalLoop e.eventid l dbg sid vstr evs).2.2.1 (globalLoop e.eventid l dbg sid vstr evs).2.2.2 := by
  induction l with
  | nil => intro s dbg sid vstr evs hi; exact ⟨s, rfl, rfl, hi⟩
  | cons x xs ih =>
    intro s dbg sid vstr evs hi
    have hxs : ∀ y ∈ xs, y.values.length = 4 := fun y hy => hl y (by simp [hy])
    have hi' : GInv { s with loc := s.loc.set 4 (.kevent x) } dbg sid vstr evs := by simpa [GInv] using hi
    have h4 : ({ s with loc := s.loc.set 4 (.kevent x) } : St).loc 4 = some (.kevent x) := by simp
    by_cases hne : x.eventid = e.eventid
    · obtain ⟨s', hex, htabs, hinv⟩ := body_take env e rest _ x dbg sid vstr evs (hl x (by simp)) h4 hi' hne
      cases he : hasEnd x
      · obtain ⟨s'', hf, ht, hg⟩ := ih hxs s' _ _ _ _ hinv
        rw [Reassembly.globalLoop_cons, if_neg (fun h => h hne), he, if_neg Bool.false_ne_true]
        exact ⟨s'', by simp only [forLoop, hex, he, Bool.false_eq_true, if_false, hf], ht.trans htabs, hg⟩
      · rw [Reassembly.globalLoop_cons, if_neg (fun h => h hne), he, if_pos rfl]
        exact ⟨s', by simp only [forLoop, hex, he, if_true], htabs, hinv⟩
    · obtain ⟨s'', hf, ht, hg⟩ := ih hxs _ dbg sid vstr evs hi'
      rw [Reassembly.globalLoop_cons, if_pos hne]
      exact ⟨s'', by simp only [forLoop, body_skip env e rest _ x h4 hne, hf], ht, hg⟩

theorem exec_globalTail (s : St) (dbg sid : Nat) (vstr : Bytes) (evs : List Kevent) (hi : GInv s dbg sid vstr evs) :
    finish Expected.prog "TRACE_STRING_GLOBAL" (exec Expected.prog env (e :: rest) Expected.globalTail s) =
      match env.dec (stripNul vstr) with
      | .error _ => .error .unmodelled
      | .ok str =>
        .ok (some (mk "TRACE_STRING_GLOBAL" evs s!"New global string: \"{str}\", id: {sid}"),
             if str ≠ "" then { s.tabs with globalStrings := s.tabs.globalStrings.set sid str } else s.tabs) := by
  obtain ⟨h0, h1, h2, h3⟩ := hi
  cases hd : env.dec (stripNul vstr) with
  | error x => simp [Expected.globalTail, h0, h1, h2, h3, hd]
  | ok str =>
    have hb : str ≠ "" → (str != "") = true := fun h => by simpa using h
    by_cases hn : str = "" <;>
    simp [Expected.globalTail, h0, h1, h2, h3, hd, mkObj_stringGlobal, attr_stringGlobal_vstr,
      attr_stringGlobal_strId, render_stringGlobal, hn, hb]

theorem run_stringGlobal (hall : ∀ x ∈ e :: rest, x.values.length = 4) :
    runHandler Expected.prog env "TRACE_STRING_GLOBAL" t (e :: rest) = hStringGlobal env t (e :: rest) := by
  rw [runHandler_of_body body_stringGlobal]
  cases hs : hasStart e
  · simp [Expected.stringGlobal, exec_startGuard, hs, hStringGlobal]
  · obtain ⟨s1, hp, htabs, hinv⟩ := forLoop_global env e rest (e :: rest) hall
      { loc := (((Locals.empty.set 0 (.int 0)).set 1 (.int 0)).set 2 (.bytes [])).set 3 (.kevents []), tabs := t }
      0 0 [] [] (by simp [GInv])
    have hpre : exec Expected.prog env (e :: rest) Expected.stringGlobal { loc := Locals.empty, tabs := t } =
        exec Expected.prog env (e :: rest) Expected.globalTail s1 := by
      simp [Expected.stringGlobal, exec_startGuard, hs, hp]
    rw [runBody, hpre, exec_globalTail env e rest s1 _ _ _ _ hinv, htabs]
    simp only [hStringGlobal, firstOf, List.head?_cons, Option.getD_some, hs, Bool.not_true, Bool.false_eq_true,
      if_false]
    rfl

/-- `events[0]` of the empty window: every handler reads it before anything else -/
theorem run_empty (name : String) (h : traceDomainNames.contains name = true) :
    runHandler Expected.prog env name t [] = .error .indexError := by
  simp only [traceDomainNames, List.contains_eq_mem, List.mem_cons, List.not_mem_nil, or_false, decide_eq_true_eq] at h
  rcases h with h | h | h | h | h | h | h | h | h | h <;> subst h <;>
  simp [runHandler_of_body body_dataNewthread, runHandler_of_body body_dataExec,
    runHandler_of_body body_dataThreadTerminate, runHandler_of_body body_dataThreadTerminatePid,
    runHandler_of_body body_stringGlobal, runHandler_of_body body_stringNewthread, runHandler_of_body body_stringExec,
    runHandler_of_body body_stringProcExit, runHandler_of_body body_stringThreadname,
    runHandler_of_body body_stringThreadnamePrev, Expected.dataNewthread, Expected.dataExec,
    Expected.dataThreadTerminate, Expected.dataThreadTerminatePid, Expected.stringGlobal, Expected.stringPending,
    Expected.stringProcExit, Expected.stringThreadname, Expected.word, Expected.firstText, Expected.startGuard,
    Expected.firstStart, eval_first_nil]

end handlers

/-- `C05.handlers_ir_eq_model`. -/
theorem runHandler_eq_handleWith (nested : Tabs → List Kevent → Except PyErr (Option TraceOut × Tabs)) (env : Env) (t : Tabs) (name : String) (e : Kevent) (rest : List Kevent)
    (h : traceDomainNames.contains name = true) (hw : Words4 (e :: rest)) :
    runHandler Expected.prog env name t (e :: rest) = handleWith nested env t name (e :: rest) := by
  have h4 : e.values.length = 4 := hw e (by simp)
  simp only [traceDomainNames, List.contains_eq_mem, List.mem_cons, List.not_mem_nil, or_false, decide_eq_true_eq] at h
  rcases h with h | h | h | h | h | h | h | h | h | h <;> subst h <;> rw [handleWith]
  · exact run_dataNewthread env t e rest h4
  · exact run_dataExec env t e rest h4
  · exact run_dataThreadTerminate env t e rest h4
  · exact run_dataThreadTerminatePid env t e rest h4
  · exact run_stringGlobal env t e rest hw
  · exact run_stringNewthread env t e rest
  · exact run_stringExec env t e rest
  · exact run_stringProcExit env t e rest
  · exact run_stringThreadname env t e rest body_stringThreadname cls_stringThreadname
  · exact run_stringThreadname env t e rest body_stringThreadnamePrev cls_stringThreadnamePrev

section whole
variable {P : Program}
  (hP : ∀ nested env t name e rest, traceDomainNames.contains name = true → Words4 (e :: rest) →
    runHandler P env name t (e :: rest) = handleWith nested env t name (e :: rest))
include hP

theorem parseFuelVia_eq : ∀ (fuel : Nat) (env : Env) (t : Tabs) (events : List Kevent), Words4 events →
    parseFuelVia P fuel env t events = parseFuel fuel env t events := by
  intro fuel
  induction fuel with
  | zero => intro env t events _; rfl
  | succ fuel ih =>
    intro env t events hw
    cases events with
    | nil => rfl
    | cons e rest =>
      simp only [parseFuelVia, parseFuel, parseEventListVia, parseEventListWith]
      cases env.codes e.eventid with
      | none => rfl
      | some name =>
        simp only
        split
        · unfold handleVia
          split
          · exact hP _ env t name e rest ‹_› hw
          · exact Composite.handleWith_congr _ _ env t name _ fun _ =>
              ih env t _ fun x hx => hw x (mem_of_mem_realEvents hx)
        · rfl

theorem feedVia_eq (env : Env) (s : PState) (e : Kevent) (hs : PInv (fun x => x.values.length = 4) s.pairing)
    (he : e.values.length = 4) : feedVia P env s e = feed env s e := by
  have hi := (step_inv (fun x => x.values.length = 4) env.domOf s.pairing e hs he).2
  unfold feedVia feed
  cases hp : Pairing.step env.domOf s.pairing e with
  | mk p' o =>
    rw [hp] at hi
    cases o with
    | none => rfl
    | some w =>
      have hw : Words4 w := (hi w rfl).all
      simp only [parseEventListViaIR, parseEventList, parseFuelVia_eq hP _ env s.tabs w hw]
      cases parseFuel (w.length + 1) env s.tabs w with
      | error x => rfl
      | ok r => rfl

theorem runVia_eq (env : Env) : ∀ (es : List Kevent) (s : PState),
    PInv (fun x => x.values.length = 4) s.pairing → Words4 es → runVia P env s es = run env s es := by
  intro es
  induction es with
  | nil => intro s _ _; rfl
  | cons e es ih =>
    intro s hs hw
    have he : e.values.length = 4 := hw e (by simp)
    simp only [runVia, run, feedVia_eq hP env s e hs he]
    cases hf : feed env s e with
    | error x => rfl
    | ok q =>
      obtain ⟨r, s'⟩ := q
      have hi := (feed_ok env s s' e r hf).1 ▸ (step_inv (fun x => x.values.length = 4) env.domOf s.pairing e hs he).1
      simp only [ih s' hi fun x hx => hw x (by simp [hx])]
      cases r <;> rfl

end whole

end KdVerif.PyIRTr
