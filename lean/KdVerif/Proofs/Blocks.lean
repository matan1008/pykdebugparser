import KdVerif.Model.ContainerV3
/-
  The block loop and the log loop of parse_v3 as list functions: closed forms for well-shaped blocks.
-/
namespace KdVerif
open Gen.Consts

def binariesOf (plist : Bytes → Option PView) (p : Bytes) : List Nat := ((plist p).bind (·.binaries)).getD []
def eventsOf (plist : Bytes → Option PView) (p : Bytes) : List RawLog := ((plist p).bind (·.events)).getD []
def itemsOf (plist : Bytes → Option PView) (p : Bytes) : List (Bytes × Nat) := ((plist p).bind (·.stringIndex)).getD []

/-- a block the block loop accepts: its payload loads and has the key its tag needs
    (a dyld block moreover is a non-empty dict with 'Binaries'). -/
def BlockOk (plist : Bytes → Option PView) (b : Bytes × Bytes) : Prop :=
  (b.1 = TRACEV3_DYLD_MODULES → ∃ v l, plist b.2 = some v ∧ v.binaries = some l ∧ v.isEmpty = false) ∧
  (b.1 = TRACEV3_TRACE_CODES → validUtf8 b.2 = true) ∧
  (b.1 = TRACEV3_PROCESSES → ∃ v, plist b.2 = some v) ∧
  (b.1 = TRACEV3_KERNEL_EXTENSIONS → ∃ v l, plist b.2 = some v ∧ v.binaries = some l) ∧
  (b.1 = TRACEV3_IMAGES → ∃ v, plist b.2 = some v) ∧
  (b.1 = TRACEV3_LOG_EVENTS → ∃ v l, plist b.2 = some v ∧ v.events = some l) ∧
  (b.1 = TRACEV3_LOG_STRINGS → ∃ v l, plist b.2 = some v ∧ v.stringIndex = some l)

/-- the dyld accumulator is consistent: seeded (non-empty, with a 'Binaries' list) or untouched. -/
def DyldInv (m : V3Meta) : Prop :=
  (m.dyldEmpty = true ∧ m.dyldBin = none) ∨ (m.dyldEmpty = false ∧ m.dyldBin ≠ none)

theorem dispatchBlock_ok (plist : Bytes → Option PView) (s : BlockState) (b : Bytes × Bytes) (hb : BlockOk plist b)
    (hi : DyldInv s.md) :
    ∃ s', dispatchBlock plist s b = .ok s' ∧ DyldInv s'.md ∧
      s'.md.header = s.md.header ∧
      s'.md.processes = (if b.1 = TRACEV3_PROCESSES then some b.2 else s.md.processes) ∧
      s'.md.images = (if b.1 = TRACEV3_IMAGES then some b.2 else s.md.images) ∧
      s'.md.kexts = s.md.kexts ++ (if b.1 = TRACEV3_KERNEL_EXTENSIONS then binariesOf plist b.2 else []) ∧
      s'.md.traceCodes = s.md.traceCodes ++ (if b.1 = TRACEV3_TRACE_CODES then b.2 else []) ∧
      s'.md.dyldBin.getD [] = s.md.dyldBin.getD [] ++ (if b.1 = TRACEV3_DYLD_MODULES then binariesOf plist b.2 else []) ∧
      s'.logEvents = s.logEvents ++ (if b.1 = TRACEV3_LOG_EVENTS then eventsOf plist b.2 else []) ∧
      s'.logStrings = (if b.1 = TRACEV3_LOG_STRINGS then invertIndex (itemsOf plist b.2) else s.logStrings) := by
  obtain ⟨h1, h2, h3, h4, h5, h6, h7⟩ := hb
  unfold dispatchBlock binariesOf eventsOf itemsOf
  -- once `b.1` is a known tag, `+decide` settles every comparison with the other tags, and what is left of the
  -- conjunction are reflexive equations and the invariant
  by_cases t1 : b.1 = TRACEV3_DYLD_MODULES
  · obtain ⟨v, l, e1, e2, e3⟩ := h1 t1
    rcases hi with ⟨i1, i2⟩ | ⟨i1, i2⟩
    · simp +decide only [t1, e1, e2, e3, i1, i2, ↓reduceIte, Option.bind_some, Option.getD_some, Option.getD_none,
        List.append_nil, List.nil_append]
      exact ⟨_, rfl, Or.inr ⟨rfl, nofun⟩, rfl, rfl, rfl, rfl, rfl, rfl, rfl, rfl⟩
    · obtain ⟨l0, hl0⟩ := Option.ne_none_iff_exists'.mp i2
      simp +decide only [t1, e1, e2, i1, hl0, ↓reduceIte, Option.bind_some, Option.getD_some, List.append_nil]
      exact ⟨_, rfl, Or.inr ⟨rfl, nofun⟩, rfl, rfl, rfl, rfl, rfl, rfl, rfl, rfl⟩
  unfold DyldInv at hi ⊢
  by_cases t2 : b.1 = TRACEV3_TRACE_CODES
  · simp +decide [t2, h2 t2, hi]
  by_cases t3 : b.1 = TRACEV3_PROCESSES
  · obtain ⟨v, e1⟩ := h3 t3
    simp +decide [t3, e1, hi]
  by_cases t4 : b.1 = TRACEV3_KERNEL_EXTENSIONS
  · obtain ⟨v, l, e1, e2⟩ := h4 t4
    simp +decide [t4, e1, e2, hi]
  by_cases t5 : b.1 = TRACEV3_IMAGES
  · obtain ⟨v, e1⟩ := h5 t5
    simp +decide [t5, e1, hi]
  by_cases t6 : b.1 = TRACEV3_LOG_EVENTS
  · obtain ⟨v, l, e1, e2⟩ := h6 t6
    simp +decide [t6, e1, e2, hi]
  by_cases t7 : b.1 = TRACEV3_LOG_STRINGS
  · obtain ⟨v, l, e1, e2⟩ := h7 t7
    simp +decide [t7, e1, e2, hi]
  simp [t1, t2, t3, t4, t5, t6, t7, hi]

/-- payload of the LAST block carrying `tag`. -/
def lastOf (tag : Bytes) : List (Bytes × Bytes) → Option Bytes
  | [] => none
  | b :: bs =>
    match lastOf tag bs with
    | some p => some p
    | none => if b.1 = tag then some b.2 else none

/-- what `lastOf` means: behind the chosen block no block has the tag. -/
theorem lastOf_spec (tag p : Bytes) (xs ys : List (Bytes × Bytes)) (h : ∀ y ∈ ys, y.1 ≠ tag) :
    lastOf tag (xs ++ (tag, p) :: ys) = some p := by
  have hy : lastOf tag ys = none := by
    induction ys with
    | nil => rfl
    | cons y ys ih =>
      have := ih (fun z hz => h z (by simp [hz]))
      simp [lastOf, this, h y (by simp)]
  induction xs with
  | nil => simp [lastOf, hy]
  | cons x xs ih => simp [lastOf, ih]

def orInit {α : Type} (o : Option α) (init : Option α) : Option α :=
  match o with
  | some x => some x
  | none => init

/-- all payloads of the blocks carrying `tag`, in file order. -/
def payloadsOf (tag : Bytes) (bs : List (Bytes × Bytes)) : List Bytes := (bs.filter (fun b => b.1 = tag)).map (·.2)

theorem lastOf_cons (tag : Bytes) (b : Bytes × Bytes) (bs : List (Bytes × Bytes)) :
    lastOf tag (b :: bs) = match lastOf tag bs with
      | some p => some p
      | none => if b.1 = tag then some b.2 else none := rfl

theorem orInit_lastOf_cons (tag : Bytes) (b : Bytes × Bytes) (bs : List (Bytes × Bytes)) (init : Option Bytes) :
    orInit (lastOf tag (b :: bs)) init = orInit (lastOf tag bs) (if b.1 = tag then some b.2 else init) := by
  rw [lastOf_cons]
  cases lastOf tag bs with
  | some p => rfl
  | none => by_cases h : b.1 = tag <;> simp only [h, ↓reduceIte, orInit]

theorem payloadsOf_cons_flatMap {α : Type} (f : Bytes → List α) (tag : Bytes) (b : Bytes × Bytes)
    (bs : List (Bytes × Bytes)) :
    (payloadsOf tag (b :: bs)).flatMap f = (if b.1 = tag then f b.2 else []) ++ (payloadsOf tag bs).flatMap f := by
  unfold payloadsOf
  by_cases h : b.1 = tag <;> simp [h]

theorem dispatchBlocks_ok (plist : Bytes → Option PView) : ∀ (bs : List (Bytes × Bytes)) (s0 : BlockState),
    (∀ b ∈ bs, BlockOk plist b) → DyldInv s0.md →
    ∃ s, dispatchBlocks plist s0 bs = (s, none) ∧
      s.md.header = s0.md.header ∧
      s.md.processes = orInit (lastOf TRACEV3_PROCESSES bs) s0.md.processes ∧
      s.md.images = orInit (lastOf TRACEV3_IMAGES bs) s0.md.images ∧
      s.md.kexts = s0.md.kexts ++ (payloadsOf TRACEV3_KERNEL_EXTENSIONS bs).flatMap (binariesOf plist) ∧
      s.md.traceCodes = s0.md.traceCodes ++ (payloadsOf TRACEV3_TRACE_CODES bs).flatten ∧
      s.md.dyldBin.getD [] = s0.md.dyldBin.getD [] ++ (payloadsOf TRACEV3_DYLD_MODULES bs).flatMap (binariesOf plist) ∧
      s.logEvents = s0.logEvents ++ (payloadsOf TRACEV3_LOG_EVENTS bs).flatMap (eventsOf plist) ∧
      s.logStrings = (match lastOf TRACEV3_LOG_STRINGS bs with
                      | some p => invertIndex (itemsOf plist p)
                      | none => s0.logStrings)
  | [], s0, _, _ => ⟨s0, rfl, rfl, rfl, rfl, (List.append_nil _).symm, (List.append_nil _).symm,
      (List.append_nil _).symm, (List.append_nil _).symm, rfl⟩
  | b :: bs, s0, hok, hi => by
    obtain ⟨s1, e1, i1, f0, f1, f2, f3, f4, f5, f6, f7⟩ := dispatchBlock_ok plist s0 b (hok b List.mem_cons_self) hi
    obtain ⟨s, e, g0, g1, g2, g3, g4, g5, g6, g7⟩ :=
      dispatchBlocks_ok plist bs s1 (fun x hx => hok x (List.mem_cons_of_mem _ hx)) i1
    refine ⟨s, by simp only [dispatchBlocks, e1, e], g0.trans f0, ?_, ?_, ?_, ?_, ?_, ?_, ?_⟩
    · rw [g1, f1, orInit_lastOf_cons]
    · rw [g2, f2, orInit_lastOf_cons]
    · rw [g3, f3, payloadsOf_cons_flatMap, List.append_assoc]
    · rw [g4, f4, ← List.flatMap_id, ← List.flatMap_id, payloadsOf_cons_flatMap, List.append_assoc]; rfl
    · rw [g5, f5, payloadsOf_cons_flatMap, List.append_assoc]
    · rw [g6, f6, payloadsOf_cons_flatMap, List.append_assoc]
    · rw [g7, f7, lastOf_cons]
      cases lastOf TRACEV3_LOG_STRINGS bs with
      | some p => rfl
      | none => by_cases h : b.1 = TRACEV3_LOG_STRINGS <;> simp only [h, ↓reduceIte]

/-- every string a record refers to (message, process name) is in the string index. -/
def LogsResolve (strings : List (Nat × Bytes)) (es : List RawLog) : Prop :=
  ∀ e ∈ es, dictGet e.cm strings ≠ none ∧ ∀ p, e.p = some p → dictGet p strings ≠ none

def logOut (strings : List (Nat × Bytes)) (i : Nat) (e : RawLog) : LogOut :=
  ⟨i, (dictGet e.cm strings).getD [], e.tid, (e.p.bind (fun p => dictGet p strings)).getD [], e.pid.getD 0⟩

/-- the records in order, numbered from `i`. -/
def expectedLogs (strings : List (Nat × Bytes)) : Nat → List RawLog → List LogOut
  | _, [] => []
  | i, e :: es => logOut strings i e :: expectedLogs strings (i + 1) es

/-- a record naming a process and a thread extends the two tables. -/
def extendTables (t : Tables) (lo : LogOut) : Tables :=
  if lo.process ≠ [] ∧ lo.tid ≠ 0 then t.add ⟨lo.tid, lo.pid, lo.process⟩ else t

theorem logLoop_ok (strings : List (Nat × Bytes)) : ∀ (es : List RawLog) (i : Nat) (t : Tables),
    LogsResolve strings es →
    logLoop strings i t es = (expectedLogs strings i es, none, (expectedLogs strings i es).foldl extendTables t)
  | [], i, t, _ => rfl
  | e :: es, i, t, h => by
    obtain ⟨h1, h2⟩ := h e (by simp)
    obtain ⟨msg, hm⟩ := Option.ne_none_iff_exists'.mp h1
    have hf : fromRawLog strings i e = .ok (logOut strings i e) := by
      unfold fromRawLog logOut
      rw [hm]
      cases hp : e.p with
      | none => simp
      | some pk =>
        obtain ⟨pr, hpr⟩ := Option.ne_none_iff_exists'.mp (h2 pk hp)
        simp [hpr]
    have ih := logLoop_ok strings es (i + 1) (extendTables t (logOut strings i e)) (fun x hx => h x (by simp [hx]))
    simp only [logLoop, hf, expectedLogs, List.foldl_cons]
    unfold extendTables at ih ⊢
    rw [ih]

end KdVerif
