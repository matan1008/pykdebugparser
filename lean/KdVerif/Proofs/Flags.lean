import KdVerif.Model.Flags
import KdVerif.Spec.Darwin
/-
  Lemmas for C11.  One generic development about `flagsIn` over a table whose members are single bits
  (or zero) serves every flag family; the reflective side conditions are boolean checkers
  (`CompSite.okB`, …) that `Props/C11.lean` evaluates on the generated tables by `decide +kernel`.
-/
namespace KdVerif

theorem two_pow_and_ne_zero (k x : Nat) : 2 ^ k &&& x ≠ 0 ↔ x.testBit k = true := by
  constructor
  · intro h
    obtain ⟨i, hi⟩ := Nat.exists_testBit_of_ne_zero h
    rw [Nat.testBit_and, Nat.testBit_two_pow] at hi
    simp only [Bool.and_eq_true, decide_eq_true_eq] at hi
    obtain ⟨rfl, hx⟩ := hi
    exact hx
  · intro h h0
    have : (2 ^ k &&& x).testBit k = true := by
      rw [Nat.testBit_and, Nat.testBit_two_pow_self, h]; rfl
    rw [h0, Nat.zero_testBit] at this
    exact Bool.noConfusion this

theorem two_pow_and_eq_zero (k x : Nat) : 2 ^ k &&& x = 0 ↔ x.testBit k = false := by
  rw [← Bool.not_eq_true, ← two_pow_and_ne_zero, Ne, Decidable.not_not]

def EnumMember.IsBit (m : EnumMember) (k : Nat) : Prop := m.value = ((2 ^ k : Nat) : Int)

theorem EnumMember.IsBit.toNat {m : EnumMember} {k : Nat} (h : m.IsBit k) : m.value.toNat = 2 ^ k := by
  rw [h]; rfl

theorem EnumMember.IsBit.nonneg {m : EnumMember} {k : Nat} (h : m.IsBit k) : 0 ≤ m.value := by
  rw [h]; exact Int.natCast_nonneg _

theorem EnumMember.IsBit.ne_zero {m : EnumMember} {k : Nat} (h : m.IsBit k) : m.value ≠ 0 := by
  rw [h]; have : 0 < 2 ^ k := Nat.two_pow_pos k
  omega

theorem EnumMember.IsBit.unique {m : EnumMember} {k j : Nat} (h : m.IsBit k) (h' : m.IsBit j) : k = j := by
  have : (2 ^ k : Nat) = 2 ^ j := by
    have := h.symm.trans h'
    exact Int.ofNat_inj.mp this
  exact (Nat.pow_right_inj (by decide)).mp this

theorem mem_flagsIn {l : List EnumMember} {x : Nat} {m : EnumMember} :
    m ∈ flagsIn l x ↔ m ∈ l ∧ m.value.toNat &&& x ≠ 0 ∧ 0 ≤ m.value := by
  simp [flagsIn, List.mem_filter]

theorem mem_flagsIn_bit {l : List EnumMember} {x : Nat} {m : EnumMember} {k : Nat} (h : m.IsBit k) :
    m ∈ flagsIn l x ↔ m ∈ l ∧ x.testBit k = true := by
  rw [mem_flagsIn, h.toNat, two_pow_and_ne_zero]
  have := h.nonneg
  constructor
  · rintro ⟨a, b, _⟩; exact ⟨a, b⟩
  · rintro ⟨a, b⟩; exact ⟨a, b, this⟩

theorem not_mem_flagsIn_zero {l : List EnumMember} {x : Nat} {m : EnumMember} (h : m.value = 0) :
    m ∉ flagsIn l x := by
  rw [mem_flagsIn, h]; simp

theorem flagsIn_zero (l : List EnumMember) : flagsIn l 0 = [] := by
  simp [flagsIn]

theorem flagsIn_and_mask {l : List EnumMember} {mask : Nat}
    (h : ∀ m ∈ l, m.value.toNat &&& mask = m.value.toNat) (x : Nat) :
    flagsIn l (x &&& mask) = flagsIn l x := by
  apply List.filter_congr
  intro m hm
  rw [Nat.and_comm x, ← Nat.and_assoc, h m hm]

theorem nodup_of_values {l : List EnumMember} (h : (l.map (·.value)).Nodup) : l.Nodup :=
  List.Pairwise.of_map _ (fun _ _ hne e => hne (congrArg _ e)) h

/-- `log2` of the value is the only candidate for the exponent, so no search is needed. -/
def EnumMember.bitOrZeroB (m : EnumMember) : Bool :=
  m.value == 0 ||
    (decide (m.value.toNat.log2 < 64) && m.value == ((2 ^ m.value.toNat.log2 : Nat) : Int))

theorem EnumMember.bitOrZeroB_spec {m : EnumMember} (h : m.bitOrZeroB = true) :
    m.value = 0 ∨ ∃ k, k < 64 ∧ m.IsBit k := by
  simp only [EnumMember.bitOrZeroB, Bool.or_eq_true, Bool.and_eq_true, beq_iff_eq, decide_eq_true_eq] at h
  exact h.imp id fun ⟨hk, hv⟩ => ⟨_, hk, hv⟩

/-- Membership with the cheap comparison (value) first: comparing names is slow to evaluate. -/
def memB (m : EnumMember) (l : List EnumMember) : Bool := l.any fun c => c.value == m.value && c.name == m.name

theorem memB_spec {m : EnumMember} {l : List EnumMember} (h : memB m l = true) : m ∈ l := by
  simp only [memB, List.any_eq_true, Bool.and_eq_true, beq_iff_eq] at h
  obtain ⟨c, hc, hv, hn⟩ := h
  have : c = m := by cases c; cases m; simp_all
  exact this ▸ hc

theorem EnumDef.ofValue_some {e : EnumDef} {x : Int} {m : EnumMember} (h : e.ofValue x = some m) :
    m ∈ e.members ∧ m.value = x := by
  refine ⟨List.mem_of_find?_eq_some h, ?_⟩
  have := List.find?_some h
  simpa using this

/-- The decidable form of `CompSite.OK`.  Of several names of one value only the first declared,
    the one `ofValue` returns, has to be iterated. -/
def CompSite.okB (s : CompSite) : Bool :=
  s.iter.all (fun m => m.bitOrZeroB && memB m s.enum.members) &&
  s.enum.members.all (fun m => m.bitOrZeroB && (decide (m.value ≤ 0) ||
    (match s.enum.ofValue m.value with | some c => memB c s.iter | none => false))) &&
  (match s.zero with
   | .none => true
   | .wordZero z => z.value == 0 && memB z s.enum.members
   | .emptyResult z => z.value == 0 && memB z s.enum.members)

structure CompSite.OK (s : CompSite) : Prop where
  bits : ∀ m ∈ s.iter, m.value = 0 ∨ ∃ k, k < 64 ∧ m.IsBit k
  memberBits : ∀ m ∈ s.enum.members, m.value = 0 ∨ ∃ k, k < 64 ∧ m.IsBit k
  declared : ∀ m ∈ s.iter, m ∈ s.enum.members
  cover : ∀ m ∈ s.enum.members, 0 < m.value → ∃ c, s.enum.ofValue m.value = some c ∧ c ∈ s.iter
  zeroVal : ∀ z, (s.zero = .wordZero z ∨ s.zero = .emptyResult z) → z.value = 0 ∧ z ∈ s.enum.members

theorem CompSite.okB_spec {s : CompSite} (h : s.okB = true) : s.OK := by
  simp only [CompSite.okB, Bool.and_eq_true, List.all_eq_true, Bool.or_eq_true, decide_eq_true_eq] at h
  obtain ⟨⟨h1, h2⟩, h3⟩ := h
  refine ⟨fun m hm => EnumMember.bitOrZeroB_spec (h1 m hm).1,
    fun m hm => EnumMember.bitOrZeroB_spec (h2 m hm).1, fun m hm => memB_spec (h1 m hm).2, ?_, ?_⟩
  · intro m hm hpos
    rcases (h2 m hm).2 with hle | hc
    · omega
    · cases hv : s.enum.ofValue m.value with
      | none => rw [hv] at hc; exact Bool.noConfusion hc
      | some c => rw [hv] at hc; exact ⟨c, rfl, memB_spec hc⟩
  · intro z hz
    rcases hz with hz | hz <;> rw [hz] at h3 <;>
      simp only [Bool.and_eq_true, beq_iff_eq] at h3 <;> exact ⟨h3.1, memB_spec h3.2⟩

theorem CompSite.eval_sub (s : CompSite) (v : Nat) (m : EnumMember) (hm : m ∈ s.eval v) :
    m ∈ flagsIn s.iter v ∨ (s.zero = .wordZero m ∧ v = 0) ∨
      (s.zero = .emptyResult m ∧ flagsIn s.iter v = []) := by
  unfold CompSite.eval at hm
  split at hm
  · exact .inl hm
  · rename_i z hz
    split at hm
    · rename_i h0; simp only [List.mem_singleton] at hm; subst hm; exact .inr (.inl ⟨hz, h0⟩)
    · exact .inl hm
  · rename_i z hz
    split at hm
    · rename_i h0; simp only [List.mem_singleton] at hm; subst hm
      exact .inr (.inr ⟨hz, List.isEmpty_iff.mp h0⟩)
    · exact .inl hm

theorem CompSite.sound {s : CompSite} (ok : s.OK) {v : Nat} {m : EnumMember} (hm : m ∈ s.eval v)
    (hnz : m.value ≠ 0) : ∃ k, k < 64 ∧ m.IsBit k ∧ v.testBit k = true := by
  rcases s.eval_sub v m hm with h | ⟨hz, _⟩ | ⟨hz, _⟩
  · have hmem := (mem_flagsIn.mp h).1
    rcases ok.bits m hmem with h0 | ⟨k, hk, hb⟩
    · exact absurd h0 hnz
    · exact ⟨k, hk, hb, ((mem_flagsIn_bit hb).mp h).2⟩
  · exact absurd (ok.zeroVal m (.inl hz)).1 hnz
  · exact absurd (ok.zeroVal m (.inr hz)).1 hnz

theorem CompSite.complete {s : CompSite} (ok : s.OK) {v k : Nat} {m : EnumMember}
    (hd : s.enum.ofValue ((2 ^ k : Nat) : Int) = some m) (hb : v.testBit k = true) : m ∈ s.eval v := by
  obtain ⟨hmem, hval⟩ := EnumDef.ofValue_some hd
  have hbit : m.IsBit k := hval
  have hpos : 0 < m.value := by have := hbit.nonneg; have := hbit.ne_zero; omega
  obtain ⟨c, hc, hci⟩ := ok.cover m hmem hpos
  rw [hval, hd] at hc
  cases hc
  have hin : m ∈ flagsIn s.iter v := (mem_flagsIn_bit hbit).mpr ⟨hci, hb⟩
  have hv0 : v ≠ 0 := by rintro rfl; simp at hb
  unfold CompSite.eval
  split
  · exact hin
  · rw [if_neg hv0]; exact hin
  · have : (flagsIn s.iter v).isEmpty = false := by
      cases h : flagsIn s.iter v with
      | nil => rw [h] at hin; cases hin
      | cons a l => rfl
    rw [this]; exact hin

theorem CompSite.eval_nodup {s : CompSite} (h : s.iter.Nodup) (v : Nat) : (s.eval v).Nodup := by
  have hf : (flagsIn s.iter v).Nodup := h.sublist List.filter_sublist
  unfold CompSite.eval
  split
  · exact hf
  · split
    · exact List.pairwise_singleton _ _
    · exact hf
  · split
    · exact List.pairwise_singleton _ _
    · exact hf

def CompSite.NoDeclaredBit (s : CompSite) (v : Nat) : Prop :=
  ∀ m ∈ s.enum.members, m.value.toNat &&& v = 0

theorem CompSite.flagsIn_nil_iff {s : CompSite} (ok : s.OK) (v : Nat) :
    flagsIn s.iter v = [] ↔ s.NoDeclaredBit v := by
  constructor
  · intro h m hm
    by_cases hpos : 0 < m.value
    · obtain ⟨c, hc, hci⟩ := ok.cover m hm hpos
      have hcv := (EnumDef.ofValue_some hc).2
      by_cases hz : m.value.toNat &&& v = 0
      · exact hz
      · have : c ∈ flagsIn s.iter v := mem_flagsIn.mpr ⟨hci, by rw [hcv]; exact hz, by omega⟩
        rw [h] at this; cases this
    · have : m.value.toNat = 0 := by omega
      rw [this]; simp
  · intro h
    apply List.eq_nil_iff_forall_not_mem.mpr
    intro m hm
    have := mem_flagsIn.mp hm
    exact this.2.1 (h m (ok.declared m this.1))

theorem CompSite.zero_iff {s : CompSite} (ok : s.OK) (v : Nat) (m : EnumMember) (hz : m.value = 0) :
    m ∈ s.eval v ↔
      (s.zero = .wordZero m ∧ v = 0) ∨ (s.zero = .emptyResult m ∧ s.NoDeclaredBit v) := by
  rw [← CompSite.flagsIn_nil_iff ok]
  constructor
  · intro hm
    rcases s.eval_sub v m hm with h | h | h
    · exact absurd h (not_mem_flagsIn_zero hz)
    · exact .inl h
    · exact .inr h
  · rintro (⟨h, rfl⟩ | ⟨h, h0⟩)
    · simp [CompSite.eval, h]
    · simp [CompSite.eval, h, h0]

theorem serializeOpenFlags_tail (acc dflt shown x) :
    (serializeOpenFlags acc dflt shown x).tail = flagsIn shown x := rfl

theorem serializeOpenFlags_nodup {acc : List EnumMember} {dflt : EnumMember} {shown : List EnumMember}
    (hs : shown.Nodup) (ha : ∀ a ∈ dflt :: acc, a ∉ shown) (x : Nat) :
    (serializeOpenFlags acc dflt shown x).Nodup := by
  refine List.nodup_cons.mpr ⟨fun hmem => ?_, hs.sublist List.filter_sublist⟩
  have hin := (mem_flagsIn.mp hmem).1
  cases h : flagsIn acc x with
  | nil => rw [h] at hin; exact ha _ List.mem_cons_self hin
  | cons m t =>
    rw [h] at hin
    have hm : m ∈ flagsIn acc x := h ▸ List.mem_cons_self
    exact ha m (List.mem_cons_of_mem _ (mem_flagsIn.mp hm).1) hin

def EnumMember.outsideB (mask : Nat) (m : EnumMember) : Bool := m.value.toNat &&& mask = 0

/-- The enum restricted to the members that share no bit with `mask` (open flags outside the
    access-mode field, mode bits outside the file-type field). -/
def EnumDef.outside (e : EnumDef) (mask : Nat) : EnumDef :=
  { e with members := e.members.filter (EnumMember.outsideB mask), iter := e.iter.filter (EnumMember.outsideB mask) }

theorem find?_congr_mem {α} {l : List α} {p q : α → Bool} (h : ∀ a ∈ l, p a = q a) :
    l.find? p = l.find? q := by
  induction l with
  | nil => rfl
  | cons a t ih =>
    rw [List.find?_cons, List.find?_cons, h a List.mem_cons_self,
      ih (fun b hb => h b (List.mem_cons_of_mem _ hb))]

theorem EnumDef.outside_ofValue (e : EnumDef) (mask k : Nat) (h : mask.testBit k = false) :
    (e.outside mask).ofValue ((2 ^ k : Nat) : Int) = e.ofValue ((2 ^ k : Nat) : Int) := by
  simp only [EnumDef.ofValue, EnumDef.outside, List.find?_filter]
  apply find?_congr_mem
  intro m _
  by_cases hv : m.value = ((2 ^ k : Nat) : Int)
  · have : EnumMember.outsideB mask m = true := by
      unfold EnumMember.outsideB
      rw [EnumMember.IsBit.toNat hv]
      exact decide_eq_true ((two_pow_and_eq_zero k mask).mpr h)
    rw [this, decide_eq_true hv]; rfl
  · rw [decide_eq_false hv]; simp

theorem serializeStatFlags_outside (iter : List EnumMember) (tm fm v : Nat) :
    (serializeStatFlags iter tm fm v).filter (EnumMember.outsideB tm) =
      flagsIn (iter.filter (EnumMember.outsideB tm)) v := by
  simp only [serializeStatFlags, flagsIn, List.filter_filter]
  apply List.filter_congr
  intro m _
  by_cases h : m.value.toNat &&& tm = 0
  · simp [EnumMember.outsideB, h]
  · simp [EnumMember.outsideB, h]

theorem serializeStatFlags_inside (iter : List EnumMember) (tm fm v : Nat) :
    (serializeStatFlags iter tm fm v).filter (fun m => !(EnumMember.outsideB tm m)) =
      (iter.filter (fun m => !(EnumMember.outsideB tm m))).filter
        (fun m => decide (((v &&& fm : Nat) : Int) = m.value ∧ 0 ≤ m.value)) := by
  simp only [serializeStatFlags, List.filter_filter]
  apply List.filter_congr
  intro m _
  by_cases h : m.value.toNat &&& tm = 0
  · simp [EnumMember.outsideB, h]
  · by_cases hn : 0 ≤ m.value
    · simp [EnumMember.outsideB, h, hn]
    · have : m.value.toNat = 0 := by omega
      rw [this] at h; simp at h

theorem and_mul_two_pow (x m k : Nat) : x &&& (m * 2 ^ k) = (x / 2 ^ k &&& m) * 2 ^ k := by
  apply Nat.eq_of_testBit_eq
  intro i
  rw [Nat.testBit_and, Nat.testBit_mul_two_pow, Nat.testBit_mul_two_pow, Nat.testBit_and,
    Nat.testBit_div_two_pow]
  by_cases h : k ≤ i
  · simp [h, Nat.sub_add_cancel h]
  · simp [h]

theorem and_dirmask (w : Nat) : w &&& 0xe0000000 = (w / 2 ^ 29 % 8) * 2 ^ 29 := by
  have : (0xe0000000 : Nat) = 7 * 2 ^ 29 := by decide
  rw [this, and_mul_two_pow]
  have : (7 : Nat) = 2 ^ 3 - 1 := by decide
  rw [this, Nat.and_two_pow_sub_one_eq_mod]

theorem shl_or {k lo : Nat} (h : lo < 2 ^ k) (hi : Nat) : hi <<< k ||| lo = hi * 2 ^ k + lo := by
  rw [← Nat.shiftLeft_add_eq_or_of_lt h, Nat.shiftLeft_eq]

theorem pack_mod {k lo : Nat} (h : lo < 2 ^ k) (hi : Nat) : (hi * 2 ^ k + lo) % 2 ^ k = lo :=
  Nat.mul_add_mod_of_lt h

theorem pack_div {k lo : Nat} (h : lo < 2 ^ k) (hi : Nat) : (hi * 2 ^ k + lo) / 2 ^ k = hi := by
  rw [Nat.mul_comm, Nat.mul_add_div (Nat.two_pow_pos k), Nat.div_eq_of_lt h, Nat.add_zero]

theorem div_two_pow_add (w a b : Nat) : w / 2 ^ (a + b) = w / 2 ^ a / 2 ^ b := by
  rw [Nat.pow_add, Nat.div_div_eq_div_mul]

theorem pack_fields {a b c n g l : Nat} (hn : n < 2 ^ a) (hg : g < 2 ^ b) (hl : l < 2 ^ c) {D w : Nat}
    (hw : w = ((D * 2 ^ c + l) * 2 ^ b + g) * 2 ^ a + n) :
    w % 2 ^ a = n ∧ w / 2 ^ a % 2 ^ b = g ∧ w / 2 ^ (a + b) % 2 ^ c = l ∧ w / 2 ^ (a + b + c) = D := by
  subst hw
  rw [div_two_pow_add _ (a + b) c, div_two_pow_add _ a b, pack_div hn, pack_div hg, pack_div hl]
  exact ⟨pack_mod hn _, pack_mod hg _, pack_mod hl _, rfl⟩

theorem unpack_fields (w a b c : Nat) :
    ((w / 2 ^ (a + b + c) * 2 ^ c + w / 2 ^ (a + b) % 2 ^ c) * 2 ^ b + w / 2 ^ a % 2 ^ b) * 2 ^ a + w % 2 ^ a = w := by
  rw [div_two_pow_add w (a + b) c, Nat.div_add_mod', div_two_pow_add w a b, Nat.div_add_mod', Nat.div_add_mod']

section
open Spec.Darwin

/-- Darwin's `_IOC` layout (sys/ioccom.h): 3 direction bits, 13 length bits (`IOCPARM_MASK`), 8 group bits,
    8 number bits. -/
theorem ioc_eq_pack (D g n l : Nat) (hg : g < 256) (hn : n < 256) (hl : l < 8192) :
    _IOC (D * 2 ^ 29) g n l = ((D * 2 ^ 13 + l) * 2 ^ 8 + g) * 2 ^ 8 + n := by
  have hl' : l &&& IOCPARM_MASK = l := (Nat.and_two_pow_sub_one_eq_mod l 13).trans (Nat.mod_eq_of_lt hl)
  rw [← shl_or (k := 8) hn, ← shl_or (k := 8) hg, ← shl_or (k := 13) hl, Nat.shiftLeft_or_distrib, Nat.shiftLeft_or_distrib,
    Nat.shiftLeft_or_distrib, ← Nat.shiftLeft_add, ← Nat.shiftLeft_add, ← Nat.shiftLeft_add, Nat.shiftLeft_eq D]
  unfold _IOC
  rw [hl']

theorem ioc_fields (d g n l : Nat) (hd : d &&& IOC_DIRMASK = d) (hg : g < 256) (hn : n < 256)
    (hl : l < 8192) :
    _IOC d g n l &&& IOC_DIRMASK = d ∧ _IOC d g n l / 2 ^ 8 % 2 ^ 8 = g ∧ _IOC d g n l % 2 ^ 8 = n ∧
      _IOC d g n l / 2 ^ 16 % 2 ^ 13 = l := by
  have hD : d = d / 2 ^ 29 % 8 * 2 ^ 29 := hd.symm.trans (and_dirmask d)
  have hlt : d / 2 ^ 29 % 8 < 8 := Nat.mod_lt _ (by decide)
  generalize d / 2 ^ 29 % 8 = D at hD hlt
  subst hD
  obtain ⟨fn, fg, fl, fd⟩ := pack_fields (a := 8) (b := 8) (c := 13) hn hg hl (ioc_eq_pack D g n l hg hn hl)
  rw [show IOC_DIRMASK = 0xe0000000 from rfl, and_dirmask]
  exact ⟨by rw [fd, Nat.mod_eq_of_lt hlt], fg, fn, fl⟩

end

theorem splitIoctl_ok {P : List (Nat × String)} {L : IoctlLayout} {w : Nat} {nm : String}
    (h : P.lookup (w &&& L.dirMask) = some nm) :
    splitIoctl P L w = .ok ⟨nm, (w >>> L.groupShift) &&& L.groupMask, (w >>> L.numShift) &&& L.numMask,
      (w >>> L.lenShift) &&& L.lenMask⟩ := by
  unfold splitIoctl
  rw [h]

theorem splitIoctl_keyError_iff (P : List (Nat × String)) (L : IoctlLayout) (w : Nat) :
    splitIoctl P L w = .error .keyError ↔ P.lookup (w &&& L.dirMask) = none := by
  unfold splitIoctl
  cases P.lookup (w &&& L.dirMask) <;> simp

theorem shr_and_mask (w s b : Nat) : (w >>> s) &&& (2 ^ b - 1) = w / 2 ^ s % 2 ^ b := by
  rw [Nat.shiftRight_eq_div_pow, Nat.and_two_pow_sub_one_eq_mod]

end KdVerif
