import KdVerif.Model.IRAnalysis
namespace KdVerif.IR

theorem bind_eq_ok {α β : Type} {x : Except PyErr α} {f : α → Except PyErr β} {b : β} (h : x >>= f = .ok b) :
    ∃ a, x = .ok a ∧ f a = .ok b := by
  cases x with
  | error e => cases h
  | ok a => exact ⟨a, rfl, h⟩

theorem evalS_cat (c : Ctx) (a b : Expr) :
    evalS c (.cat a b) = (do let s ← evalS c a; let t ← evalS c b; pure (s ++ t)) := by
  unfold evalS
  conv in eval c (.cat a b) => unfold eval
  cases eval c a with
  | error e => rfl
  | ok va =>
    cases va <;> try rfl
    cases eval c b with
    | error e => rfl
    | ok vb => cases vb <;> rfl

theorem evalPieces_append (c : Ctx) (xs ys : List Expr) :
    evalPieces c (xs ++ ys) = (do let a ← evalPieces c xs; let b ← evalPieces c ys; pure (a ++ b)) := by
  induction xs with
  | nil =>
    simp only [List.nil_append, evalPieces]
    cases evalPieces c ys <;> simp [bind, Except.bind, pure, Except.pure]
  | cons x xs ih =>
    simp only [List.cons_append, evalPieces, ih]
    cases evalS c x <;> simp [bind, Except.bind, pure, Except.pure]
    cases evalPieces c xs <;> simp
    cases evalPieces c ys <;> simp [String.append_assoc]

theorem evalPieces_singleton (c : Ctx) (e : Expr) : evalPieces c [e] = evalS c e := by
  simp only [evalPieces]
  cases evalS c e <;> simp [bind, Except.bind, pure, Except.pure]

theorem evalS_flatten (c : Ctx) (e : Expr) : evalPieces c (flatten e) = evalS c e := by
  induction e with
  | cat a b iha ihb => simp only [flatten, evalPieces_append, iha, ihb, evalS_cat]
  | _ => simp only [flatten, evalPieces_singleton]

theorem litString_append (a b : List Nat) : litString (a ++ b) = litString a ++ litString b := by
  simp [litString, String.ofList_append]

theorem evalS_strLit (c : Ctx) (a : List Nat) : evalS c (.strLit a) = .ok (litString a) := rfl

theorem evalPieces_lit_cons (c : Ctx) (a : List Nat) (ps : List Expr) :
    evalPieces c (.strLit a :: ps) = (evalPieces c ps).map (litString a ++ ·) := by
  simp only [evalPieces, evalS_strLit]
  cases evalPieces c ps <;> simp [bind, Except.bind, pure, Except.pure, Except.map]

theorem evalPieces_mergeLits (c : Ctx) (ps : List Expr) : evalPieces c (mergeLits ps) = evalPieces c ps := by
  induction ps with
  | nil => simp [mergeLits]
  | cons p ps ih =>
    cases p with
    | strLit a =>
      simp only [mergeLits]
      rw [evalPieces_lit_cons, ← ih]
      split
      · rename_i b rest' h
        rw [h, evalPieces_lit_cons, evalPieces_lit_cons, litString_append]
        cases evalPieces c rest' <;> simp [Except.map, String.append_assoc]
      · split
        · subst_vars
          cases evalPieces c (mergeLits ps) <;> simp [Except.map, litString]
        · rw [evalPieces_lit_cons]
    | _ => simp only [mergeLits, evalPieces, ih]

theorem evalS_normalize (c : Ctx) (e : Expr) : evalPieces c (normalize e) = evalS c e := by
  rw [normalize, evalPieces_mergeLits, evalS_flatten]

theorem evalS_of_agrees (c : Ctx) (s : Shape) (str : Expr) (h : s.agrees str = true) :
    evalS c str = evalPieces c s.pieces := by
  have : mergeLits s.pieces = normalize str := by simpa [Shape.agrees] using h
  rw [← evalS_normalize, ← this, evalPieces_mergeLits]

/-- Two evaluation contexts agree on everything the selector `s` permits reading. -/
structure Agree (s : Sel) (c c' : Ctx) : Prop where
  tables : c.tables = c'.tables
  start : ∀ k, s.start.contains k = true → c.win.startArgs[k]? = c'.win.startArgs[k]?
  startAll : s.startAll = true → c.win.startArgs = c'.win.startArgs
  endA : s.endA = true → c.win.endArgs = c'.win.endArgs
  endL : ∀ k, s.endL.contains k = true → c.win.endArgs[k]? = c'.win.endArgs[k]?
  tid : s.tid = true → c.win.startTid = c'.win.startTid
  data : s.data = true → c.win.startData = c'.win.startData
  lookups : s.lookups = true → c.win.lookups = c'.win.lookups ∧ c.win.restFirst = c'.win.restFirst
  gstr : s.gstr = true → c.win.globalStrings = c'.win.globalStrings
  tpids : s.tpids = true → c.win.threadsPids = c'.win.threadsPids
  tnames : s.tnames = true → c.win.tidsNames = c'.win.tidsNames
  host : s.host = true → c.host.signals = c'.host.signals ∧ c.host.addressFamily = c'.host.addressFamily
    ∧ c.host.socketKind = c'.host.socketKind ∧ c.host.solSocket = c'.host.solSocket
  hostErrno : s.hostErrno = true → c.host.errno = c'.host.errno
  fields : s.fields = true → c.fields = c'.fields

theorem selectLookup_congr (w w' : Window) (h1 : w.lookups = w'.lookups) (h2 : w.restFirst = w'.restFirst)
    (sel : LookupSel) : selectLookup w sel = selectLookup w' sel := by
  unfold selectLookup
  rw [h1, h2]

theorem hostTable_congr (s : Sel) (c c' : Ctx) (h : Agree s c c') (t : HostTable)
    (hw : (if t = HostTable.errno then s.hostErrno else s.host) = true) : c.host.table t = c'.host.table t := by
  cases t
  · exact h.hostErrno hw
  · exact (h.host hw).1
  · exact (h.host hw).2.1
  · exact (h.host hw).2.2.1

theorem eval_congr (s : Sel) (c c' : Ctx) (h : Agree s c c') (e : Expr) (hw : within s e = true) :
    eval c e = eval c' e := by
  induction e with
  | startArg k =>
    unfold within at hw
    unfold eval
    rcases Bool.or_eq_true .. ▸ hw with hw | hw
    · rw [h.startAll hw]
    · rw [h.start k hw]
  | endArg k =>
    unfold within at hw
    unfold eval
    rcases Bool.or_eq_true .. ▸ hw with hw | hw
    · rw [h.endA hw]
    · rw [h.endL k hw]
  | hostEnum t e ih | hostHas t e ih | hostGet t e ih =>
    unfold within at hw
    unfold eval
    rw [Bool.and_eq_true] at hw
    rw [ih hw.2, hostTable_congr s c c' h t hw.1]
  | lookupPath sel | lookupVnode sel | lookupPathOrEmpty | lookupRestPathOrEmpty | lookupVnodeOrZero =>
    unfold eval
    rw [selectLookup_congr _ _ (h.lookups hw).1 (h.lookups hw).2]
  | _ =>
    unfold within at hw
    unfold eval
    simp_all only [Bool.and_eq_true, h.tables, h.tid, h.fields, h.startAll, h.data, h.gstr, h.tpids, h.tnames,
      h.host, h.lookups]

theorem evalFields_congr (s : Sel) (c c' : Ctx) (h : Agree s c c') (fs : List Expr)
    (hw : fs.all (within s) = true) : evalFields c fs = evalFields c' fs := by
  induction fs with
  | nil => rfl
  | cons f fs ih =>
    simp only [List.all_cons, Bool.and_eq_true] at hw
    simp only [evalFields, eval_congr s c c' h f hw.1, ih hw.2]

theorem evalFields_get (c : Ctx) : ∀ (fs : List Expr) (vs : List Val) (i : Nat), evalFields c fs = .ok vs →
    (∀ f, fs[i]? = some f → ∃ v, vs[i]? = some v ∧ eval c f = .ok v) ∧ (fs[i]? = none → vs[i]? = none)
  | [], _, i, h => by cases h; exact ⟨nofun, fun _ => rfl⟩
  | f :: fs, vs, i, h => by
    unfold evalFields at h
    obtain ⟨v, hf, h⟩ := bind_eq_ok h
    obtain ⟨vs', hr, h⟩ := bind_eq_ok h
    cases h
    cases i with
    | zero => exact ⟨fun _ hf' => ⟨v, rfl, Option.some.inj hf' ▸ hf⟩, nofun⟩
    | succ i => exact evalFields_get c fs vs' i hr

/-- Inlining the constructor arguments into `__str__`.  `subst` leaves a `field i` beyond `fs` in place; `hc`
    makes that residue fail on the right as the out-of-range index fails on the left. -/
theorem eval_subst (c : Ctx) (hc : c.fields = []) (fs : List Expr) (vs : List Val)
    (h : evalFields c fs = .ok vs) (e : Expr) :
    eval { c with fields := vs } e = eval c (subst fs e) := by
  induction e with
  | field i =>
    unfold subst
    conv => lhs; unfold eval
    cases hfi : fs[i]? with
    | none =>
      rw [(evalFields_get c fs vs i h).2 hfi]
      conv => rhs; unfold eval
      rw [hc]
      rfl
    | some f =>
      obtain ⟨v, hv, hev⟩ := (evalFields_get c fs vs i h).1 f hfi
      rw [hv]
      exact hev.symm
  | _ =>
    unfold subst
    unfold eval
    simp only [*]

theorem render_eq (h : Host) (t : Tables) (d : Decoder) (w : Window) :
    render h t d w = (evalFields { host := h, tables := t, win := w } d.fields).bind
      (fun fs => evalS { host := h, tables := t, win := w, fields := fs } d.str) := by
  unfold render evalS
  cases evalFields { host := h, tables := t, win := w } d.fields with
  | error e => rfl
  | ok fs =>
    simp only [bind, Except.bind]
    cases eval { host := h, tables := t, win := w, fields := fs } d.str with
    | error e => rfl
    | ok v => cases v <;> rfl

/-- `str(handler(...))` as: evaluate the constructor arguments (errors surface here), then concatenate the
    normalised pieces of `__str__` with the arguments inlined. -/
theorem render_eq_pieces (h : Host) (t : Tables) (d : Decoder) (w : Window) :
    render h t d w = (evalFields { host := h, tables := t, win := w } d.fields).bind
      (fun _ => evalPieces { host := h, tables := t, win := w } (normalize (subst d.fields d.str))) := by
  rw [render_eq]
  cases hf : evalFields { host := h, tables := t, win := w } d.fields with
  | error e => rfl
  | ok fs =>
    simp only [Except.bind]
    have := eval_subst { host := h, tables := t, win := w } rfl d.fields fs hf d.str
    rw [evalS_normalize]
    simp only [evalS, this]

theorem evalFields_append_const (c : Ctx) (xs : List Expr) (b : Bool) :
    evalFields c (xs ++ [.bool b]) = (evalFields c xs).map (· ++ [.bool b]) := by
  induction xs with
  | nil => rfl
  | cons x xs ih =>
    simp only [List.cons_append, evalFields, ih]
    cases eval c x with
    | error e => rfl
    | ok v => cases evalFields c xs <;> rfl

end KdVerif.IR
