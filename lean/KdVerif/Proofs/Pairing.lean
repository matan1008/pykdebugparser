import KdVerif.Spec.Pairing
/-
  Refinement of the pairing state machine (`Model/Pairing.step`) to the declarative specification (`Spec/Pairing`):
  after every history the tables hold exactly the open keys, each with its declarative window (`state_eq`), hence the
  windows delivered are the declarative ones (`run_eq_runSpec`).  The specification speaks of prefixes of the history,
  so the inductions go from the right (`snoc_induction`).  Then the bounds on the body of a window that C04 states.
-/
namespace KdVerif.Pairing

/-- Induction on a list from the right (Mathlib's `List.reverseRecOn` for propositions). -/
theorem snoc_induction {α : Type} {P : List α → Prop} (nil : P [])
    (snoc : ∀ l a, P l → P (l ++ [a])) (l : List α) : P l := by
  have h : ∀ r : List α, P r.reverse := by
    intro r
    induction r with
    | nil => exact nil
    | cons a r ih => rw [List.reverse_cons]; exact snoc _ _ ih
  simpa using h l.reverse

theorem annotFrom_snoc {α : Type} (pre l : List α) (x : α) :
    annotFrom pre (l ++ [x]) = annotFrom pre l ++ [(pre ++ l, x)] := by
  induction l generalizing pre with
  | nil => simp [annotFrom]
  | cons y ys ih => simp [annotFrom, ih, List.append_assoc]

theorem annotFrom_map_snd {α : Type} (pre l : List α) : (annotFrom pre l).map (·.2) = l := by
  induction l generalizing pre with
  | nil => rfl
  | cons y ys ih => simp [annotFrom, ih]

theorem mem_annotFrom {α : Type} (pre l : List α) (p : List α × α) :
    p ∈ annotFrom pre l ↔ ∃ a b, l = a ++ p.2 :: b ∧ p.1 = pre ++ a := by
  induction l generalizing pre with
  | nil => simp [annotFrom]
  | cons y ys ih =>
    simp only [annotFrom, List.mem_cons, ih, List.cons_eq_append_iff]
    constructor
    · rintro (rfl | ⟨a, b, rfl, h2⟩)
      · exact ⟨[], ys, .inl ⟨rfl, rfl⟩, by simp⟩
      · exact ⟨y :: a, b, .inr ⟨a, rfl, rfl⟩, by simp [h2]⟩
    · rintro ⟨a, b, ⟨rfl, h⟩ | ⟨a', rfl, rfl⟩, h2⟩
      · left; cases p; simp_all
      · exact .inr ⟨a', b, rfl, by simp [h2]⟩

theorem splitLast_snoc {α : Type} (p : α → Bool) (l : List α) (x : α) :
    splitLast p (l ++ [x]) =
      if p x then some (l, x, []) else (splitLast p l).map fun t => (t.1, t.2.1, t.2.2 ++ [x]) := by
  induction l with
  | nil => by_cases h : p x <;> simp [splitLast, h]
  | cons y ys ih =>
    simp only [List.cons_append, splitLast, ih]
    by_cases h : p x
    · simp [h]
    · simp only [h]
      cases hs : splitLast p ys with
      | some t => simp
      | none => by_cases hy : p y <;> simp [hy]

theorem splitLast_none_of {α : Type} (p : α → Bool) (l : List α) (h : ∀ x ∈ l, p x = false) :
    splitLast p l = none := by
  induction l with
  | nil => rfl
  | cons y ys ih =>
    have hy : p y = false := h y (by simp)
    simp [splitLast, ih (fun x hx => h x (by simp [hx])), hy]

theorem splitLast_spec {α : Type} (p : α → Bool) (l : List α) :
    match splitLast p l with
    | none => ∀ x ∈ l, p x = false
    | some (a, s, b) => l = a ++ s :: b ∧ p s = true ∧ ∀ x ∈ b, p x = false := by
  induction l with
  | nil => simp [splitLast]
  | cons y ys ih =>
    simp only [splitLast]
    cases hs : splitLast p ys with
    | some t =>
      rw [hs] at ih
      exact ⟨congrArg (y :: ·) ih.1, ih.2⟩
    | none =>
      rw [hs] at ih
      by_cases hy : p y <;> simpa [hy] using ih

theorem splitLast_eq_some_iff {α : Type} (p : α → Bool) (l a b : List α) (s : α) :
    splitLast p l = some (a, s, b) ↔ l = a ++ s :: b ∧ p s = true ∧ ∀ x ∈ b, p x = false := by
  refine ⟨fun h => by have := splitLast_spec p l; rwa [h] at this, ?_⟩
  rintro ⟨rfl, hs, hb⟩
  induction a with
  | nil =>
    simp only [List.nil_append, splitLast, splitLast_none_of p b hb, hs, if_true]
  | cons y ys ih => simp only [List.cons_append, splitLast, ih]

section
variable (domOf : Nat → Bool)

theorem openAt_nil (k : Key) : openAt domOf [] k = false := rfl

theorem openAt_snoc (h : List Kevent) (e : Kevent) (k : Key) :
    openAt domOf (h ++ [e]) k = if isMark domOf k e then decide (e.qual = 1) else openAt domOf h k := by
  unfold openAt
  by_cases hm : isMark domOf k e <;> simp [List.filter_append, hm]

theorem isStartOf_isMark {k : Key} {x : Kevent} (h : isStartOf domOf k x = true) :
    isMark domOf k x = true := by
  simp only [isStartOf, isMark, decide_eq_true_eq] at *
  exact ⟨h.1, Or.inl h.2⟩

theorem open_decomp (h : List Kevent) (k : Key) (ho : openAt domOf h k = true) :
    ∃ pre s mid, h = pre ++ s :: mid ∧ keyOf domOf s = k ∧ s.qual = 1 ∧
      ∀ x ∈ mid, keyOf domOf x = k → x.qual ≠ 1 ∧ x.qual ≠ 2 := by
  induction h using snoc_induction with
  | nil => simp [openAt_nil] at ho
  | snoc h e ih =>
    rw [openAt_snoc] at ho
    by_cases hm : isMark domOf k e = true
    · simp only [hm, if_true, decide_eq_true_eq] at ho
      simp only [isMark, decide_eq_true_eq] at hm
      exact ⟨h, e, [], rfl, hm.1, ho, by simp⟩
    · simp only [hm] at ho
      obtain ⟨pre, s, mid, rfl, hk, hq, hmid⟩ := ih ho
      refine ⟨pre, s, mid ++ [e], by simp, hk, hq, ?_⟩
      intro x hx hxk
      rcases List.mem_append.1 hx with hx | hx
      · exact hmid x hx hxk
      · simp only [List.mem_singleton] at hx
        subst hx
        simp only [isMark, decide_eq_true_eq, not_and, not_or] at hm
        exact hm hxk

theorem splitLast_isSome_of_open (h : List Kevent) (k : Key) (ho : openAt domOf h k = true) :
    ∃ t, splitLast (isStartOf domOf k) h = some t := by
  cases hs : splitLast (isStartOf domOf k) h with
  | some t => exact ⟨t, rfl⟩
  | none =>
    obtain ⟨pre, s, mid, rfl, hk, hq, -⟩ := open_decomp domOf h k ho
    have hn := splitLast_spec (isStartOf domOf k) (pre ++ s :: mid)
    rw [hs] at hn
    simpa [isStartOf, hk, hq] using hn s (by simp)

theorem bodyOf_snoc (k : Key) (pre mid : List Kevent) (x : Kevent) :
    bodyOf domOf k pre (mid ++ [x]) =
      bodyOf domOf k pre mid ++ (if sameTD domOf k x && accepted domOf (pre ++ mid) x then [x] else []) := by
  unfold bodyOf
  rw [annotFrom_snoc, List.filter_append, List.map_append]
  congr 1
  by_cases hc : (sameTD domOf k x && accepted domOf (pre ++ mid) x) = true <;> simp [hc]

theorem win_nil (k : Key) : win domOf k [] = [] := rfl

theorem win_snoc_start (h : List Kevent) (e : Kevent) (k : Key) (hs : isStartOf domOf k e = true) :
    win domOf k (h ++ [e]) = [e] := by
  simp [win, splitLast_snoc, hs, bodyOf, annotFrom]

theorem win_snoc_other (h : List Kevent) (e : Kevent) (k : Key) (hs : isStartOf domOf k e = false)
    (ho : openAt domOf h k = true) :
    win domOf k (h ++ [e]) =
      win domOf k h ++ (if sameTD domOf k e && accepted domOf h e then [e] else []) := by
  obtain ⟨⟨pre, s, mid⟩, ht⟩ := splitLast_isSome_of_open domOf h k ho
  have hh := ((splitLast_eq_some_iff _ _ _ _ _).1 ht).1
  simp only [win, splitLast_snoc, hs, ht, Option.map_some, Bool.false_eq_true, if_false, bodyOf_snoc,
    List.cons_append]
  have : pre ++ [s] ++ mid = h := by rw [hh]; simp
  rw [this]


theorem runFrom_nil (s : PState) : runFrom domOf s [] = (s, []) := rfl

theorem runFrom_cons (s : PState) (e : Kevent) (es : List Kevent) :
    runFrom domOf s (e :: es) =
      ((runFrom domOf (step domOf s e).1 es).1,
       (step domOf s e).2.toList ++ (runFrom domOf (step domOf s e).1 es).2) := by
  simp only [runFrom]
  cases (step domOf s e).2 <;> rfl

theorem runFrom_append (s : PState) (a b : List Kevent) :
    runFrom domOf s (a ++ b) =
      ((runFrom domOf (runFrom domOf s a).1 b).1,
       (runFrom domOf s a).2 ++ (runFrom domOf (runFrom domOf s a).1 b).2) := by
  induction a generalizing s with
  | nil => simp [runFrom]
  | cons e es ih => simp only [List.cons_append, runFrom_cons, ih, List.append_assoc]

/-- What feeding `e` after history `h` hands to `parse_event_list` (the model's answer). -/
def emitAt (h : List Kevent) (e : Kevent) : Option (List Kevent) :=
  (step domOf (stateAfter domOf h) e).2

theorem stateAfter_nil : stateAfter domOf [] = PState.empty := rfl

theorem stateAfter_snoc (h : List Kevent) (e : Kevent) :
    stateAfter domOf (h ++ [e]) = (step domOf (stateAfter domOf h) e).1 := by
  simp only [stateAfter, runFrom_append, runFrom_cons, runFrom_nil]

theorem stateAfter_inv {I : PState → Prop} (h0 : I PState.empty) (hstep : ∀ s e, I s → I (step domOf s e).1)
    (h : List Kevent) : I (stateAfter domOf h) := by
  induction h using snoc_induction with
  | nil => exact h0
  | snoc h e ih => rw [stateAfter_snoc]; exact hstep _ e ih

theorem run_snoc (h : List Kevent) (e : Kevent) :
    run domOf (h ++ [e]) = run domOf h ++ (emitAt domOf h e).toList := by
  simp only [run, emitAt, stateAfter, runFrom_append, runFrom_cons, runFrom_nil, List.append_nil]

theorem run_mem (m : List Kevent) (w : List Kevent) (hw : w ∈ run domOf m) :
    ∃ pre e post, m = pre ++ e :: post ∧ emitAt domOf pre e = some w := by
  induction m using snoc_induction with
  | nil => simp [run, runFrom] at hw
  | snoc h e ih =>
    rw [run_snoc, List.mem_append] at hw
    rcases hw with hw | hw
    · obtain ⟨pre, e', post, rfl, h'⟩ := ih hw
      exact ⟨pre, e', post ++ [e], by simp, h'⟩
    · exact ⟨h, e, [], rfl, Option.mem_toList.1 hw⟩

theorem outputs_append (s : PState) (a b : List Kevent) :
    outputs domOf s (a ++ b) = outputs domOf s a ++ outputs domOf (runFrom domOf s a).1 b := by
  induction a generalizing s with
  | nil => simp [outputs, runFrom]
  | cons e es ih => simp [outputs, runFrom_cons, ih]

theorem outputs_snoc (h : List Kevent) (e : Kevent) :
    outputs domOf PState.empty (h ++ [e]) = outputs domOf PState.empty h ++ [emitAt domOf h e] := by
  simp [outputs_append, outputs, emitAt, stateAfter]

/-- `run` is the per-event answers with the `None`s dropped (`feed_generator`). -/
theorem run_eq_outputs (s : PState) (h : List Kevent) :
    (runFrom domOf s h).2 = (outputs domOf s h).filterMap id := by
  induction h generalizing s with
  | nil => rfl
  | cons e es ih =>
    rw [runFrom_cons]
    simp only [outputs, ih]
    cases (step domOf s e).2 <;> simp


@[simp] theorem keyOf_tid (e : Kevent) : (keyOf domOf e).tid = e.tid := rfl
@[simp] theorem keyOf_eid (e : Kevent) : (keyOf domOf e).eid = e.eventid := rfl
@[simp] theorem keyOf_dom (e : Kevent) : (keyOf domOf e).dom = domOf e.eventid := rfl

theorem step_start (s : PState) (e : Kevent) (h1 : e.qual = 1) :
    step domOf s e =
      (appendAll (set s (keyOf domOf e) (some [])) (domOf e.eventid) e.tid e, none) := by
  simp [step, h1]

theorem step_end_closed (s : PState) (e : Kevent) (h2 : e.qual = 2) (hs : s (keyOf domOf e) = none) :
    step domOf s e = (s, none) := by
  simp [step, h2, hs]

theorem step_end_open (s : PState) (e : Kevent) (w : List Kevent) (h2 : e.qual = 2)
    (hs : s (keyOf domOf e) = some w) :
    step domOf s e =
      (set (appendAll s (domOf e.eventid) e.tid e) (keyOf domOf e) none, some (w ++ [e])) := by
  simp [step, h2, hs, appendAll]

theorem step_single (s : PState) (e : Kevent) (h1 : e.qual ≠ 1) (h2 : e.qual ≠ 2) :
    step domOf s e = (appendAll s (domOf e.eventid) e.tid e, some [e]) := by
  simp [step, h1, h2]

theorem appendAll_apply (s : PState) (d : Bool) (tid : Nat) (e : Kevent) (k : Key) :
    appendAll s d tid e k = if k.dom = d ∧ k.tid = tid then (s k).map (· ++ [e]) else s k := rfl

theorem set_apply (s : PState) (k k' : Key) (v : Option (List Kevent)) :
    set s k v k' = if k' = k then v else s k' := rfl

/-- The tables after one `feed`, entry by entry.  The first case is the stray END (no open START of its key): it is not
    even appended to the other open lists of its thread. -/
theorem step_fst_apply (s : PState) (e : Kevent) (k : Key) :
    (step domOf s e).1 k =
      if e.qual = 2 ∧ s (keyOf domOf e) = none then s k
      else if k = keyOf domOf e then
        (if e.qual = 1 then some [e] else if e.qual = 2 then none else (s k).map (· ++ [e]))
      else if k.dom = domOf e.eventid ∧ k.tid = e.tid then (s k).map (· ++ [e]) else s k := by
  by_cases h1 : e.qual = 1
  · by_cases hk : k = keyOf domOf e <;> simp [step_start domOf s e h1, appendAll_apply, set_apply, h1, hk]
  · by_cases h2 : e.qual = 2
    · cases hst : s (keyOf domOf e) with
      | none => simp [step_end_closed domOf s e h2 hst, h2]
      | some w => by_cases hk : k = keyOf domOf e <;> simp [step_end_open domOf s e w h2 hst, appendAll_apply, set_apply, h2, hk]
    · by_cases hk : k = keyOf domOf e <;> simp [step_single domOf s e h1 h2, appendAll_apply, h1, h2, hk]

theorem step_snd (s : PState) (e : Kevent) :
    (step domOf s e).2 =
      if e.qual = 1 then none else if e.qual = 2 then (s (keyOf domOf e)).map (· ++ [e]) else some [e] := by
  by_cases h1 : e.qual = 1
  · simp [step_start domOf s e h1, h1]
  · by_cases h2 : e.qual = 2
    · cases hst : s (keyOf domOf e) with
      | none => simp [step_end_closed domOf s e h2 hst, h2]
      | some w => simp [step_end_open domOf s e w h2 hst, h2]
    · simp [step_single domOf s e h1 h2, h1, h2]

theorem step_delivered (s : PState) (e : Kevent) (w : List Kevent) (hw : (step domOf s e).2 = some w) :
    w = [e] ∨ ∃ w', s (keyOf domOf e) = some w' ∧ w = w' ++ [e] := by
  rw [step_snd] at hw
  split at hw
  · cases hw
  · split at hw
    · obtain ⟨w', hw', rfl⟩ := Option.map_eq_some_iff.1 hw
      exact .inr ⟨w', hw', rfl⟩
    · exact .inl (Option.some.inj hw).symm

/-- The scheme by which invariants of the stored lists are shown to survive a `feed`: `HeadInv`, `TidInv`, `DomInv`
    (through `step_stored`) and `Trace.PInv` are instances. -/
theorem step_stored_start {Q : Key → List Kevent → Prop} {s : PState} (e : Kevent) (hs : ∀ k w, s k = some w → Q k w)
    (happ : ∀ k w, k.dom = domOf e.eventid → k.tid = e.tid → Q k w → Q k (w ++ [e]))
    (hnew : e.qual = 1 → Q (keyOf domOf e) [e]) (k : Key) (w : List Kevent) (hw : (step domOf s e).1 k = some w) :
    Q k w := by
  have hmap : k.dom = domOf e.eventid → k.tid = e.tid → (s k).map (· ++ [e]) = some w → Q k w := by
    intro hd ht h
    obtain ⟨w', hw', rfl⟩ := Option.map_eq_some_iff.1 h
    exact happ k w' hd ht (hs k w' hw')
  rw [step_fst_apply] at hw
  by_cases hc : e.qual = 2 ∧ s (keyOf domOf e) = none
  · rw [if_pos hc] at hw; exact hs k w hw
  · rw [if_neg hc] at hw
    by_cases hk : k = keyOf domOf e
    · subst hk
      rw [if_pos rfl] at hw
      by_cases h1 : e.qual = 1
      · rw [if_pos h1] at hw; cases hw; exact hnew h1
      · rw [if_neg h1] at hw
        by_cases h2 : e.qual = 2
        · rw [if_pos h2] at hw; cases hw
        · rw [if_neg h2] at hw; exact hmap rfl rfl hw
    · rw [if_neg hk] at hw
      by_cases hd : k.dom = domOf e.eventid ∧ k.tid = e.tid
      · rw [if_pos hd] at hw; exact hmap hd.1 hd.2 hw
      · rw [if_neg hd] at hw; exact hs k w hw

theorem step_stored {Q : Key → List Kevent → Prop} {s : PState} (e : Kevent) (hs : ∀ k w, s k = some w → Q k w)
    (happ : ∀ k w, k.dom = domOf e.eventid → k.tid = e.tid → Q k w → Q k (w ++ [e]))
    (hnew : Q (keyOf domOf e) [e]) (k : Key) (w : List Kevent) (hw : (step domOf s e).1 k = some w) : Q k w :=
  step_stored_start domOf e hs happ (fun _ => hnew) k w hw

def HeadInv (s : PState) : Prop := ∀ k w, s k = some w → ∃ x rest, w = x :: rest ∧ x.eventid = k.eid

theorem headInv_empty : HeadInv PState.empty :=
  fun _ _ h => nomatch h

theorem step_headInv (s : PState) (e : Kevent) (hs : HeadInv s) : HeadInv (step domOf s e).1 :=
  step_stored domOf e hs (fun _ _ _ _ ⟨x, rest, hw, hx⟩ => ⟨x, rest ++ [e], by rw [hw]; rfl, hx⟩) ⟨e, [], rfl, rfl⟩

theorem step_output_head (s : PState) (e : Kevent) (hs : HeadInv s) (w : List Kevent)
    (hw : (step domOf s e).2 = some w) : ∃ x rest, w = x :: rest ∧ x.eventid = e.eventid := by
  rcases step_delivered domOf s e w hw with rfl | ⟨w', hw', rfl⟩
  · exact ⟨e, [], rfl, rfl⟩
  · obtain ⟨x, rest, rfl, hx⟩ := hs _ _ hw'
    exact ⟨x, rest ++ [e], rfl, hx⟩

theorem sameTD_keyOf (e : Kevent) : sameTD domOf (keyOf domOf e) e = true := by
  simp [sameTD, keyOf]

theorem state_eq (h : List Kevent) (k : Key) :
    stateAfter domOf h k = if openAt domOf h k then some (win domOf k h) else none := by
  induction h using snoc_induction generalizing k with
  | nil => rfl
  | snoc h e ih =>
    rw [stateAfter_snoc, step_fst_apply, openAt_snoc]
    by_cases hk : k = keyOf domOf e
    · -- the event's own key: opened by a START, closed by an END, extended otherwise
      subst hk
      by_cases h1 : e.qual = 1
      · simp [h1, isMark, win_snoc_start domOf h e (keyOf domOf e) (by simp [isStartOf, h1])]
      · by_cases h2 : e.qual = 2
        · simp [h2, isMark]
        · cases ho : openAt domOf h (keyOf domOf e) <;>
            simp [h1, h2, isMark, ih, ho, win_snoc_other domOf h e (keyOf domOf e) (by simp [isStartOf, h1]),
              sameTD_keyOf, accepted]
    · have hk' : ¬ keyOf domOf e = k := fun h => hk h.symm
      cases ho : openAt domOf h k
      · simp [hk, hk', isMark, ih k, ho]
      · -- another open key: extended iff the event is of its thread and table and not a stray END
        rw [win_snoc_other domOf h e k (by simp [isStartOf, hk']) ho]
        have htd : sameTD domOf k e = decide (k.dom = domOf e.eventid ∧ k.tid = e.tid) := by
          simp only [sameTD, eq_comm]
        cases hoe : openAt domOf h (keyOf domOf e) <;>
          by_cases h2 : e.qual = 2 <;> by_cases hc : k.dom = domOf e.eventid ∧ k.tid = e.tid <;>
          simp [hk, hk', isMark, ih k, ih (keyOf domOf e), ho, hoe, accepted, htd, h2, hc]


theorem stateAfter_isSome_iff (h : List Kevent) (k : Key) :
    (stateAfter domOf h k).isSome = openAt domOf h k := by
  rw [state_eq]; cases openAt domOf h k <;> rfl

theorem emitAt_eq_emitSpec (h : List Kevent) (e : Kevent) : emitAt domOf h e = emitSpec domOf h e := by
  rw [emitAt, emitSpec, step_snd, state_eq]
  cases openAt domOf h (keyOf domOf e) <;> rfl

theorem run_eq_runSpec (h : List Kevent) : run domOf h = runSpec domOf h := by
  induction h using snoc_induction with
  | nil => rfl
  | snoc h e ih =>
    rw [run_snoc, ih, emitAt_eq_emitSpec]
    simp only [runSpec, annotFrom_snoc, List.nil_append, List.filterMap_append]
    cases hem : emitSpec domOf h e <;> simp [hem]

theorem win_of_decomp (k : Key) (pre mid : List Kevent) (s : Kevent)
    (hs : isStartOf domOf k s = true) (hmid : ∀ x ∈ mid, isStartOf domOf k x = false) :
    win domOf k (pre ++ s :: mid) = s :: bodyOf domOf k (pre ++ [s]) mid := by
  have := (splitLast_eq_some_iff (isStartOf domOf k) (pre ++ s :: mid) pre mid s).2 ⟨rfl, hs, hmid⟩
  simp [win, this]

theorem open_of_decomp (k : Key) (pre mid : List Kevent) (s : Kevent) (hk : keyOf domOf s = k)
    (hq : s.qual = 1) (hmid : ∀ x ∈ mid, keyOf domOf x = k → x.qual ≠ 1 ∧ x.qual ≠ 2) :
    openAt domOf (pre ++ s :: mid) k = true := by
  -- nothing after `s` is a START or an END of `k`, so `s` is the last one
  have hm : mid.filter (isMark domOf k) = [] := List.filter_eq_nil_iff.2 fun x hx => by
    simp only [isMark, decide_eq_true_eq, not_and, not_or]
    exact hmid x hx
  simp [openAt, hm, isMark, hk, hq]


theorem filter_sublist_of_imp {α : Type} (p q : α → Bool) (l : List α) (h : ∀ x, p x = true → q x = true) :
    (l.filter p).Sublist (l.filter q) := by
  have : l.filter p = (l.filter q).filter p := by
    rw [List.filter_filter]
    apply List.filter_congr
    intro x _
    cases hp : p x with
    | false => simp
    | true => simp [h x hp]
  rw [this]
  exact List.filter_sublist

theorem filter_eq_annotFrom (q : Kevent → Bool) (pre mid : List Kevent) :
    mid.filter q = ((annotFrom pre mid).filter fun p => q p.2).map (·.2) := by
  conv => lhs; rw [← annotFrom_map_snd pre mid]
  rw [List.filter_map]; rfl

/-- C04's "nothing foreign, nothing from outside the interval, stream order, no duplicates": the body is a sublist of
    the same-thread same-domain events of `mid`. -/
theorem bodyOf_sublist (k : Key) (pre mid : List Kevent) :
    (bodyOf domOf k pre mid).Sublist (mid.filter (sameTD domOf k)) := by
  rw [filter_eq_annotFrom _ pre]
  exact (filter_sublist_of_imp _ _ _ (by intro x hx; simp only [Bool.and_eq_true] at hx; exact hx.1)).map _

/-- C04's "except possibly stray ENDs": nothing else is left out. -/
theorem sublist_bodyOf (k : Key) (pre mid : List Kevent) :
    (mid.filter fun x => sameTD domOf k x && decide (x.qual ≠ 2)).Sublist (bodyOf domOf k pre mid) := by
  rw [filter_eq_annotFrom _ pre]
  refine (filter_sublist_of_imp _ _ _ ?_).map _
  intro x hx
  simp only [Bool.and_eq_true, accepted, Bool.or_eq_true] at hx ⊢
  exact ⟨hx.1, Or.inl hx.2⟩

theorem mem_bodyOf_of (k : Key) (pre a b : List Kevent) (x : Kevent)
    (htd : sameTD domOf k x = true) (hacc : accepted domOf (pre ++ a) x = true) :
    x ∈ bodyOf domOf k pre (a ++ x :: b) := by
  unfold bodyOf
  rw [List.mem_map]
  refine ⟨(pre ++ a, x), ?_, rfl⟩
  rw [List.mem_filter]
  exact ⟨(mem_annotFrom _ _ _).2 ⟨a, b, rfl, rfl⟩, by simp [htd, hacc]⟩

end
end KdVerif.Pairing
