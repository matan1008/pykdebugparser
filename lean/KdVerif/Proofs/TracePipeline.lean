import KdVerif.Model.TracePipeline
import KdVerif.Proofs.Declared
/-
  C13: lemmas about the object-state model of `PyKdebugParser.traces` (Model/TracePipeline.lean).  Core Lean only.
-/
namespace KdVerif.TracePipeline
open KdVerif.Trace KdVerif.Filters KdVerif.Declared

theorem runAnnot_map_fst (env : Env) (s : Trace.PState) (m : List Kevent) :
    (runAnnot env s m).map (·.1) = (Trace.run env s m).1 := by
  induction m generalizing s with
  | nil => rfl
  | cons e es ih =>
    cases hf : feed env s e with
    | error err => simp [runAnnot, hf, run_cons_error env s e es err hf]
    | ok p =>
      rcases p with ⟨r, s'⟩
      rw [run_cons_ok env s s' e es r hf]
      simp only [runAnnot, hf, List.map_append, ih s']
      cases r <;> rfl

/-- The helper post-filters (no process filter) as one predicate on the trace. -/
def keepHelpers (cfg : Cfg) (o : TraceOut) : Bool :=
  (!addTraceClass cfg || o.cls != Gen.Consts.DBG_TRACE) && (!addFsClass cfg || o.cls != Gen.Consts.DBG_FSYSTEM)

theorem postFilter_noProcess (cfg : Cfg) (hp : cfg.filterProcess = none) (l : List (TraceOut × Tabs)) :
    postFilter cfg l = l.filter fun p => keepHelpers cfg p.1 := by
  simp only [postFilter, hp, keepHelpers]
  have htrue : l.filter (fun _ => true) = l := List.filter_eq_self.2 (fun _ _ => rfl)
  by_cases h1 : addTraceClass cfg = true <;> by_cases h2 : addFsClass cfg = true <;>
    simp [h1, h2, List.filter_filter, Bool.and_comm, htrue]

theorem filter_fst_map {α β : Type} (l : List (α × β)) (p : α → Bool) :
    (l.filter fun x => p x.1).map (·.1) = (l.map (·.1)).filter p := by
  induction l with
  | nil => rfl
  | cons x xs ih => by_cases h : p x.1 = true <;> simp [h, ih]

theorem keventsWith_tid (cfg : Cfg) (t : Nat) (fc : List Nat) (items : List Item) :
    keventsWith { cfg with filterTid := some t } fc items
      = (keventsWith { cfg with filterTid := none } fc items).filter fun e => e.tid == t := by
  simp only [keventsWith, isEventidAllowed]
  by_cases h : (!fc.isEmpty || !cfg.filterSubclass.isEmpty) = true
  · simp only [h, if_true, List.filter_filter]
    congr 1
    funext e
    exact Bool.and_comm _ _
  · simp only [h, if_false, Bool.false_eq_true]

theorem fedEvents_tid (cfg : Cfg) (t : Nat) (d : Dump) :
    fedEvents { cfg with filterTid := some t } d = (fedEvents { cfg with filterTid := none } d).filter fun e => e.tid == t := by
  simp only [fedEvents]
  exact keventsWith_tid cfg t _ _


open KdVerif.IR

/-- Everything a decoder may read except `threads_pids` (the one table that records outside DBG_TRACE write). -/
def classSel : Sel :=
  { startAll := true, endA := true, tid := true, data := true, lookups := true, gstr := true, tnames := true,
    host := true, hostErrno := true, fields := true }

def classOnly (d : Decoder) : Bool := d.fields.all (within classSel) && within classSel d.str

theorem parseVnodes_congr (env : Env) (w w' : List Kevent) (h : w.filter (isLookup env) = w'.filter (isLookup env)) :
    parseVnodes env w = parseVnodes env w' := by
  simp only [parseVnodes, h]

theorem filter_lookup_comm (env : Env) (w : List Kevent) (q : Kevent → Bool) :
    (w.filter q).filter (isLookup env) = (w.filter (isLookup env)).filter q := by
  simp only [List.filter_filter]
  apply List.filter_congr
  intro x _
  exact Bool.and_comm _ _

/-- The window record built from two event lists with the same first record, the same last record and the same
    lookup records differs at most in the `threads_pids` getter (when the string tables agree). -/
theorem winOf_congr (env : Env) (T T' : Tabs) (w w' : List Kevent) (vnodes : List Vnode)
    (hh : w.head? = w'.head?) (hl : w.getLast? = w'.getLast?)
    (hlk : vnodes ≠ [] → w.filter (isLookup env) = w'.filter (isLookup env))
    (hgs : T.globalStrings.get = T'.globalStrings.get) (htn : T.tidsNames.get = T'.tidsNames.get) :
    winOf env T' w' vnodes = { winOf env T w vnodes with threadsPids := T'.threadsPids.get } := by
  simp only [winOf, hh, hl, hgs, htn]
  cases vnodes with
  | nil => rfl
  | cons v vs =>
    have := hlk (by simp)
    simp only [parseVnodes, filter_lookup_comm, this]

theorem agree_classSel (c : Ctx) (f : Nat → Option Nat) :
    Agree classSel c { c with win := { c.win with threadsPids := f } } := by
  refine ⟨rfl, fun _ _ => rfl, fun _ => rfl, fun _ => rfl, fun _ _ => rfl, fun _ => rfl, fun _ => rfl,
    fun _ => ⟨rfl, rfl⟩, fun _ => rfl, ?_, fun _ => rfl, fun _ => ⟨rfl, rfl, rfl, rfl⟩, fun _ => rfl, fun _ => rfl⟩
  intro hh; simp [classSel] at hh

/-- Footprint of a generated decoder: a decoder that does not read `threads_pids` renders the same text (or raises
    the same exception) from two event lists that have the same first record (START), the same last record (END) and —
    when the decoder looks at lookups at all — the same VFS_LOOKUP records, under string tables that agree. -/
theorem runGeneratedObj_window_congr (env : Env) (T T' : Tabs) (d : Decoder) (w w' : List Kevent)
    (hh : w.head? = w'.head?) (hl : w.getLast? = w'.getLast?)
    (hlk : usesLookups d = true → w.filter (isLookup env) = w'.filter (isLookup env))
    (hgs : T.globalStrings.get = T'.globalStrings.get) (htn : T.tidsNames.get = T'.tidsNames.get)
    (hsel : classOnly d = true) : runGeneratedObj env T d w = runGeneratedObj env T' d w' := by
  simp only [classOnly, Bool.and_eq_true] at hsel
  refine runGeneratedObj_agree classSel env T T' d w w' hsel.1 hsel.2 (fun hu => parseVnodes_congr env w w' (hlk hu))
    fun vnodes fs hvn => ?_
  rw [winOf_congr env T T' w w' vnodes hh hl (fun hne => hlk ?_) hgs htn]
  · exact agree_classSel { host := env.host, tables := env.tables, win := winOf env T w vnodes, fields := fs } _
  · cases hu : usesLookups d with
    | false => exact absurd (hvn hu) hne
    | true => rfl

theorem head?_filter_of_head {α : Type} (p : α → Bool) (l : List α) (h : ∀ x, l.head? = some x → p x = true) :
    (l.filter p).head? = l.head? := by
  cases l with
  | nil => rfl
  | cons x xs => simp [h x rfl]

theorem getLast?_filter_of_last {α : Type} (p : α → Bool) (l : List α) (h : ∀ x, l.getLast? = some x → p x = true) :
    (l.filter p).getLast? = l.getLast? := by
  induction l using Pairing.snoc_induction with
  | nil => rfl
  | snoc xs x _ =>
    have hx : p x = true := h x (by simp)
    simp [List.filter_append, hx]

/-- The same for a window and its filtered version: when the filter keeps the window's first and last record and
    (for a decoder that looks at lookups) every VFS_LOOKUP record, the decoder's dataclass and text are unchanged. -/
theorem runGeneratedObj_filter_congr (env : Env) (T T' : Tabs) (d : Decoder) (w : List Kevent) (q : Kevent → Bool)
    (hh : ∀ x, w.head? = some x → q x = true) (hl : ∀ x, w.getLast? = some x → q x = true)
    (hlk : usesLookups d = true → ∀ x ∈ w, isLookup env x = true → q x = true)
    (hgs : T.globalStrings.get = T'.globalStrings.get) (htn : T.tidsNames.get = T'.tidsNames.get)
    (hsel : classOnly d = true) : runGeneratedObj env T d w = runGeneratedObj env T' d (w.filter q) := by
  apply runGeneratedObj_window_congr env T T' d w (w.filter q) (head?_filter_of_head q w hh).symm
    (getLast?_filter_of_last q w hl).symm _ hgs htn hsel
  intro hu
  rw [filter_lookup_comm]
  symm
  apply List.filter_eq_self.2
  intro x hx
  obtain ⟨hxw, hxl⟩ := List.mem_filter.1 hx
  exact hlk hu x hxw hxl

theorem runGenerated_filter_congr (env : Env) (T T' : Tabs) (d : Decoder) (w : List Kevent) (q : Kevent → Bool)
    (hh : ∀ x, w.head? = some x → q x = true) (hl : ∀ x, w.getLast? = some x → q x = true)
    (hlk : usesLookups d = true → ∀ x ∈ w, isLookup env x = true → q x = true)
    (hgs : T.globalStrings.get = T'.globalStrings.get) (htn : T.tidsNames.get = T'.tidsNames.get)
    (hsel : classOnly d = true) : runGenerated env T d w = runGenerated env T' d (w.filter q) := by
  simp only [runGenerated, runGeneratedObj_filter_congr env T T' d w q hh hl hlk hgs htn hsel]

end KdVerif.TracePipeline
