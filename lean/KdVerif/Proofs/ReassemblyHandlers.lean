import KdVerif.Proofs.ReassemblyRun
import KdVerif.Proofs.Composite
/-
  C08 lemmas: the three reassembling handlers (`VFS_LOOKUP`, `TRACE_STRING_GLOBAL`,
  `TRACE_STRING_THREADNAME(_PREV)`) on kernel-encoded records, and their `Reasm` instances.
-/
namespace KdVerif.Reassembly
open KdVerif.Trace KdVerif.Pairing

theorem vnodeGen_lookupEvents (dec : Bytes → Except PyErr String) (tid eid : Nat) (ts : Nat → Nat)
    (vnode : Nat) (p : Bytes) (hv : vnode < 2 ^ 64) (hp : NulFree p) (rest : List Kevent) :
    vnodeGen dec (lookupEvents tid eid ts vnode p ++ rest) [] 0 [] =
      (do let s ← dec p
          let more ← vnodeGen dec rest [] 0 []
          pure (⟨lookupEvents tid eid ts vnode p, vnode, s⟩ :: more)) := by
  obtain ⟨c, cs, h1, h2, h3⟩ := chunks_join_nulFree (toLE 8 vnode) p (by simp [toLE_length]) hp
  rw [toLE_length] at h2 h3
  simp only [lookupEvents, encodeLookup, h1]
  rw [vnodeGen_chunks, h3, h2, leNat_toLE, Nat.mod_eq_of_lt (by simpa using hv)]

theorem globalLoop_globalStringEvents (tid eid : Nat) (ts : Nat → Nat) (debugid strId : Nat) (s : Bytes)
    (hd : debugid < 2 ^ 64) (hi : strId < 2 ^ 64) (rest : List Kevent) :
    ∃ vstr, globalLoop eid (globalStringEvents tid eid ts debugid strId s ++ rest) 0 0 [] [] =
        (debugid, strId, vstr, globalStringEvents tid eid ts debugid strId s) ∧ stripNul vstr = stripNul s := by
  obtain ⟨c, cs, h1, h2, h3⟩ := chunks_join (toLE 8 debugid ++ toLE 8 strId) s (by simp [toLE_length])
  simp only [List.length_append, toLE_length] at h2 h3
  simp only [globalStringEvents, encodeGlobalString, h1]
  rw [globalLoop_chunks]
  have e1 : c.take 8 = toLE 8 debugid := by
    have := congrArg (List.take 8) h2
    rw [List.take_take] at this
    simpa [toLE_length] using this
  have e2 : (c.drop 8).take 8 = toLE 8 strId := by
    have := congrArg (List.drop 8) h2
    rw [List.drop_take] at this
    simpa [toLE_length] using this
  refine ⟨_, ?_, h3⟩
  rw [e1, e2, leNat_toLE, leNat_toLE, Nat.mod_eq_of_lt (by simpa using hd), Nat.mod_eq_of_lt (by simpa using hi)]

theorem dataOf_threadNameEvents (tid eid : Nat) (ts : Nat → Nat) (s : Bytes) :
    stripNul (dataOf (threadNameEvents tid eid ts s)) = stripNul s := by
  obtain ⟨c, cs, h1, _, h3⟩ := chunks_join [] s (by simp)
  simp only [threadNameEvents, encodeThreadName, chunkEvents, dataOf_tagFrom, h1]
  simpa using h3

theorem joinData_threadNameEvents (tid eid : Nat) (ts : Nat → Nat) (s : Bytes) (w : List Kevent)
    (hfirst : (firstOf w).eventid = eid)
    (hw : w.filter (fun e => e.eventid == eid) = threadNameEvents tid eid ts s) :
    stripNul (joinData w) = stripNul s := by
  rw [joinData_eq, hfirst, hw, dataOf_threadNameEvents]

def namedB (env : Env) (name : String) (eid : Nat) : Bool := env.codes eid == some name

theorem window_first (B : Kevent → Bool) (w : List Kevent) (t eid : Nat) (ts : Nat → Nat) (hdr b : Bytes)
    (hne : w ≠ []) (hB : B (firstOf w) = true) (hw : w.filter B = chunkEvents t eid ts (splitChunks hdr b)) :
    hasStart (firstOf w) = true ∧ (firstOf w).tid = t := by
  cases w with
  | nil => exact absurd rfl hne
  | cons y ys =>
    have hy : B y = true := hB
    rw [List.filter_cons, if_pos hy, splitChunks, chunkEvents, tagFrom_cons] at hw
    obtain ⟨rfl, _⟩ := List.cons.inj hw
    refine ⟨?_, rfl⟩
    rw [firstOf, List.head?_cons, Option.getD_some, hasStart_mkEvent]
    cases (chunks32 b.length (b.drop (32 - hdr.length))).isEmpty <;> rfl

theorem parseEventList_named (env : Env) (tabs : Tabs) (name : String) (x : Kevent) (xs : List Kevent)
    (hc : env.codes x.eventid = some name) (hh : isHandled env name = true) :
    parseEventList env tabs (x :: xs) = handle env tabs name (x :: xs) := by
  rw [Composite.parseEventList_unfold, Composite.handle_unfold]
  simp [parseEventListWith, hc, hh]

theorem isLookup_eq (env : Env) : isLookup env = fun x => namedB env "VFS_LOOKUP" x.eventid := rfl

theorem domOf_named (env : Env) (name : String) (x : Nat) (h : namedB env name x = true) :
    env.domOf x = traceDomainNames.contains name := by
  simp only [namedB, beq_iff_eq] at h
  simp [Env.domOf, h]

/-- The `Reasm` instance of a hand-written handler `H` registered under the name of code `eid`: it swallows a
    window that does not begin with a START record, and turns a window that begins with a record of code `eid`
    and whose `B`-records are `all` into a trace with property `P`. -/
theorem Reasm.of_handler (env : Env) (t eid : Nat) (B : Nat → Bool) (all : List Kevent) (P : TraceOut → Prop)
    (name : String) (H : Tabs → List Kevent → HRes)
    (hcode : env.codes eid = some name) (hhandled : isHandled env name = true)
    (hH : ∀ tabs w, handle env tabs name w = H tabs w) (hB : B eid = true)
    (hskip : ∀ tabs w, hasStart (firstOf w) = false → H tabs w = .ok (none, tabs))
    (hfinal : ∀ tabs w, w ≠ [] → (firstOf w).eventid = eid → w.filter (fun x => B x.eventid) = all →
      ∃ tr tabs', H tabs w = .ok (some tr, tabs') ∧ P tr) :
    Reasm env t B ⟨env.domOf eid, t, eid⟩ all P := by
  refine ⟨rfl, hB, ?_, ?_⟩
  · intro tabs m hk hq
    have hm : m.eventid = eid := congrArg Key.eid hk
    rw [parseEventList_named env tabs name m [] (by rw [hm, hcode]) hhandled, hH]
    exact hskip tabs [m] (by simp [firstOf, hasStart, hq])
  · intro tabs w hw hg
    obtain ⟨⟨y, ys, rfl, hy⟩, _⟩ := hg
    rw [parseEventList_named env tabs name y ys (by rw [hy, hcode]) hhandled, hH]
    exact hfinal tabs (y :: ys) (List.cons_ne_nil _ _) hy hw

theorem hVfsLookup_encoded (env : Env) (tabs : Tabs) (t eid : Nat) (ts : Nat → Nat) (vnode : Nat) (p : Bytes)
    (hv : vnode < 2 ^ 64) (hp : NulFree p) (str : String) (hdec : env.dec p = .ok str)
    (w : List Kevent) (hw : w.filter (isLookup env) = lookupEvents t eid ts vnode p)
    (hfirst : isLookup env (firstOf w) = true) (hne : w ≠ []) :
    hVfsLookup env tabs w =
      .ok (some (mk "VFS_LOOKUP" w s!"lookup(\"{str}\"), vnode id: {vnode}"), tabs) := by
  have hs := (window_first (isLookup env) w t eid ts _ p hne hfirst hw).1
  have hpv : parseVnodes env w = .ok [⟨lookupEvents t eid ts vnode p, vnode, str⟩] := by
    have := vnodeGen_lookupEvents env.dec t eid ts vnode p hv hp []
    rw [List.append_nil, hdec] at this
    rw [parseVnodes, hw, this]
    rfl
  simp only [hVfsLookup, hs, Bool.not_true, Bool.false_eq_true, if_false, hpv, bind, Except.bind, pure, Except.pure]

theorem reasm_lookup (env : Env) (t eid : Nat) (hcode : env.codes eid = some "VFS_LOOKUP")
    (ts : Nat → Nat) (vnode : Nat) (p : Bytes) (hv : vnode < 2 ^ 64) (hp : NulFree p)
    (str : String) (hdec : env.dec p = .ok str) :
    Reasm env t (namedB env "VFS_LOOKUP") ⟨env.domOf eid, t, eid⟩ (lookupEvents t eid ts vnode p)
      (fun tr => tr.name = "VFS_LOOKUP" ∧ tr.text = .ok s!"lookup(\"{str}\"), vnode id: {vnode}" ∧
        tr.events.filter (isLookup env) = lookupEvents t eid ts vnode p) := by
  have hB : namedB env "VFS_LOOKUP" eid = true := by simp [namedB, hcode]
  refine Reasm.of_handler env t eid _ _ _ "VFS_LOOKUP" (hVfsLookup env) hcode (by simp [isHandled, handNames])
    (fun tabs w => by rw [Composite.handle_unfold]; simp only [handleWith]) hB
    (fun tabs w h => by simp [hVfsLookup, h]) ?_
  intro tabs w hne hfirst hw
  have hf : isLookup env (firstOf w) = true := by
    show namedB env "VFS_LOOKUP" (firstOf w).eventid = true
    rw [hfirst]; exact hB
  exact ⟨_, tabs, hVfsLookup_encoded env tabs t eid ts vnode p hv hp str hdec w hw hf hne, rfl, rfl, hw⟩

def ownB (eid : Nat) (x : Nat) : Bool := x == eid

/-- `handle_trace_string_global` on ANY window that begins with a record of code `eid` and whose records of code
    `eid` are exactly the records of one encoded string (records of other codes anywhere in between). -/
theorem hStringGlobal_encoded (env : Env) (tabs : Tabs) (t eid : Nat) (ts : Nat → Nat) (debugid strId : Nat)
    (s : Bytes) (hd : debugid < 2 ^ 64) (hi : strId < 2 ^ 64) (hs : NulFree s) (str : String)
    (hdec : env.dec s = .ok str) (w : List Kevent) (hne : w ≠ []) (hfirst : (firstOf w).eventid = eid)
    (hw : w.filter (fun e => e.eventid == eid) = globalStringEvents t eid ts debugid strId s) :
    hStringGlobal env tabs w =
      .ok (some (mk "TRACE_STRING_GLOBAL" (globalStringEvents t eid ts debugid strId s)
              s!"New global string: \"{str}\", id: {strId}"),
           if str ≠ "" then { tabs with globalStrings := tabs.globalStrings.set strId str } else tabs) := by
  have hfs := (window_first (fun e => e.eventid == eid) w t eid ts _ s hne (beq_iff_eq.2 hfirst) hw).1
  obtain ⟨vstr, hgl, hv⟩ := globalLoop_globalStringEvents t eid ts debugid strId s hd hi []
  rw [List.append_nil] at hgl
  unfold hStringGlobal
  rw [hfirst, globalLoop_filter, hw]
  simp only [hfs, Bool.not_true, Bool.false_eq_true, if_false, hgl, hv, stripNul_of_nulFree s hs, hdec]

/-- `handle_trace_string_threadname(_prev)` on any such window: the trace keeps the whole window as ktraces, the
    name is exactly the encoded one. -/
theorem hStringThreadname_encoded (env : Env) (tabs : Tabs) (key label : String) (t eid : Nat) (ts : Nat → Nat)
    (s : Bytes) (hs : NulFree s) (str : String) (hdec : env.dec s = .ok str)
    (w : List Kevent) (hne : w ≠ []) (hfirst : (firstOf w).eventid = eid)
    (hw : w.filter (fun e => e.eventid == eid) = threadNameEvents t eid ts s) :
    hStringThreadname key label env tabs w =
      .ok (some (mk key w (label ++ str)), { tabs with tidsNames := tabs.tidsNames.set t str }) := by
  obtain ⟨hfs, htid⟩ := window_first (fun e => e.eventid == eid) w t eid ts _ s hne (beq_iff_eq.2 hfirst) hw
  simp only [hStringThreadname, hfs, Bool.not_true, Bool.false_eq_true, if_false,
    joinData_threadNameEvents t eid ts s w hfirst hw,
    stripNul_of_nulFree s hs, hdec, htid, bind, Except.bind, pure, Except.pure]

theorem reasm_globalString (env : Env) (t eid : Nat) (hcode : env.codes eid = some "TRACE_STRING_GLOBAL")
    (ts : Nat → Nat) (debugid strId : Nat) (s : Bytes) (hd : debugid < 2 ^ 64) (hi : strId < 2 ^ 64)
    (hs : NulFree s) (str : String) (hdec : env.dec s = .ok str) :
    Reasm env t (ownB eid) ⟨env.domOf eid, t, eid⟩ (globalStringEvents t eid ts debugid strId s)
      (fun tr => tr.name = "TRACE_STRING_GLOBAL" ∧
        tr.text = .ok s!"New global string: \"{str}\", id: {strId}" ∧
        tr.events = globalStringEvents t eid ts debugid strId s) :=
  Reasm.of_handler env t eid _ _ _ "TRACE_STRING_GLOBAL" (hStringGlobal env) hcode
    (by simp [isHandled, handNames, traceDomainNames]) (fun tabs w => by rw [Composite.handle_unfold]; simp only [handleWith])
    (beq_self_eq_true eid)
    (fun tabs w h => by simp [hStringGlobal, h])
    fun tabs w hne hfirst hw =>
      ⟨_, _, hStringGlobal_encoded env tabs t eid ts debugid strId s hd hi hs str hdec w hne hfirst hw, rfl, rfl, rfl⟩

theorem reasm_threadName (env : Env) (t eid : Nat) (prev : Bool)
    (hcode : env.codes eid = some (if prev then "TRACE_STRING_THREADNAME_PREV" else "TRACE_STRING_THREADNAME"))
    (ts : Nat → Nat) (s : Bytes) (hs : NulFree s) (str : String) (hdec : env.dec s = .ok str) :
    Reasm env t (ownB eid) ⟨env.domOf eid, t, eid⟩ (threadNameEvents t eid ts s)
      (fun tr => tr.name = (if prev then "TRACE_STRING_THREADNAME_PREV" else "TRACE_STRING_THREADNAME") ∧
        tr.text = .ok ((if prev then "Thread terminated name: " else "New thread name: ") ++ str) ∧
        tr.events.filter (fun e => e.eventid == eid) = threadNameEvents t eid ts s) :=
  Reasm.of_handler env t eid _ _ _ _
    (hStringThreadname (if prev then "TRACE_STRING_THREADNAME_PREV" else "TRACE_STRING_THREADNAME")
      (if prev then "Thread terminated name: " else "New thread name: ") env) hcode
    (by cases prev <;> simp [isHandled, handNames, traceDomainNames])
    (fun tabs w => by rw [Composite.handle_unfold]; cases prev <;> simp only [handleWith, if_true, Bool.false_eq_true, if_false])
    (beq_self_eq_true eid) (fun tabs w h => by simp [hStringThreadname, h])
    fun tabs w hne hfirst hw =>
      ⟨_, _, hStringThreadname_encoded env tabs _ _ t eid ts s hs str hdec w hne hfirst hw, rfl, rfl, hw⟩

end KdVerif.Reassembly
