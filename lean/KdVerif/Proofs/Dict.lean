import KdVerif.Model.ContainerV2
/- Lookup laws of the association-list model of Python dicts, and "later entry wins" for folds. -/
namespace KdVerif

theorem dictGet_cons {β : Type} (k : Nat) (p : Nat × β) (l : List (Nat × β)) :
    dictGet k (p :: l) = if p.1 = k then some p.2 else dictGet k l := by
  unfold dictGet
  by_cases h : p.1 = k <;> simp [h]

theorem dictGet_nil {β : Type} (k : Nat) : dictGet k ([] : List (Nat × β)) = none := rfl

theorem dictGet_none_of_any_false {β : Type} (k : Nat) (l : List (Nat × β))
    (h : l.any (fun p => p.1 == k) = false) : dictGet k l = none := by
  induction l with
  | nil => rfl
  | cons p l ih =>
    simp only [List.any_cons, Bool.or_eq_false_iff, beq_eq_false_iff_ne, ne_eq] at h
    rw [dictGet_cons, if_neg h.1, ih h.2]

theorem dictGet_map_ne {β : Type} (k k' : Nat) (v : β) (l : List (Nat × β)) (hk : k ≠ k') :
    dictGet k (l.map (fun p => if p.1 == k' then (k', v) else p)) = dictGet k l := by
  induction l with
  | nil => rfl
  | cons p l ih =>
    rw [List.map_cons, dictGet_cons, dictGet_cons, ih]
    by_cases hp : p.1 = k'
    · simp [hp, Ne.symm hk]
    · simp [hp]

theorem dictGet_map_eq {β : Type} (k' : Nat) (v : β) (l : List (Nat × β))
    (ha : l.any (fun p => p.1 == k') = true) :
    dictGet k' (l.map (fun p => if p.1 == k' then (k', v) else p)) = some v := by
  induction l with
  | nil => simp at ha
  | cons p l ih =>
    rw [List.map_cons, dictGet_cons]
    by_cases hp : p.1 = k'
    · simp [hp]
    · have ha' : l.any (fun p => p.1 == k') = true := by simpa [hp] using ha
      have hb : (p.1 == k') = false := by simpa using hp
      simp only [hb, Bool.false_eq_true, if_false, hp]
      exact ih ha'

theorem dictGet_append_single {β : Type} (k k' : Nat) (v : β) (l : List (Nat × β)) :
    dictGet k (l ++ [(k', v)]) = match dictGet k l with
      | some x => some x
      | none => if k' = k then some v else none := by
  induction l with
  | nil => simp [dictGet_cons, dictGet_nil]
  | cons p l ih =>
    rw [List.cons_append, dictGet_cons, dictGet_cons, ih]
    by_cases hp : p.1 = k <;> simp [hp]

theorem dictGet_dictSet {β : Type} (k k' : Nat) (v : β) (l : List (Nat × β)) :
    dictGet k (dictSet k' v l) = if k = k' then some v else dictGet k l := by
  unfold dictSet
  by_cases ha : l.any (fun p => p.1 == k') = true
  · rw [if_pos ha]
    by_cases hk : k = k'
    · subst hk; rw [dictGet_map_eq k v l ha, if_pos rfl]
    · rw [dictGet_map_ne k k' v l hk, if_neg hk]
  · rw [if_neg ha, dictGet_append_single]
    have ha' : l.any (fun p => p.1 == k') = false := Bool.eq_false_iff.mpr ha
    by_cases hk : k = k'
    · subst hk; rw [dictGet_none_of_any_false k l ha']
    · have : ¬ k' = k := fun e => hk e.symm
      rw [if_neg hk]
      cases dictGet k l <;> simp [this]

theorem foldl_snoc_ind {α : Type} {P : List α → Prop} (nil : P [])
    (snoc : ∀ l a, P l → P (l ++ [a])) (l : List α) : P l := by
  have : ∀ l : List α, P l.reverse := by
    intro l
    induction l with
    | nil => exact nil
    | cons a l ih => rw [List.reverse_cons]; exact snoc _ _ ih
  simpa using this l.reverse

theorem dictGet_foldl {α β : Type} (key : α → Nat) (val : α → β) (es : List α) (init : List (Nat × β)) (k : Nat) :
    dictGet k (es.foldl (fun d e => dictSet (key e) (val e) d) init) =
      match es.reverse.find? (fun e => key e == k) with
      | some e => some (val e)
      | none => dictGet k init := by
  induction es using foldl_snoc_ind with
  | nil => rfl
  | snoc es e ih =>
    rw [List.foldl_append, List.foldl_cons, List.foldl_nil, dictGet_dictSet, List.reverse_append]
    by_cases hk : key e = k
    · simp [hk]
    · have : ¬ k = key e := fun h => hk h.symm
      rw [if_neg this, ih]
      simp [hk]

end KdVerif
