import KdVerif.Model.Trace
import KdVerif.Spec.Reassembly
import KdVerif.Proofs.Bytes
/-
  C08 lemmas: chunk arithmetic (`chunks_join`) and the three reassembly loops on encoded records.
-/
namespace KdVerif.Reassembly
open KdVerif.Trace

theorem stripNul_append (a b : Bytes) : stripNul (a ++ b) = stripNul a ++ stripNul b := by
  simp [stripNul]

theorem stripNul_replicate_zero (n : Nat) : stripNul (List.replicate n 0) = [] := by
  simp [stripNul]

theorem stripNul_of_nulFree (p : Bytes) (h : NulFree p) : stripNul p = p := by
  simp only [stripNul, List.filter_eq_self, decide_eq_true_eq]
  exact h

theorem stripNul_padTo (n : Nat) (p : Bytes) : stripNul (padTo n p) = stripNul p := by
  simp [padTo, stripNul_append, stripNul_replicate_zero]

theorem NulFree.take {p : Bytes} (h : NulFree p) (n : Nat) : NulFree (p.take n) :=
  fun b hb => h b (List.mem_of_mem_take hb)

theorem NulFree.drop {p : Bytes} (h : NulFree p) (n : Nat) : NulFree (p.drop n) :=
  fun b hb => h b (List.mem_of_mem_drop hb)

theorem chunks32_join (fuel : Nat) (b : Bytes) (h : b.length ≤ fuel) :
    stripNul (chunks32 fuel b).flatten = stripNul b := by
  induction fuel generalizing b with
  | zero =>
    have : b = [] := List.eq_nil_of_length_eq_zero (by omega)
    subst this; rfl
  | succ n ih =>
    unfold chunks32
    by_cases hb : b.length = 0
    · have : b = [] := List.eq_nil_of_length_eq_zero hb
      subst this; rfl
    · simp only [hb, if_false, List.flatten_cons, stripNul_append, stripNul_padTo]
      rw [ih (b.drop 32) (by simp; omega), ← stripNul_append, List.take_append_drop]

theorem chunks_join (hdr s : Bytes) (_hh : hdr.length ≤ 32) :
    ∃ c cs, splitChunks hdr s = c :: cs ∧ c.take hdr.length = hdr ∧
      stripNul (c.drop hdr.length ++ cs.flatten) = stripNul s := by
  refine ⟨_, _, rfl, by simp, ?_⟩
  rw [List.drop_left, stripNul_append, stripNul_padTo, chunks32_join _ _ (by simp), ← stripNul_append,
    List.take_append_drop]

theorem chunks_join_nulFree (hdr s : Bytes) (hh : hdr.length ≤ 32) (hs : NulFree s) :
    ∃ c cs, splitChunks hdr s = c :: cs ∧ c.take hdr.length = hdr ∧
      stripNul (c.drop hdr.length ++ cs.flatten) = s := by
  obtain ⟨c, cs, h1, h2, h3⟩ := chunks_join hdr s hh
  exact ⟨c, cs, h1, h2, by rw [h3, stripNul_of_nulFree s hs]⟩

/-- Every payload is exactly 32 bytes (so it is a record's argument area). -/
theorem chunks32_length (fuel : Nat) (b : Bytes) : ∀ c ∈ chunks32 fuel b, c.length = 32 := by
  induction fuel generalizing b with
  | zero => intro c hc; simp [chunks32] at hc
  | succ n ih =>
    intro c hc
    unfold chunks32 at hc
    by_cases hb : b.length = 0
    · simp [hb] at hc
    · simp only [hb, if_false, List.mem_cons] at hc
      rcases hc with rfl | hc
      · simp [padTo]; omega
      · exact ih _ c hc

theorem splitChunks_length (hdr s : Bytes) (hh : hdr.length ≤ 32) : ∀ c ∈ splitChunks hdr s, c.length = 32 := by
  intro c hc
  simp only [splitChunks, List.mem_cons] at hc
  rcases hc with rfl | hc
  · simp [padTo]; omega
  · exact chunks32_length _ _ c hc

@[simp] theorem hasStart_mkEvent (ts tid eid q : Nat) (d : Bytes) :
    hasStart (mkEvent ts tid eid q d) = decide (q &&& 1 ≠ 0) := rfl

@[simp] theorem hasEnd_mkEvent (ts tid eid q : Nat) (d : Bytes) :
    hasEnd (mkEvent ts tid eid q d) = decide (q &&& 2 ≠ 0) := rfl

@[simp] theorem mkEvent_data (ts tid eid q : Nat) (d : Bytes) : (mkEvent ts tid eid q d).data = d := rfl
@[simp] theorem mkEvent_values (ts tid eid q : Nat) (d : Bytes) : (mkEvent ts tid eid q d).values = words d := rfl
@[simp] theorem mkEvent_eventid (ts tid eid q : Nat) (d : Bytes) : (mkEvent ts tid eid q d).eventid = eid := rfl
@[simp] theorem mkEvent_tid (ts tid eid q : Nat) (d : Bytes) : (mkEvent ts tid eid q d).tid = tid := rfl
@[simp] theorem mkEvent_qual (ts tid eid q : Nat) (d : Bytes) : (mkEvent ts tid eid q d).qual = q := rfl

theorem vnodeGen_cons (dec : Bytes → Except PyErr String) (e : Kevent) (rest : List Kevent)
    (path : Bytes) (vid : Nat) (evs : List Kevent) :
    vnodeGen dec (e :: rest) path vid evs =
      let vid' := if hasStart e then (e.values[0]?).getD 0 else vid
      let path' := if hasStart e then path ++ e.data.drop 8 else path ++ e.data
      if hasEnd e then do
        let s ← dec (stripNul path')
        let more ← vnodeGen dec rest [] 0 []
        pure (⟨evs ++ [e], vid', s⟩ :: more)
      else vnodeGen dec rest path' vid' (evs ++ [e]) := by
  rw [vnodeGen]
  cases hasStart e <;> rfl

theorem vnodeGen_tail (dec : Bytes → Except PyErr String) (tid eid : Nat) (ts : Nat → Nat)
    (cs : List Bytes) (hne : cs ≠ []) (i : Nat) (rest : List Kevent) (path : Bytes) (vid : Nat)
    (evs : List Kevent) :
    vnodeGen dec (tagFrom tid eid ts i false cs ++ rest) path vid evs =
      (do let s ← dec (stripNul (path ++ cs.flatten))
          let more ← vnodeGen dec rest [] 0 []
          pure (⟨evs ++ tagFrom tid eid ts i false cs, vid, s⟩ :: more)) := by
  induction cs generalizing i path evs with
  | nil => exact absurd rfl hne
  | cons c cs ih =>
    cases cs with
    | nil => simp [tagFrom, vnodeGen_cons]
    | cons c' cs => simp [tagFrom, vnodeGen_cons, ih]

/-- One encoded text (any header length handled by the caller: the first record contributes
    `data[8:]`), followed by anything. -/
theorem vnodeGen_chunks (dec : Bytes → Except PyErr String) (tid eid : Nat) (ts : Nat → Nat)
    (c : Bytes) (cs : List Bytes) (rest : List Kevent) :
    vnodeGen dec (chunkEvents tid eid ts (c :: cs) ++ rest) [] 0 [] =
      (do let s ← dec (stripNul (c.drop 8 ++ cs.flatten))
          let more ← vnodeGen dec rest [] 0 []
          pure (⟨chunkEvents tid eid ts (c :: cs), leNat (c.take 8), s⟩ :: more)) := by
  cases cs with
  | nil => simp [chunkEvents, tagFrom, vnodeGen_cons, words]
  | cons c' cs => simp [chunkEvents, tagFrom, vnodeGen_cons, vnodeGen_tail, words]

/-- One turn of the loop of `handle_trace_string_global`, with the `if`s of the START bit pushed into the values. -/
theorem globalLoop_cons (own : Nat) (x : Kevent) (xs : List Kevent) (d sd : Nat) (v : Bytes) (evs : List Kevent) :
    globalLoop own (x :: xs) d sd v evs =
      if x.eventid ≠ own then globalLoop own xs d sd v evs
      else if hasEnd x then
        (if hasStart x then arg x 0 else d, if hasStart x then arg x 1 else sd,
         if hasStart x then v ++ x.data.drop 16 else v ++ x.data, evs ++ [x])
      else globalLoop own xs (if hasStart x then arg x 0 else d) (if hasStart x then arg x 1 else sd)
        (if hasStart x then v ++ x.data.drop 16 else v ++ x.data) (evs ++ [x]) := by
  cases hs : hasStart x <;> simp [globalLoop, hs]

theorem globalLoop_filter (own : Nat) (l : List Kevent) (dbg sid : Nat) (vstr : Bytes) (evs : List Kevent) :
    globalLoop own l dbg sid vstr evs =
      globalLoop own (l.filter fun e => e.eventid == own) dbg sid vstr evs := by
  induction l generalizing dbg sid vstr evs with
  | nil => rfl
  | cons e rest ih =>
    rw [List.filter_cons]
    by_cases hown : e.eventid = own
    · rw [if_pos (beq_iff_eq.2 hown), globalLoop_cons, globalLoop_cons own e (rest.filter _)]
      simp only [ih]
    · rw [if_neg (by simpa using hown), globalLoop_cons, if_pos hown]
      exact ih _ _ _ _

theorem globalLoop_tail (tid eid : Nat) (ts : Nat → Nat) (cs : List Bytes) (hne : cs ≠ []) (i : Nat)
    (rest : List Kevent) (dbg sid : Nat) (vstr : Bytes) (evs : List Kevent) :
    globalLoop eid (tagFrom tid eid ts i false cs ++ rest) dbg sid vstr evs =
      (dbg, sid, vstr ++ cs.flatten, evs ++ tagFrom tid eid ts i false cs) := by
  induction cs generalizing i vstr evs with
  | nil => exact absurd rfl hne
  | cons c cs ih =>
    cases cs with
    | nil => simp [tagFrom, globalLoop_cons]
    | cons c' cs => simp [tagFrom, globalLoop_cons, ih]

theorem globalLoop_chunks (tid eid : Nat) (ts : Nat → Nat) (c : Bytes) (cs : List Bytes) (rest : List Kevent) :
    globalLoop eid (chunkEvents tid eid ts (c :: cs) ++ rest) 0 0 [] [] =
      (leNat (c.take 8), leNat ((c.drop 8).take 8), c.drop 16 ++ cs.flatten, chunkEvents tid eid ts (c :: cs)) := by
  cases cs with
  | nil => simp [chunkEvents, tagFrom, globalLoop_cons, words, arg]
  | cons c' cs => simp [chunkEvents, tagFrom, globalLoop_cons, globalLoop_tail, words, arg]

def dataOf (l : List Kevent) : Bytes := (l.map (·.data)).flatten

theorem joinData_eq (w : List Kevent) :
    joinData w = dataOf (w.filter fun e => e.eventid == (firstOf w).eventid) := rfl

theorem tagFrom_cons (tid eid : Nat) (ts : Nat → Nat) (i : Nat) (first : Bool) (c : Bytes) (cs : List Bytes) :
    tagFrom tid eid ts i first (c :: cs) =
      mkEvent (ts i) tid eid ((if first then 1 else 0) + if cs.isEmpty then 2 else 0) c ::
        tagFrom tid eid ts (i + 1) false cs := by
  cases cs <;> rfl

theorem dataOf_tagFrom (tid eid : Nat) (ts : Nat → Nat) (cs : List Bytes) (i : Nat) (first : Bool) :
    dataOf (tagFrom tid eid ts i first cs) = cs.flatten := by
  induction cs generalizing i first with
  | nil => rfl
  | cons c cs ih =>
    have := ih (i + 1) false
    simp only [dataOf] at this
    simp [tagFrom_cons, dataOf, this]

theorem tagFrom_length (tid eid : Nat) (ts : Nat → Nat) (cs : List Bytes) (i : Nat) (first : Bool) :
    (tagFrom tid eid ts i first cs).length = cs.length := by
  induction cs generalizing i first with
  | nil => rfl
  | cons c cs ih => rw [tagFrom_cons, List.length_cons, List.length_cons, ih]

theorem mem_tagFrom {tid eid : Nat} {ts : Nat → Nat} {cs : List Bytes} {i : Nat} {first : Bool} {x : Kevent}
    (h : x ∈ tagFrom tid eid ts i first cs) : ∃ j q c, x = mkEvent (ts j) tid eid q c := by
  induction cs generalizing i first with
  | nil => cases h
  | cons c cs ih =>
    rw [tagFrom_cons, List.mem_cons] at h
    rcases h with rfl | h
    · exact ⟨_, _, _, rfl⟩
    · exact ih h

theorem tagFrom_qual {tid eid : Nat} {ts : Nat → Nat} {cs : List Bytes} {i : Nat} {first : Bool} {a b : List Kevent}
    {x : Kevent} (h : tagFrom tid eid ts i first cs = a ++ x :: b) :
    x.qual = (if first = true ∧ a = [] then 1 else 0) + (if b = [] then 2 else 0) := by
  induction cs generalizing i first a with
  | nil => cases a <;> cases h
  | cons c cs ih =>
    rw [tagFrom_cons] at h
    cases a with
    | nil =>
      obtain ⟨rfl, rfl⟩ := List.cons.inj h
      cases cs <;> cases first <;> simp [tagFrom_cons, tagFrom]
    | cons y a =>
      simpa using ih (List.cons.inj h).2

end KdVerif.Reassembly
