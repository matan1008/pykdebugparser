import KdVerif.Model.PyIRTp
import KdVerif.Model.Pipeline
import KdVerif.Spec.PyIRTpExpected
import KdVerif.Proofs.PyIR
import KdVerif.Model.TracePipeline
/-
  Lemmas of the translation tie of `TracesParser.feed_generator` / `__init__` (`Model/PyIRTp`): the expected terms
  (`Spec/PyIRTpExpected`), interpreted, are the pipeline model `feedGen` and the initial state of the hand models.
-/
namespace KdVerif.PyIRTp
open KdVerif.PyIR

theorem feedGen_err {σ ε τ : Type} (feed : σ → ε → Except PyErr (σ × Option τ)) (es : List ε) :
    ∀ s, (feedGen feed s es).2 = errOf (finalState feed s es) := by
  induction es with
  | nil => intro s; rfl
  | cons e es ih =>
    intro s
    simp only [feedGen, finalState]
    cases feed s e with
    | error x => rfl
    | ok p => obtain ⟨s', o⟩ := p; exact ih s'

theorem exec_forIn (feed : World → Kevent → Except PyErr (Val × World)) (v : Nat) (it : GExpr) (body next : GStmt)
    (env : GEnv) (w : World) :
    execG feed (.forIn v it body next) env w =
      match evalG env it with
      | .error x => ([], .error x)
      | .ok (.gen es err) =>
        (match forEvents (fun env w => execG feed body env w) v es env w with
         | (o, .error x) => (o, .error x)
         | (o, .ok (env', w')) =>
           match err with
           | some x => (o, .error x)
           | Option.none => (o ++ (execG feed next env' w').1, (execG feed next env' w').2))
      | .ok (.v .none) => ([], .error .typeError)
      | .ok _ => ([], .error .unmodelled) := by
  rw [execG]; rfl

/-- one round of the loop: `ret = self.feed(event); if ret is not None: yield ret` -/
theorem exec_loopBody (feed : World → Kevent → Except PyErr (Val × World)) (env : GEnv) (w : World) (e : Kevent)
    (h : env 1 = some (.v (.event e))) :
    execG feed Expected.loopBody env w =
      match feed w e with
      | .error x => ([], .error x)
      | .ok (r, w') => (if r = .none then [] else [r], .ok (env.set 2 (.v r), w')) := by
  simp only [Expected.loopBody, execG, evalG, h]
  cases feed w e with
  | error x => rfl
  | ok p =>
    obtain ⟨r, w'⟩ := p
    cases r <;> simp [GEnv.set]

/-- the loop over the events is `feedGen` / `finalState` of `self.feed` -/
theorem forEvents_loop (p : Prog) (cfg : Cfg) (es : List Kevent) : ∀ (env : GEnv) (w : World),
    match finalState (feedStep p cfg) w es with
    | .error x => forEvents (fun env w => execG (PyIR.feed p cfg) Expected.loopBody env w) 1 es env w =
        ((feedGen (feedStep p cfg) w es).1, .error x)
    | .ok w' => ∃ env', forEvents (fun env w => execG (PyIR.feed p cfg) Expected.loopBody env w) 1 es env w =
        ((feedGen (feedStep p cfg) w es).1, .ok (env', w')) := by
  induction es with
  | nil => intro env w; exact ⟨env, rfl⟩
  | cons e rest ih =>
    intro env w
    have hb := exec_loopBody (PyIR.feed p cfg) (env.set 1 (.v (.event e))) w e (by simp [GEnv.set])
    simp only [feedGen, finalState, feedStep, forEvents, hb]
    cases hf : PyIR.feed p cfg w e with
    | error x => simp
    | ok q =>
      obtain ⟨r, w1⟩ := q
      have := ih ((env.set 1 (.v (.event e))).set 2 (.v r)) w1
      simp only []
      cases hr : finalState (feedStep p cfg) w1 rest with
      | error x =>
        rw [hr] at this
        simp only [this]
        by_cases hn : r = .none <;> simp [hn]
      | ok w2 =>
        rw [hr] at this
        obtain ⟨env2, he2⟩ := this
        refine ⟨env2, ?_⟩
        simp only [he2]
        by_cases hn : r = .none <;> simp [hn]

/-- **The expected `feed_generator`, interpreted, is `feedGen` of the translated `feed`** — for every program `p` that
    answers `self.feed`, every event list, every exception of the event generator, every heap; the generator's own
    exception surfaces when everything it delivered was consumed without one. -/
theorem runFeedGen_expected (p : Prog) (cfg : Cfg) (es : List Kevent) (err : Option PyErr) (w : World) :
    runFeedGen p Expected.feedGenerator cfg es err w =
      ((feedGen (feedStep p cfg) w es).1, outcome (finalState (feedStep p cfg) w es) err) := by
  have h := forEvents_loop p cfg es (GEnv.ofArgs [.gen es err]) w
  have hit : evalG (GEnv.ofArgs [.gen es err]) (.var 0) = .ok (.gen es err) := by simp [evalG, GEnv.ofArgs]
  simp only [runFeedGen, Expected.feedGenerator, ne_eq, not_true_eq_false, if_false]
  rw [exec_forIn]
  simp only [hit]
  cases hr : finalState (feedStep p cfg) w es with
  | error x =>
    rw [hr] at h
    rw [h]
    rfl
  | ok w' =>
    rw [hr] at h
    obtain ⟨env', he⟩ := h
    rw [he]
    cases err <;> simp [outcome, execG]

/-- feeding a history event by event (`PyIR.runFrom`) and through the generator deliver the same values: the generator
    drops the `None`s -/
theorem feedGen_of_runFrom (p : Prog) (cfg : Cfg) (es : List Kevent) : ∀ (w : World) (vs : List Val) (w' : World),
    PyIR.runFrom p cfg w es = .ok (vs, w') →
      (feedGen (feedStep p cfg) w es).1 = vs.filter (fun v => decide (v ≠ .none)) ∧
      finalState (feedStep p cfg) w es = .ok w' := by
  induction es with
  | nil =>
    intro w vs w' h
    simp only [PyIR.runFrom, Except.ok.injEq, Prod.mk.injEq] at h
    simp [feedGen, finalState, ← h.1, ← h.2]
  | cons e rest ih =>
    intro w vs w' h
    simp only [PyIR.runFrom] at h
    cases hf : PyIR.feed p cfg w e with
    | error x => simp [hf] at h
    | ok q =>
      obtain ⟨v, w1⟩ := q
      simp only [hf] at h
      cases hr : PyIR.runFrom p cfg w1 rest with
      | error x => simp [hr] at h
      | ok q2 =>
        obtain ⟨vs2, w2⟩ := q2
        simp only [hr, Except.ok.injEq, Prod.mk.injEq] at h
        obtain ⟨h1, h2⟩ := h
        subst h1 h2
        simp only [feedGen, finalState, feedStep, hf, ih w1 vs2 w2 hr]
        by_cases hn : v = .none <;> simp [hn]

/-- the object the expected constructor builds from three arguments -/
def expectedObj : Obj :=
  { attrs := [(.traceCodes, .arg 0), (.onGoingEvents, .fresh 0), (.onGoingTraces, .fresh 1), (.globalStrings, .fresh 2),
              (.threadsPids, .arg 1), (.pidsNames, .arg 2), (.tidsNames, .fresh 3), (.lastDataNewthread, .fresh 4),
              (.lastDataExec, .fresh 5), (.handlers, .fresh 6)]
    made := 7
    updates := [.bsd, .dyld, .fsystem, .mach, .perf, .trace, .turnstile] }

theorem runInit_expected : runInit Expected.init 3 = .ok expectedObj := by rfl

/-- The context tables (`Trace.Tabs`, shared by the handlers, the container parser and the formatter) of the new parser,
    given the CONTENTS `tp` / `pn` of the caller's second and third argument: defined when `threads_pids` / `pids_names`
    ARE those two objects (so the parser reads and writes the caller's tables) and `tids_names`, `global_strings`,
    `last_data_newthread`, `last_data_exec` are four different dicts made by the constructor, different from the two window
    tables — then the four start empty. -/
def Obj.tabs (o : Obj) (tp : Trace.Dict Nat) (pn : Trace.Dict String) : Option Trace.Tabs :=
  match o.get .threadsPids, o.get .pidsNames,
    o.freshOf [.tidsNames, .globalStrings, .lastDataNewthread, .lastDataExec, .onGoingEvents, .onGoingTraces] with
  | some (.arg 1), some (.arg 2), some ns =>
    if ns.Nodup then
      some { threadsPids := tp, pidsNames := pn, tidsNames := [], globalStrings := [], pendingNewthread := [],
             pendingExec := [] }
    else Option.none
  | _, _, _ => Option.none

/-- The whole-parser state of `Model/Trace` the new object is: pairing tables from the heap, context tables as above. -/
def Obj.state (o : Obj) (tp : Trace.Dict Nat) (pn : Trace.Dict String) : Option Trace.PState :=
  match o.world, o.tabs tp pn with
  | some w, some t => some { pairing := PyIR.abs w, tabs := t }
  | _, _ => Option.none

theorem expectedObj_world : expectedObj.world = some World.empty := by rfl

theorem expectedObj_tabs (tp : Trace.Dict Nat) (pn : Trace.Dict String) :
    expectedObj.tabs tp pn = some { threadsPids := tp, pidsNames := pn } := by rfl

theorem expectedObj_state (tp : Trace.Dict Nat) (pn : Trace.Dict String) :
    expectedObj.state tp pn = some { pairing := Pairing.PState.empty, tabs := { threadsPids := tp, pidsNames := pn } } := by
  simp only [Obj.state, expectedObj_world, expectedObj_tabs, PyIR.abs_empty]

end KdVerif.PyIRTp
