import KdVerif.Proofs.ReassemblyHandlers
/-
  C08 lemmas: several lookups inside one syscall window (`parse_vnodes`, the second-phase lookup
  `[e for e in events if e not in first.ktraces]`, `mkWindow`).
-/
namespace KdVerif.Reassembly
open KdVerif.Trace KdVerif.IR

/-- The `Vnode`s the lookups should reassemble to, given their decoded texts. -/
def vnodesOf (tid eid : Nat) : List LookupSpec → List String → List Vnode
  | l :: ls, s :: ss => ⟨lookupEvents tid eid l.ts l.vnode l.path, l.vnode, s⟩ :: vnodesOf tid eid ls ss
  | _, _ => []

/-- What the decoders see of them. -/
def lookupsOf : List LookupSpec → List String → List Lookup
  | l :: ls, s :: ss => ⟨s, l.vnode⟩ :: lookupsOf ls ss
  | _, _ => []

def Decoded (dec : Bytes → Except PyErr String) : List LookupSpec → List String → Prop
  | [], [] => True
  | l :: ls, s :: ss => dec l.path = .ok s ∧ Decoded dec ls ss
  | _, _ => False

def GoodSpecs (ls : List LookupSpec) : Prop := ∀ l ∈ ls, l.vnode < 2 ^ 64 ∧ NulFree l.path

theorem vnodesOf_map (tid eid : Nat) (ls : List LookupSpec) (ss : List String) :
    (vnodesOf tid eid ls ss).map (fun v => (⟨v.path, v.vnodeId⟩ : Lookup)) = lookupsOf ls ss := by
  induction ls generalizing ss with
  | nil => cases ss <;> rfl
  | cons l ls ih =>
    cases ss with
    | nil => rfl
    | cons s ss => simp only [vnodesOf, lookupsOf, List.map_cons, ih]

theorem vnodeGen_encodeLookups (dec : Bytes → Except PyErr String) (tid eid : Nat) (ls : List LookupSpec)
    (ss : List String) (hg : GoodSpecs ls) (hd : Decoded dec ls ss) :
    vnodeGen dec (encodeLookups tid eid ls) [] 0 [] = .ok (vnodesOf tid eid ls ss) := by
  induction ls generalizing ss with
  | nil =>
    cases ss with
    | nil => rfl
    | cons s ss => exact absurd hd (by simp [Decoded])
  | cons l ls ih =>
    cases ss with
    | nil => exact absurd hd (by simp [Decoded])
    | cons s ss =>
      obtain ⟨h1, h2⟩ := hd
      obtain ⟨hv, hp⟩ := hg l (by simp)
      simp only [encodeLookups]
      rw [vnodeGen_lookupEvents dec tid eid l.ts l.vnode l.path hv hp, h1,
        ih ss (fun x hx => hg x (by simp [hx])) h2]
      rfl

/-- Removing the records of the first lookup (by VALUE, as `e not in old.ktraces` does) leaves the later
    lookups' records, provided none of those is value-equal to a record of the first. -/
theorem filter_not_first (first rest : List Kevent) (hne : ∀ e ∈ rest, e ∉ first) :
    (first ++ rest).filter (fun e => !first.contains e) = rest := by
  rw [List.filter_append, List.filter_eq_nil_iff.2 fun e he => by simp [he],
    List.filter_eq_self.2 fun e he => by simp [hne e he], List.nil_append]

theorem filter_comm' {α : Type} (p q : α → Bool) (l : List α) :
    (l.filter p).filter q = (l.filter q).filter p := by
  simp only [List.filter_filter, Bool.and_comm]

/-- `mkWindow` on a window whose lookup records are the encoded lookups `ls` (anything else may sit anywhere
    in between): `lookups` are the decoded paths with their vnode ids in lookup order; `restFirst` is the
    second of them, PROVIDED no record of a later lookup is value-equal to a record of the first (K5). -/
theorem mkWindow_encoded (env : Env) (tabs : Tabs) (events : List Kevent) (tid eid : Nat)
    (ls : List LookupSpec) (ss : List String) (hg : GoodSpecs ls) (hd : Decoded env.dec ls ss)
    (hev : events.filter (isLookup env) = encodeLookups tid eid ls)
    (hk5 : ∀ l rest, ls = l :: rest →
      ∀ e ∈ encodeLookups tid eid rest, e ∉ lookupEvents tid eid l.ts l.vnode l.path) :
    ∃ W, mkWindow env tabs events = .ok W ∧ W.lookups = lookupsOf ls ss ∧
      W.restFirst = (lookupsOf ls ss)[1]? ∧
      W.startArgs = (firstOf events).values ∧ W.endArgs = (lastOf events).values ∧
      W.startTid = (firstOf events).tid ∧ W.startData = (firstOf events).data := by
  have hpv : parseVnodes env events = .ok (vnodesOf tid eid ls ss) := by
    unfold parseVnodes; rw [hev]; exact vnodeGen_encodeLookups env.dec tid eid ls ss hg hd
  unfold mkWindow
  simp only [hpv, if_true, bind, Except.bind, pure, Except.pure]
  refine ⟨_, rfl, vnodesOf_map tid eid ls ss, ?_, rfl, rfl, rfl, rfl⟩
  cases ls with
  | nil => cases ss <;> rfl
  | cons l ls =>
    cases ss with
    | nil => rfl
    | cons s ss =>
      obtain ⟨_, h2⟩ := hd
      have hrest : parseVnodes env (events.filter fun e => !(lookupEvents tid eid l.ts l.vnode l.path).contains e) =
          .ok (vnodesOf tid eid ls ss) := by
        unfold parseVnodes
        rw [filter_comm', hev]
        simp only [encodeLookups]
        rw [filter_not_first _ _ (hk5 l ls rfl)]
        exact vnodeGen_encodeLookups env.dec tid eid ls ss (fun x hx => hg x (by simp [hx])) h2
      simp only [vnodesOf, hrest, Except.toOption, Option.getD_some]
      cases ls <;> cases ss <;> rfl

end KdVerif.Reassembly
