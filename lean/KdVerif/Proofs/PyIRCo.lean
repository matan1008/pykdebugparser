import KdVerif.Spec.PyIRCoExpected
import KdVerif.Proofs.TraceTotal
import KdVerif.Proofs.TraceProjection
/-
  The expected IR of the composite handlers (`Spec/PyIRCoExpected`), run by the interpreter of `Model/PyIRCo`, is
  `Trace.hPerfThdData`, `Trace.hPerfEvent`, `Trace.hMachVmfault`, `Trace.hDyldLaunch` of the hand model — for every `Env`
  (any code table, any enum tables, any `bytes.decode`), every meaning of the nested `parse_event_list`, all tables and
  every non-empty window of four-word records: same trace (key, `ktraces`, `str()`, payload), same tables afterwards, same
  exception.  Then: `runVia Expected.progs = Trace.run` on four-word records, from a state whose pending records are
  four-word too (`runVia_eq`).
-/
namespace KdVerif.PyIRCo
open KdVerif.Trace

theorem toString_str (s : String) : toString s = s := rfl

theorem tabs_same_self (t : Tabs) : t.same t = true := by
  simp [Tabs.same, Dict.same]

theorem runHandler_eq {P : Program} {key f : String} {body : Stmt} (hk : P.handlers.lookup key = some f)
    (hf : P.funs.find? (·.name == f) = some ⟨f, body⟩) (env : Env) (nested : NestedFn) (t : Tabs) (events : List Kevent) :
    runHandler P env nested key t events = runBody P env nested key body t events := by
  simp only [runHandler, runHandler?, hk, hf, Option.getD_some]

/-- `v is not None` -/
def notNone : Val → Bool
  | .none => false
  | _ => true

theorem evalSCond_isNotNone {P : Program} {cls : String} {k : List Kevent} {fs : List Val} {n : String} {v : Val}
    (h : objAttr P cls k fs n = .ok v) : evalSCond P cls k fs (.isNotNone n) = .ok (notNone v) := by
  simp only [evalSCond, h]
  cases v <;> rfl

theorem objAttr_field {P : Program} {cls name : String} {c : ClassDef} (hc : findClass P cls = some c) (i : Nat)
    (hi : (name != "ktraces" && fieldIdx c name == some i) = true) {l : List Kevent} {fs : List Val} :
    objAttr P cls l fs name = match fs[i]? with | some v => .ok v | none => .error .unmodelled := by
  simp only [Bool.and_eq_true, bne_iff_ne, ne_eq, beq_iff_eq] at hi
  have hn : (name == "ktraces") = false := by simpa using hi.1
  simp only [objAttr, hn, hc, hi.2, Bool.false_eq_true, if_false]
  cases fs[i]? <;> rfl

theorem mkObj_eq {P : Program} {cls : String} {c : ClassDef} (hc : findClass P cls = some c) {l : List Kevent}
    {args : List Val} (ds : List Val) (hlen : args.length ≤ c.fields.length) (hd : defaultsOf (c.fields.drop args.length) = .ok ds) :
    mkObj P cls l args = .ok (.obj cls l (args ++ ds)) := by
  simp only [mkObj, hc, Nat.not_lt.mpr hlen, if_false, hd]

attribute [local simp] exec eval evalArgs truthy Locals.set Except.bind

theorem attrOf_obj (P : Program) (c : String) (k : List Kevent) (fs : List Val) (n : String) :
    attrOf P (.obj c k fs) n = objAttr P c k fs n := rfl
theorem attrOf_kevent (P : Program) (x : Kevent) (n : String) : attrOf P (.kevent x) n = keventAttr x n := rfl
theorem attrOf_trace (P : Program) (o : TraceOut) (n : String) : attrOf P (.trace o) n = traceAttr o n := rfl

theorem keventAttr_values (e : Kevent) : keventAttr e "values" = .ok (.words e.values) := by simp [keventAttr]
theorem keventAttr_data (e : Kevent) : keventAttr e "data" = .ok (.bytes e.data) := by simp [keventAttr]

section perf
variable (env : Env) (nested : NestedFn) (t : Tabs)

/-! A lookup by name in `Expected.perf` … is answered with `Composite.find?_eq_of_first`: the position is given and the
  kernel confirms that no earlier entry has the name. -/

theorem fun_thdData :
    Expected.perf.funs.find? (·.name == "handle_thd_data") = some ⟨"handle_thd_data", Expected.handleThdData⟩ :=
  Composite.find?_eq_of_first 1 rfl (by decide +kernel)
theorem fun_stkUdata :
    Expected.perf.funs.find? (·.name == "handle_stk_udata") = some ⟨"handle_stk_udata", Expected.handleStkUdata⟩ :=
  Composite.find?_eq_of_first 3 rfl (by decide +kernel)
theorem fun_stkUhdr :
    Expected.perf.funs.find? (·.name == "handle_stk_uhdr") = some ⟨"handle_stk_uhdr", Expected.handleStkUhdr⟩ :=
  Composite.find?_eq_of_first 4 rfl (by decide +kernel)

theorem cls_event : findClass Expected.perf "PerfEvent" = some Expected.clsPerfEvent :=
  Composite.find?_eq_of_first 0 rfl (by decide +kernel)
theorem cls_thdData : findClass Expected.perf "PerfThdData" = some Expected.clsPerfThdData :=
  Composite.find?_eq_of_first 1 rfl (by decide +kernel)
theorem cls_stkUdata : findClass Expected.perf "PerfStkUdata" = some Expected.clsPerfStkUdata :=
  Composite.find?_eq_of_first 3 rfl (by decide +kernel)
theorem cls_stkUhdr : findClass Expected.perf "PerfStkUhdr" = some Expected.clsPerfStkUhdr :=
  Composite.find?_eq_of_first 4 rfl (by decide +kernel)

theorem eval_word (P : Program) (e : Kevent) (rest : List Kevent) (st : St) (k x : Nat) (h : e.values[k]? = some x) :
    eval P env (e :: rest) st (Expected.word k) = .ok (.int x) := by
  simp [Expected.word, Expected.first, attrOf, keventAttr_values, h]

theorem eval_word4 (P : Program) (e : Kevent) (rest : List Kevent) (st : St) (h4 : e.values.length = 4) (k : Nat) (hk : k < 4) :
    eval P env (e :: rest) st (Expected.word k) = .ok (.int (arg e k)) :=
  eval_word env P e rest st k _ (by simp [arg, h4, hk])

section mkObj
variable (l : List Kevent) (a b c d : Val)
theorem mkObj_thdData : mkObj Expected.perf "PerfThdData" l [a, b, c, d] = .ok (.obj "PerfThdData" l [a, b, c, d]) :=
  mkObj_eq cls_thdData [] (Nat.le_refl 4) rfl
theorem mkObj_event : mkObj Expected.perf "PerfEvent" l [a, b] = .ok (.obj "PerfEvent" l [a, b, .none, .none, .none]) :=
  mkObj_eq cls_event _ (Nat.le_add_right 2 3) rfl
theorem mkObj_stkUhdr : mkObj Expected.perf "PerfStkUhdr" l [a, b] = .ok (.obj "PerfStkUhdr" l [a, b]) :=
  mkObj_eq cls_stkUhdr [] (Nat.le_refl 2) rfl
theorem mkObj_stkUdata : mkObj Expected.perf "PerfStkUdata" l [a] = .ok (.obj "PerfStkUdata" l [a]) :=
  mkObj_eq cls_stkUdata [] (Nat.le_refl 1) rfl
end mkObj

/-- what `handle_thd_data` returns for the window `s :: ss` -/
def thdDataObj (env : Env) (s : Kevent) (ss : List Kevent) : Val :=
  .obj "PerfThdData" (s :: ss) [.int (arg s 0), .int (arg s 1), .int (arg s 2),
    .members "KperfTiState" (enumNamesOf env "KperfTiState" (arg s 3 &&& 0xffff))]

theorem exec_thdData (call : CallFn) (s : Kevent) (ss : List Kevent) (h4 : s.values.length = 4) :
    exec Expected.perf env nested call (s :: ss) Expected.handleThdData { loc := Locals.empty, tabs := t } =
      (.ret (thdDataObj env s ss), { loc := Locals.empty.set 0 (thdDataObj env s ss),
                                     tabs := { t with threadsPids := t.threadsPids.set (arg s 1) (arg s 0) } }) := by
  simp [Expected.handleThdData, eval_word4, h4, tableSet, mkObj_thdData, thdDataObj]

section attrs
variable (l : List Kevent) (a b c d f : Val)

theorem attr_thdData_pid : objAttr Expected.perf "PerfThdData" l [a, b, c, d] "pid" = .ok a :=
  objAttr_field cls_thdData 0 (by decide +kernel)
theorem attr_thdData_tid : objAttr Expected.perf "PerfThdData" l [a, b, c, d] "tid" = .ok b :=
  objAttr_field cls_thdData 1 (by decide +kernel)
theorem attr_thdData_dqAddr : objAttr Expected.perf "PerfThdData" l [a, b, c, d] "dq_addr" = .ok c :=
  objAttr_field cls_thdData 2 (by decide +kernel)
theorem attr_thdData_runmode : objAttr Expected.perf "PerfThdData" l [a, b, c, d] "runmode" = .ok d :=
  objAttr_field cls_thdData 3 (by decide +kernel)

theorem attr_event_sampleWhat : objAttr Expected.perf "PerfEvent" l [a, b, c, d, f] "sample_what" = .ok a :=
  objAttr_field cls_event 0 (by decide +kernel)
theorem attr_event_actionid : objAttr Expected.perf "PerfEvent" l [a, b, c, d, f] "actionid" = .ok b :=
  objAttr_field cls_event 1 (by decide +kernel)
theorem attr_event_thInfo : objAttr Expected.perf "PerfEvent" l [a, b, c, d, f] "th_info" = .ok c :=
  objAttr_field cls_event 2 (by decide +kernel)
theorem attr_event_csFlags : objAttr Expected.perf "PerfEvent" l [a, b, c, d, f] "cs_flags" = .ok d :=
  objAttr_field cls_event 3 (by decide +kernel)
theorem attr_event_csFrames : objAttr Expected.perf "PerfEvent" l [a, b, c, d, f] "cs_frames" = .ok f :=
  objAttr_field cls_event 4 (by decide +kernel)

theorem attr_uhdr_flags : objAttr Expected.perf "PerfStkUhdr" l [a, b] "flags" = .ok a :=
  objAttr_field cls_stkUhdr 0 (by decide +kernel)
theorem attr_uhdr_nframes : objAttr Expected.perf "PerfStkUhdr" l [a, b] "nframes" = .ok b :=
  objAttr_field cls_stkUhdr 1 (by decide +kernel)
theorem attr_udata_frames : objAttr Expected.perf "PerfStkUdata" l [a] "frames" = .ok a :=
  objAttr_field cls_stkUdata 0 (by decide +kernel)

end attrs

/-- `str()` of a `PerfThdData` object -/
theorem render_thdData (l : List Kevent) (a b c : Nat) (names : List String) :
    renderObj Expected.perf "PerfThdData" l [.int a, .int b, .int c, .members "KperfTiState" names] =
      .ok s!"PERF_THD_Data, pid: {a}, tid: {b}, dq_addr: {pyHex c}, runmode: {" | ".intercalate names}" := by
  simp only [renderObj, cls_thdData, Expected.clsPerfThdData, renderPieces, renderPiece, attr_thdData_pid, attr_thdData_tid,
    attr_thdData_dqAddr, attr_thdData_runmode, fmtVal, execS, String.append_assoc, toString_str, String.append_empty]

theorem extra_thdData (l : List Kevent) (fs : List Val) : extraOf Expected.perf "PerfThdData" l fs = .ok .none := by
  simp [extraOf]

theorem run_thdData (e : Kevent) (rest : List Kevent) (h4 : e.values.length = 4) :
    runHandler Expected.perf env nested "PERF_THD_Data" t (e :: rest) = hPerfThdData env t (e :: rest) := by
  rw [runHandler_eq (by decide +kernel) fun_thdData, runBody, exec_thdData env nested t _ e rest h4]
  simp only [finish, thdDataObj, extra_thdData, render_thdData, hPerfThdData, firstOf, List.head?_cons, Option.getD_some, mk]

theorem call_thdData (s : Kevent) (ss : List Kevent) (h4 : s.values.length = 4) :
    callFuel Expected.perf env nested callDepth "handle_thd_data" (s :: ss) t =
      (.ok (thdDataObj env s ss), { t with threadsPids := t.threadsPids.set (arg s 1) (arg s 0) }) := by
  simp only [callDepth, callFuel, fun_thdData, exec_thdData env nested t _ s ss h4]

theorem call_uhdr (s : Kevent) (ss : List Kevent) (h4 : s.values.length = 4) :
    callFuel Expected.perf env nested callDepth "handle_stk_uhdr" (s :: ss) t =
      (.ok (.obj "PerfStkUhdr" (s :: ss) [.members "CallstackFlag" (enumNamesOf env "CallstackFlag" (arg s 0)),
          .int (arg s 1)]), t) := by
  simp [callDepth, callFuel, fun_stkUhdr, Expected.handleStkUhdr, eval_word4, h4, mkObj_stkUhdr]

theorem call_udata (x : Kevent) :
    callFuel Expected.perf env nested callDepth "handle_stk_udata" [x] t =
      (.ok (.obj "PerfStkUdata" [x] [.words x.values]), t) := by
  simp [callDepth, callFuel, fun_stkUdata, Expected.handleStkUdata, Expected.first, attrOf, keventAttr_values, mkObj_stkUdata]

/-- `[handle_stk_udata(parser, [ev]).frames for ev in l]` -/
theorem mapLoop_udata (l : List Kevent) :
    mapLoop (callFuel Expected.perf env nested callDepth "handle_stk_udata") (fun r => attrOf Expected.perf r "frames") l t =
      (.ok (l.map fun x => Val.words x.values), t) := by
  induction l with
  | nil => rfl
  | cons x xs ih => simp only [mapLoop, call_udata, attrOf_obj, attr_udata_frames, ih, List.map_cons]

theorem chainWords_words (l : List Kevent) :
    chainWords (l.map fun x => Val.words x.values) = some ((l.map (·.values)).flatten) := by
  induction l with
  | nil => rfl
  | cons x xs ih => simp [chainWords, ih]

def EvInv (st : St) (evs : List Kevent) (what : List String) (a : Nat) (th fl fr : Val) : Prop :=
  st.loc 0 = some (.obj "PerfEvent" evs [.members "SamplerAction" what, .int a, th, fl, fr])

theorem fieldIdx_event_thInfo : (findClass Expected.perf "PerfEvent").bind (fieldIdx · "th_info") = some 2 := by
  decide +kernel
theorem fieldIdx_event_csFlags : (findClass Expected.perf "PerfEvent").bind (fieldIdx · "cs_flags") = some 3 := by
  decide +kernel
theorem fieldIdx_event_csFrames : (findClass Expected.perf "PerfEvent").bind (fieldIdx · "cs_frames") = some 4 := by
  decide +kernel

theorem evalCond_sampled (events : List Kevent) (st : St) (what : List String) (a : Nat) (th fl fr : Val) (m : String)
    (hi : EvInv st events what a th fl fr) :
    evalCond Expected.perf env events st (Expected.sampled m) = .ok (what.contains m) := by
  have h0 : st.loc 0 = _ := hi
  simp [evalCond, Expected.sampled, h0, attrOf, attr_event_sampleWhat]

theorem evalCond_namedD (events : List Kevent) (st : St) (n : String) :
    evalCond Expected.perf env events st (Expected.namedD n) = .ok (!(events.filter (namedIs env n)).isEmpty) := by
  simp [evalCond, Expected.namedD]

theorem thInfoOfVal_none : thInfoOfVal Expected.perf .none = some Option.none := rfl

theorem thInfoOfVal_thdData (l : List Kevent) (p q : Nat) (c d : Val) :
    thInfoOfVal Expected.perf (.obj "PerfThdData" l [.int p, .int q, c, d]) = some (some (p, q)) := by
  simp only [thInfoOfVal, attr_thdData_pid, attr_thdData_tid]

/-- the thread-info half of `handle_event`: `th_info` and the tables afterwards are the hand model's pair -/
theorem exec_thInfo (events : List Kevent) (hw : Words4 events) (st : St) (what : List String) (a : Nat) (fl fr : Val)
    (hi : EvInv st events what a .none fl fr) :
    ∃ st' th, exec Expected.perf env nested (callFuel Expected.perf env nested callDepth) events Expected.eventThInfo st =
        (.normal, st') ∧ EvInv st' events what a th fl fr ∧
      (thInfoOfVal Expected.perf th, st'.tabs) = Prod.map some id
        (if what.contains "SAMPLER_TH_INFO" then
          match events.filter (namedIs env "PERF_THD_Data") with
          | s :: _ => (some (arg s 0, arg s 1), { st.tabs with threadsPids := st.tabs.threadsPids.set (arg s 1) (arg s 0) })
          | [] => (none, st.tabs)
         else (none, st.tabs)) := by
  have h0 : st.loc 0 = _ := hi
  have hcnd := evalCond_sampled env events st what a .none fl fr "SAMPLER_TH_INFO" hi
  have hin := evalCond_namedD env events st "PERF_THD_Data"
  simp only [Expected.namedD] at hin
  cases hc : what.contains "SAMPLER_TH_INFO" <;> rw [hc] at hcnd
  · refine ⟨st, .none, ?_, hi, rfl⟩
    simp [Expected.eventThInfo, hcnd]
  · cases hf : events.filter (namedIs env "PERF_THD_Data") with
    | nil =>
      refine ⟨st, .none, ?_, hi, rfl⟩
      simp [Expected.eventThInfo, Expected.namedD, hcnd, hin, hf]
    | cons s ss =>
      have h4 : s.values.length = 4 := hw s (List.mem_filter.mp (hf ▸ List.mem_cons_self)).1
      refine ⟨?_, thdDataObj env s ss, ?h, ?_, ?_⟩
      case h =>
        simp [Expected.eventThInfo, Expected.namedD, hcnd, hin, hf, call_thdData env nested st.tabs s ss h4, h0, fieldIdx_event_thInfo]
        rfl
      · simp [EvInv, thdDataObj]
      · simp only [thdDataObj, thInfoOfVal_thdData]
        rfl

/-- the user-stack half of `handle_event`: `cs_frames` and `cs_flags` are the hand model's pair -/
theorem exec_stack (events : List Kevent) (hw : Words4 events) (st : St) (what : List String) (a : Nat) (th : Val)
    (hi : EvInv st events what a th .none .none) :
    ∃ st' fl fr,
      exec Expected.perf env nested (callFuel Expected.perf env nested callDepth) events Expected.eventStack st =
        (.normal, st') ∧ st'.tabs = st.tabs ∧ EvInv st' events what a th fl fr ∧
      (asOptWords fr, asOptNames fl) = Prod.map some some
        (if what.contains "SAMPLER_USTACK" then
          match events.filter (namedIs env "PERF_STK_UHdr") with
          | h :: _ =>
            (some ((((events.filter (namedIs env "PERF_STK_UData")).map (·.values)).flatten).take (arg h 1)),
             some (enumNamesOf env "CallstackFlag" (arg h 0)))
          | [] => (none, none)
         else (none, none)) := by
  have h0 : st.loc 0 = _ := hi
  have hcnd := evalCond_sampled env events st what a th .none .none "SAMPLER_USTACK" hi
  have hin := evalCond_namedD env events st "PERF_STK_UHdr"
  simp only [Expected.namedD] at hin
  cases hc : what.contains "SAMPLER_USTACK" <;> rw [hc] at hcnd
  · refine ⟨st, .none, .none, ?_, rfl, hi, rfl⟩
    simp [Expected.eventStack, hcnd]
  · cases hf : events.filter (namedIs env "PERF_STK_UHdr") with
    | nil =>
      refine ⟨st, .none, .none, ?_, rfl, hi, rfl⟩
      simp [Expected.eventStack, Expected.namedD, hcnd, hin, hf]
    | cons s ss =>
      have h4 : s.values.length = 4 := hw s (List.mem_filter.mp (hf ▸ List.mem_cons_self)).1
      refine ⟨?_, .members "CallstackFlag" (enumNamesOf env "CallstackFlag" (arg s 0)),
        .words ((((events.filter (namedIs env "PERF_STK_UData")).map (·.values)).flatten).take (arg s 1)),
        ?h, ?_, ?_, rfl⟩
      case h =>
        simp [Expected.eventStack, Expected.namedD, hcnd, hin, hf, call_uhdr env nested st.tabs s ss h4, mapLoop_udata,
          chainWords_words, attrOf_obj, attr_uhdr_flags, attr_uhdr_nframes, h0, fieldIdx_event_csFlags, fieldIdx_event_csFrames]
        rfl
      · rfl
      · simp [EvInv]

/-- `str()` of a `PerfEvent`: `frames count` is shown when `cs_frames` was set -/
theorem render_event (l : List Kevent) (what : List String) (a : Nat) (th fl fr : Val) (frames : Option (List Nat))
    (hfr : asOptWords fr = some frames) :
    renderObj Expected.perf "PerfEvent" l [.members "SamplerAction" what, .int a, th, fl, fr] =
      .ok (match (generalizing := false) frames with
           | some f => s!"PERF_Event, sample_what: {" | ".intercalate what}, actionid: {a}" ++ s!", frames count: {f.length}"
           | none => s!"PERF_Event, sample_what: {" | ".intercalate what}, actionid: {a}") := by
  cases fr <;> cases hfr <;>
    simp only [renderObj, cls_event, Expected.clsPerfEvent, renderPieces, renderPiece, attr_event_sampleWhat,
      attr_event_actionid, attr_event_csFrames, fmtVal, execS, evalSCond, String.append_assoc, toString_str,
      String.append_empty]

theorem extra_event (l : List Kevent) (w a th fl fr : Val) :
    extraOf Expected.perf "PerfEvent" l [w, a, th, fl, fr] =
      match thInfoOfVal Expected.perf th, asOptWords fr, asOptNames fl with
      | some x, some y, some z => .ok (.perf x y z)
      | _, _, _ => .error .unmodelled := by
  simp [extraOf, attr_event_thInfo, attr_event_csFlags, attr_event_csFrames]
  rfl

theorem run_event (e : Kevent) (rest : List Kevent) (hw : Words4 (e :: rest)) :
    runHandler Expected.perf env nested "PERF_Event" t (e :: rest) = hPerfEvent env t (e :: rest) := by
  have h4 : e.values.length = 4 := hw e List.mem_cons_self
  obtain ⟨st2, th, hx1, hi2, hX⟩ := exec_thInfo env nested (e :: rest) hw _
    (enumNamesOf env "SamplerAction" (arg e 0)) (arg e 1) .none .none
    (show EvInv { loc := Locals.empty.set 0 _, tabs := t } _ _ _ _ _ _ from rfl)
  obtain ⟨st3, fl, fr, hx2, ht3, hi3, hY⟩ := exec_stack env nested (e :: rest) hw st2 _ _ th hi2
  obtain ⟨hth, ht2⟩ := Prod.mk.inj hX
  obtain ⟨hfr, hfl⟩ := Prod.mk.inj hY
  have h0 : st3.loc 0 = _ := hi3
  rw [runHandler_eq (by decide +kernel) (Composite.find?_eq_of_first 0 rfl (by decide +kernel)), runBody]
  simp only [Expected.handleEvent, exec, eval, evalArgs, eval_word4, h4, Nat.reduceLT, mkObj_event, hx1, hx2, h0, finish,
    extra_event, hth, hfr, hfl, render_event _ _ _ _ _ _ _ hfr, ht3, ht2, id]
  rfl
end perf

section mach
variable (env : Env) (nested : NestedFn) (t : Tabs)

attribute [local simp] optNat optMembers asOptName asOptNat asOptNames

theorem cls_vmfault : findClass Expected.mach "MachVmfault" = some Expected.clsMachVmfault :=
  Composite.find?_eq_of_first 0 rfl (by decide +kernel)

section attrs
variable (l : List Kevent) (a b c d f g : Val)
theorem attr_vm_addr : objAttr Expected.mach "MachVmfault" l [a, b, c, d, f, g] "addr" = .ok a :=
  objAttr_field cls_vmfault 0 (by decide +kernel)
theorem attr_vm_isKernel : objAttr Expected.mach "MachVmfault" l [a, b, c, d, f, g] "is_kernel" = .ok b :=
  objAttr_field cls_vmfault 1 (by decide +kernel)
theorem attr_vm_result : objAttr Expected.mach "MachVmfault" l [a, b, c, d, f, g] "result" = .ok c :=
  objAttr_field cls_vmfault 2 (by decide +kernel)
theorem attr_vm_faultType : objAttr Expected.mach "MachVmfault" l [a, b, c, d, f, g] "fault_type" = .ok d :=
  objAttr_field cls_vmfault 3 (by decide +kernel)
theorem attr_vm_pid : objAttr Expected.mach "MachVmfault" l [a, b, c, d, f, g] "pid" = .ok f :=
  objAttr_field cls_vmfault 4 (by decide +kernel)
theorem attr_vm_callerProt : objAttr Expected.mach "MachVmfault" l [a, b, c, d, f, g] "caller_prot" = .ok g :=
  objAttr_field cls_vmfault 5 (by decide +kernel)
end attrs

/-- `MachVmfault.__str__` up to the result -/
def vmHead (addr k r : Nat) : String :=
  s!"MachVmfault, addr: {pyHex addr}, is_kernel: {if k = 0 then "False" else "True"}, result: {r}"

theorem fmt_bool (k : Nat) : fmtVal (.bool (k != 0)) = .ok (if k = 0 then "False" else "True") := by
  by_cases h : k = 0
  · simp [h, fmtVal]
  · have hb : (k != 0) = true := by simpa using h
    simp [h, hb, fmtVal]

theorem render_vm_base (l : List Kevent) (addr k r : Nat) (ft pid prot : Val) :
    renderPieces Expected.mach "MachVmfault" l [.int addr, .bool (k != 0), .int r, ft, pid, prot]
      Expected.clsMachVmfault.str.base = .ok (vmHead addr k r) := by
  have hb := fmt_bool k
  unfold vmHead
  generalize (if k = 0 then "False" else "True") = ks at hb ⊢
  simp only [Expected.clsMachVmfault, renderPieces, renderPiece, attr_vm_addr, attr_vm_isKernel, attr_vm_result, hb]
  simp only [fmtVal, String.append_assoc, toString_str, String.append_empty]

/-- `if self.result == 0` -/
theorem vm_resultCond (l : List Kevent) (a b : Val) (r : Nat) (d f g : Val) :
    evalSCond Expected.mach "MachVmfault" l [a, b, .int r, d, f, g] (.eqInt "result" 0) = .ok (r == 0) := by
  simp only [evalSCond, attr_vm_result]

/-- `if self.pid is not None and self.caller_prot is not None` -/
theorem vm_bothCond (l : List Kevent) (a b c d pid prot : Val) :
    evalSCond Expected.mach "MachVmfault" l [a, b, c, d, pid, prot] (.and (.isNotNone "pid") (.isNotNone "caller_prot")) =
      .ok (notNone pid && notNone prot) := by
  rw [evalSCond, evalSCond_isNotNone (attr_vm_pid ..), evalSCond_isNotNone (attr_vm_callerProt ..)]
  cases notNone pid <;> rfl

theorem render_vm_nonzero (l : List Kevent) (addr k r : Nat) (ft pid prot : Val) (hr : r ≠ 0) :
    renderObj Expected.mach "MachVmfault" l [.int addr, .bool (k != 0), .int r, ft, pid, prot] = .ok (vmHead addr k r) := by
  have hb : (r == 0) = false := by simpa using hr
  simp only [renderObj, cls_vmfault, render_vm_base]
  simp only [Expected.clsMachVmfault, execS, vm_resultCond, hb]

theorem render_vm_plain (l : List Kevent) (addr k : Nat) (c ft : String) (pid prot : Val)
    (hp : pid = .none ∨ prot = .none) :
    renderObj Expected.mach "MachVmfault" l [.int addr, .bool (k != 0), .int 0, .member c ft, pid, prot] =
      .ok (vmHead addr k 0 ++ s!", type: {ft}") := by
  have hb : (notNone pid && notNone prot) = false := by
    rcases hp with rfl | rfl
    · rfl
    · exact Bool.and_false _
  simp only [renderObj, cls_vmfault, render_vm_base]
  simp only [Expected.clsMachVmfault, execS, vm_resultCond, vm_bothCond, hb, BEq.rfl,
    renderPieces, renderPiece, attr_vm_faultType, toString_str, String.append_empty]

theorem render_vm_full (l : List Kevent) (addr k : Nat) (c c' ft : String) (pid : Nat) (prot : List String) :
    renderObj Expected.mach "MachVmfault" l [.int addr, .bool (k != 0), .int 0, .member c ft, .int pid, .members c' prot] =
      .ok (vmHead addr k 0 ++ s!", type: {ft}, vm_prot: {" | ".intercalate prot}, pid: {pid}") := by
  simp only [renderObj, cls_vmfault, render_vm_base]
  simp only [Expected.clsMachVmfault, execS, vm_resultCond, vm_bothCond, notNone, Bool.and_self, BEq.rfl,
    renderPieces, renderPiece, attr_vm_faultType, attr_vm_pid, attr_vm_callerProt, fmtVal, toString_str, String.append_assoc,
    String.append_empty]

theorem extra_vm (l : List Kevent) (a b : Val) (r : Nat) (ft pid prot : Val) :
    extraOf Expected.mach "MachVmfault" l [a, b, .int r, ft, pid, prot] =
      match asOptName ft, asOptNat pid, asOptNames prot with
      | some x, some y, some z => .ok (.vmfault r x y z)
      | _, _, _ => .error .unmodelled := by
  simp [extraOf, attr_vm_result, attr_vm_faultType, attr_vm_pid, attr_vm_callerProt]
  rfl

theorem head_eq (addr k r : Nat) :
    s!"MachVmfault, addr: {pyHex addr}, is_kernel: {if k = 0 then "False" else "True"}, result: {r}" = vmHead addr k r := rfl

theorem mkObj_vm (l : List Kevent) (a b c d f g : Val) :
    mkObj Expected.mach "MachVmfault" l [a, b, c, d, f, g] = .ok (.obj "MachVmfault" l [a, b, c, d, f, g]) :=
  mkObj_eq cls_vmfault [] (Nat.le_refl 6) rfl

theorem eval_lastWord (P : Program) (events : List Kevent) (st : St) (l : Kevent) (hl : events.getLast? = some l)
    (h4 : l.values.length = 4) (k : Nat) (hk : k < 4) :
    eval P env events st (Expected.lastWord k) = .ok (.int (arg l k)) := by
  have hv : l.values[k]? = some (arg l k) := by simp [arg, h4, hk]
  simp only [Expected.lastWord, eval, hl, attrOf, keventAttr_values, hv]

/-- `[e for e in events[1:-1] if …]`, then `parser.parse_event_list` on them and the two attribute reads -/
theorem exec_vmfaultReal (call : CallFn) (events : List Kevent) (st : St) :
    exec Expected.mach env nested call events Expected.vmfaultReal st =
      if (realEvents events).isEmpty then (.normal, st) else
      match nested st.tabs (realEvents events) with
      | .error x => (.err x, st)
      | .ok (none, t') => (.normal, { loc := st.loc.set 3 .none, tabs := t' })
      | .ok (some out, t') =>
        match pidProtOf out with
        | .error x => (.err x, { loc := st.loc.set 3 (.trace out), tabs := t' })
        | .ok r => (.normal, { tabs := t', loc := ((st.loc.set 3 (.trace out)).set 1 (optNat r.1)).set 2
                                                     (optMembers "VmProtection" r.2) }) := by
  have ereal : ∀ st, eval Expected.mach env events st Expected.realEventsE = .ok (.kevents (realEvents events)) := by
    intro st; simp [Expected.realEventsE, realEvents]
  cases hre : (realEvents events).isEmpty
  · rcases hn : nested st.tabs (realEvents events) with x | ⟨_ | out, t'⟩
    · simp [Expected.vmfaultReal, evalCond, ereal, hre, hn]
    · simp [Expected.vmfaultReal, evalCond, ereal, hre, hn]
    · cases hpp : pidProtOf out <;> simp [Expected.vmfaultReal, evalCond, ereal, hre, hn, attrOf_trace, traceAttr, hpp]
  · simp [Expected.vmfaultReal, evalCond, ereal, hre]

/-- `return MachVmfault(events, args[1], is_kernel, result, fault_type, pid, caller_prot)`, as the caller sees it -/
theorem finish_vmTail (call : CallFn) (e : Kevent) (rest : List Kevent) (h4 : e.values.length = 4) (l : Kevent)
    (hl : (e :: rest).getLast? = some l) (h4l : l.values.length = 4) (st : St) :
    finish Expected.mach "MACH_vmfault" t (exec Expected.mach env nested call (e :: rest)
      (.seq (.construct 4 "MachVmfault" .events
        [Expected.word 1, .toBool (Expected.word 2), Expected.lastWord 2, .var 0, .var 1, .var 2]) (.ret (.var 4))) st) =
      match st.loc 0, st.loc 1, st.loc 2 with
      | some ft, some pid, some prot =>
        (match asOptName ft, asOptNat pid, asOptNames prot with
         | some x, some y, some z =>
           .ok (some { name := "MACH_vmfault", events := e :: rest, extra := .vmfault (arg l 2) x y z,
                       text := renderObj Expected.mach "MachVmfault" (e :: rest)
                         [.int (arg e 1), .bool (arg e 2 != 0), .int (arg l 2), ft, pid, prot] }, st.tabs)
         | _, _, _ => .error .unmodelled)
      | _, _, _ => .error .unmodelled := by
  simp only [exec, evalArgs, eval, eval_word4, h4, Nat.reduceLT, eval_lastWord env _ _ _ l hl h4l]
  cases st.loc 0 <;> cases st.loc 1 <;> cases st.loc 2 <;> simp only [mkObj_vm, Locals.set, if_true, finish, extra_vm, ite_self]
  rename_i ft pid prot
  cases asOptName ft <;> cases asOptNat pid <;> cases asOptNames prot <;> rfl

theorem run_vmfault (e : Kevent) (rest : List Kevent) (hw : Words4 (e :: rest)) :
    runHandler Expected.mach env nested "MACH_vmfault" t (e :: rest) = hMachVmfault nested env t (e :: rest) := by
  have h4 := hw e List.mem_cons_self
  obtain ⟨l, hl⟩ : ∃ l, (e :: rest).getLast? = some l := ⟨_, List.getLast?_eq_some_getLast (by simp)⟩
  have h4l := hw l (List.mem_of_getLast? hl)
  have wl := fun st => eval_lastWord env Expected.mach (e :: rest) st l hl h4l
  have tail := finish_vmTail env nested t (callFuel Expected.mach env nested callDepth) e rest h4 l hl h4l
  rw [runHandler_eq (by decide +kernel) (Composite.find?_eq_of_first 0 rfl (by decide +kernel)), runBody, Expected.handleMachVmfault]
  -- the `return MachVmfault(…)` tail is named so that `simp` does not execute it: `tail` says what it does
  generalize Stmt.seq (Stmt.construct 4 "MachVmfault" Expr.events _) _ = T at tail ⊢
  have hlast : lastOf (e :: rest) = l := by rw [lastOf, hl]; rfl
  rw [hMachVmfault, show firstOf (e :: rest) = e from rfl, hlast, vmfaultCore, head_eq (arg e 1) (arg e 2) (arg l 2)]
  have hcond : ∀ st, evalCond Expected.mach env (e :: rest) st (.ne (Expected.lastWord 2) (.int 0)) = .ok (arg l 2 != 0) := by
    intro st; simp [evalCond, wl]
  by_cases hres : arg l 2 = 0
  · -- `fault_type = pid = caller_prot = None`, the test of `result`, `fault_type = DbgVmFaultType(rets[3])`
    simp only [exec, hcond, hres, bne_self_eq_false, eval, wl, Nat.reduceLT, ne_eq, not_true_eq_false, if_false]
    cases hft : enumNameOfValue env "DbgVmFaultType" (arg l 3) with
    | none => simp [finish, tabs_same_self, Except.map]
    | some ft =>
      simp only [exec_vmfaultReal]
      cases hre : (realEvents (e :: rest)).isEmpty
      · rcases hn : nested t (realEvents (e :: rest)) with x | ⟨_ | out, t'⟩
        · simp [finish, tabs_same_self, Except.map]
        · simp [tail, render_vm_plain, hres, Except.map, mk]
        · rcases hpp : pidProtOf out with x | ⟨_ | pid, _ | prot⟩
          · simp only [hpp, Bool.false_eq_true, if_false, finish, Except.map]
            cases t'.same t <;> rfl
          all_goals simp [hpp, tail, render_vm_plain, render_vm_full, hres, Except.map, mk]
      · simp [tail, render_vm_plain, hres, Except.map, mk]
  · have hb : (arg l 2 != 0) = true := by simpa using hres
    simp [hcond, hb, tail, render_vm_nonzero _ _ _ _ _ _ _ hres, hres, Except.map, mk]
end mach

section sort
variable {α β : Type}

theorem insertByKey_map (f : α → β) (x : Nat × α) (l : List (Nat × α)) :
    insertByKey (x.1, f x.2) (l.map fun p => (p.1, f p.2)) = (insertByKey x l).map fun p => (p.1, f p.2) := by
  induction l with
  | nil => rfl
  | cons y ys ih =>
    simp only [List.map_cons, insertByKey]
    split
    · rfl
    · rw [List.map_cons, ih]

theorem sortByKey_map (f : α → β) (l : List (Nat × α)) :
    sortByKey (l.map fun p => (p.1, f p.2)) = (sortByKey l).map fun p => (p.1, f p.2) := by
  induction l with
  | nil => rfl
  | cons x xs ih =>
    show insertByKey (x.1, f x.2) (sortByKey (xs.map fun p => (p.1, f p.2))) = _
    rw [ih, insertByKey_map]
    rfl

theorem mem_insertByKey (x y : Nat × α) (l : List (Nat × α)) (h : y ∈ insertByKey x l) : y = x ∨ y ∈ l := by
  induction l with
  | nil => simpa [insertByKey] using h
  | cons z zs ih =>
    simp only [insertByKey] at h
    split at h
    · simpa using h
    · simp only [List.mem_cons] at h ⊢
      rcases h with h | h
      · exact .inr (.inl h)
      · exact (ih h).imp_right .inr

theorem mem_sortByKey (y : Nat × α) (l : List (Nat × α)) (h : y ∈ sortByKey l) : y ∈ l := by
  induction l with
  | nil => cases h
  | cons x xs ih => exact (mem_insertByKey x y _ h).elim (· ▸ List.mem_cons_self) fun h => List.mem_cons_of_mem _ (ih h)

theorem insertByKey_eq_insertStable : @insertByKey Bytes = insertStable := by
  funext x l
  induction l with
  | nil => rfl
  | cons y ys ih => simp only [insertByKey, insertStable, ih]

/-- on (load address, uuid) pairs the interpreter's `sorted` is the hand model's -/
theorem sortByKey_eq_sortStable (l : List (Nat × Bytes)) : sortByKey l = sortStable l := by
  rw [sortByKey, insertByKey_eq_insertStable]
  rfl

end sort

section dyld
variable (env : Env) (nested : NestedFn) (t : Tabs)

theorem cls_mapA : findClass Expected.dyld "DyldUuidMapA" = some (Expected.clsImage "DyldUuidMapA" "DYLD_uuid_map_a") :=
  Composite.find?_eq_of_first 0 rfl (by decide +kernel)
theorem cls_sharedCacheA :
    findClass Expected.dyld "DyldUuidSharedCacheA" =
      some (Expected.clsImage "DyldUuidSharedCacheA" "DYLD_uuid_shared_cache_a") :=
  Composite.find?_eq_of_first 1 rfl (by decide +kernel)
theorem cls_launch : findClass Expected.dyld "DyldLaunchExecutable" = some Expected.clsLaunch :=
  Composite.find?_eq_of_first 2 rfl (by decide +kernel)

/-- `DyldUuidMapA(events, UUID(bytes=…), args[2], args[3])` / `DyldUuidSharedCacheA(…)` of one record -/
def imgObj (cls : String) (x : Kevent) (u : Bytes) : Val := .obj cls [x] [.uuid u, .int (arg x 2), .int (arg x 3)]

def ImgCls (cls : String) : Prop := cls = "DyldUuidMapA" ∨ cls = "DyldUuidSharedCacheA"

theorem attr_img_loadAddr (cls : String) (hc : ImgCls cls) (l : List Kevent) (a b c : Val) :
    objAttr Expected.dyld cls l [a, b, c] "load_addr" = .ok b := by
  rcases hc with rfl | rfl
  · exact objAttr_field cls_mapA 1 (by decide +kernel)
  · exact objAttr_field cls_sharedCacheA 1 (by decide +kernel)

theorem attr_img_uuid (cls : String) (hc : ImgCls cls) (l : List Kevent) (a b c : Val) :
    objAttr Expected.dyld cls l [a, b, c] "uuid" = .ok a := by
  rcases hc with rfl | rfl
  · exact objAttr_field cls_mapA 0 (by decide +kernel)
  · exact objAttr_field cls_sharedCacheA 0 (by decide +kernel)

theorem mkObj_img (cls : String) (hc : ImgCls cls) (l : List Kevent) (a b c : Val) :
    mkObj Expected.dyld cls l [a, b, c] = .ok (.obj cls l [a, b, c]) := by
  rcases hc with rfl | rfl
  · exact mkObj_eq cls_mapA [] (Nat.le_refl 3) rfl
  · exact mkObj_eq cls_sharedCacheA [] (Nat.le_refl 3) rfl

/-- (load address, (image object, uuid bytes)) of the records, or the first `UUID(bytes=…)` ValueError -/
def masterOf (cls : String) : List Kevent → Except PyErr (List (Nat × (Val × Bytes)))
  | [] => .ok []
  | x :: xs =>
    match uuidBytes x with
    | .error e => .error e
    | .ok u =>
      match masterOf cls xs with
      | .error e => .error e
      | .ok r => .ok ((arg x 2, (imgObj cls x u, u)) :: r)

/-- the hand model's `recs.mapM …` -/
def imgsOf : List Kevent → Except PyErr (List (Nat × Bytes))
  | [] => .ok []
  | x :: xs =>
    match uuidBytes x with
    | .error e => .error e
    | .ok u =>
      match imgsOf xs with
      | .error e => .error e
      | .ok r => .ok ((arg x 2, u) :: r)

theorem mapM_eq_imgsOf (l : List Kevent) :
    l.mapM (fun e => do let u ← uuidBytes e; pure (arg e 2, u)) = imgsOf l := by
  induction l with
  | nil => rfl
  | cons x xs ih =>
    rw [List.mapM_cons, ih, imgsOf]
    cases uuidBytes x <;> cases imgsOf xs <;> rfl

theorem imgsOf_append (a b : List Kevent) :
    imgsOf (a ++ b) =
      match imgsOf a with
      | .error e => .error e
      | .ok ra => match imgsOf b with | .error e => .error e | .ok rb => .ok (ra ++ rb) := by
  induction a with
  | nil => simp only [List.nil_append, imgsOf]; cases imgsOf b <;> rfl
  | cons x xs ih =>
    simp only [List.cons_append, imgsOf, ih]
    cases uuidBytes x <;> cases imgsOf xs <;> cases imgsOf b <;> rfl

theorem imgsOf_master (cls : String) (l : List Kevent) :
    imgsOf l = match masterOf cls l with | .error e => .error e | .ok M => .ok (M.map fun p => (p.1, p.2.2)) := by
  induction l with
  | nil => rfl
  | cons x xs ih =>
    simp only [imgsOf, masterOf, ih]
    cases uuidBytes x <;> cases masterOf cls xs <;> rfl

theorem master_good (cls : String) (hc : ImgCls cls) (l : List Kevent) (M : List (Nat × (Val × Bytes)))
    (h : masterOf cls l = .ok M) :
    ∀ m ∈ M, imageOfVal Expected.dyld m.2.1 = some (m.1, m.2.2) ∧ attrOf Expected.dyld m.2.1 "load_addr" = .ok (.int m.1) := by
  induction l generalizing M with
  | nil => simp only [masterOf, Except.ok.injEq] at h; subst h; intro m hm; cases hm
  | cons x xs ih =>
    rw [masterOf] at h
    cases hu : uuidBytes x <;> cases hr : masterOf cls xs <;> rw [hu, hr] at h <;> cases h
    intro m hm
    rcases List.mem_cons.mp hm with rfl | hm
    · simp [imageOfVal, imgObj, attrOf_obj, attr_img_loadAddr cls hc, attr_img_uuid cls hc]
    · exact ih _ hr m hm

theorem call_image (cls f : String) (hc : ImgCls cls)
    (hf : Expected.dyld.funs.find? (·.name == f) = some ⟨f, Expected.handleImage cls⟩) (x : Kevent) (h4 : x.values.length = 4) :
    callFuel Expected.dyld env nested callDepth f [x] t =
      (match uuidBytes x with | .ok u => .ok (imgObj cls x u) | .error e => .error e, t) := by
  by_cases hlen : min 16 x.data.length = 16 <;>
    simp [callDepth, callFuel, hf, Expected.handleImage, Expected.first, attrOf, keventAttr_data, eval_word4, h4, uuidBytes, hlen,
      mkObj_img cls hc, imgObj]

/-- `[handle_uuid_map_a(parser, [e]) for e in l]` -/
theorem mapLoop_image (cls f : String) (hc : ImgCls cls)
    (hf : Expected.dyld.funs.find? (·.name == f) = some ⟨f, Expected.handleImage cls⟩)
    (l : List Kevent) (hl : ∀ x ∈ l, x.values.length = 4) :
    mapLoop (callFuel Expected.dyld env nested callDepth f) (fun r => .ok r) l t =
      (match masterOf cls l with | .ok M => .ok (M.map (·.2.1)) | .error e => .error e, t) := by
  induction l with
  | nil => rfl
  | cons x xs ih =>
    have h4 := hl x (by simp)
    have ih' := ih (fun y hy => hl y (by simp [hy]))
    simp only [mapLoop, call_image env nested t cls f hc hf x h4, masterOf]
    cases uuidBytes x with
    | error e => rfl
    | ok u =>
      simp only [ih']
      cases masterOf cls xs <;> rfl

theorem keysOf_master (M : List (Nat × (Val × Bytes)))
    (hg : ∀ m ∈ M, attrOf Expected.dyld m.2.1 "load_addr" = .ok (.int m.1)) :
    keysOf Expected.dyld "load_addr" (M.map (·.2.1)) = .ok (M.map fun p => (p.1, p.2.1)) := by
  induction M with
  | nil => rfl
  | cons m ms ih =>
    simp only [List.map_cons, keysOf, hg m (by simp), ih (fun x hx => hg x (by simp [hx]))]

theorem images_master (M : List (Nat × (Val × Bytes)))
    (hg : ∀ m ∈ M, imageOfVal Expected.dyld m.2.1 = some (m.1, m.2.2)) :
    (M.map (·.2.1)).mapM (imageOfVal Expected.dyld) = some (M.map fun p => (p.1, p.2.2)) := by
  induction M with
  | nil => rfl
  | cons m ms ih =>
    rw [List.map_cons, List.mapM_cons, hg m (by simp), ih (fun x hx => hg x (by simp [hx]))]
    rfl

theorem attr_launch_mh (l : List Kevent) (a b : Val) :
    objAttr Expected.dyld "DyldLaunchExecutable" l [a, b] "main_executable_mh" = .ok a :=
  objAttr_field cls_launch 0 (by decide +kernel)
theorem attr_launch_map (l : List Kevent) (a b : Val) :
    objAttr Expected.dyld "DyldLaunchExecutable" l [a, b] "uuid_map_a" = .ok b :=
  objAttr_field cls_launch 1 (by decide +kernel)
theorem mkObj_launch (l : List Kevent) (a b : Val) :
    mkObj Expected.dyld "DyldLaunchExecutable" l [a, b] = .ok (.obj "DyldLaunchExecutable" l [a, b]) :=
  mkObj_eq cls_launch [] (Nat.le_refl 2) rfl

theorem render_launch (l : List Kevent) (a : Nat) (b : Val) :
    renderObj Expected.dyld "DyldLaunchExecutable" l [.int a, b] =
      .ok s!"DBG_DYLD_TIMING_LAUNCH_EXECUTABLE, main_executable_mh: {pyHex a}" := by
  simp [renderObj, cls_launch, Expected.clsLaunch, renderPieces, renderPiece, attr_launch_mh, execS, toString_str]

/-- the payload of the launch object whose `uuid_map_a` is the sorted master list -/
theorem extra_launch (l : List Kevent) (a : Val) (M : List (Nat × (Val × Bytes)))
    (hg : ∀ m ∈ M, imageOfVal Expected.dyld m.2.1 = some (m.1, m.2.2)) :
    extraOf Expected.dyld "DyldLaunchExecutable" l [a, .list ((sortByKey (M.map fun p => (p.1, p.2.1))).map (·.2))] =
      .ok (.launch (sortStable (M.map fun p => (p.1, p.2.2)))) := by
  have h1 : (sortByKey (M.map fun p => (p.1, p.2.1))).map (·.2) = (sortByKey M).map (·.2.1) := by
    rw [sortByKey_map (fun q : Val × Bytes => q.1) M, List.map_map]; rfl
  have h2 : sortStable (M.map fun p => (p.1, p.2.2)) = (sortByKey M).map fun p => (p.1, p.2.2) := by
    rw [← sortByKey_eq_sortStable, sortByKey_map (fun q : Val × Bytes => q.2) M]
  have h3 := images_master (sortByKey M) (fun m hm => hg m (mem_sortByKey m M hm))
  simp [extraOf, attr_launch_map, h1, h2, h3]

theorem run_launch (e : Kevent) (rest : List Kevent) (hw : Words4 (e :: rest)) :
    runHandler Expected.dyld env nested "DBG_DYLD_TIMING_LAUNCH_EXECUTABLE" t (e :: rest) = hDyldLaunch env t (e :: rest) := by
  have h4 : e.values.length = 4 := hw e List.mem_cons_self
  rw [runHandler_eq (by decide +kernel) (Composite.find?_eq_of_first 2 rfl (by decide +kernel)), runBody]
  unfold hDyldLaunch
  simp only [firstOf, List.head?_cons, Option.getD_some]
  rw [mapM_eq_imgsOf, imgsOf_append, imgsOf_master "DyldUuidMapA", imgsOf_master "DyldUuidSharedCacheA"]
  have hA4 : ∀ x ∈ (e :: rest).filter (namedExactly env "DYLD_uuid_map_a"), x.values.length = 4 :=
    fun x hx => hw x (List.mem_filter.mp hx).1
  have hB4 : ∀ x ∈ (e :: rest).filter (namedExactly env "DYLD_uuid_shared_cache_a"), x.values.length = 4 :=
    fun x hx => hw x (List.mem_filter.mp hx).1
  have hcA : ImgCls "DyldUuidMapA" := Or.inl rfl
  have hcB : ImgCls "DyldUuidSharedCacheA" := Or.inr rfl
  have mlA := fun t' => mapLoop_image env nested t' "DyldUuidMapA" "handle_uuid_map_a" hcA
    (Composite.find?_eq_of_first 0 rfl (by decide +kernel)) _ hA4
  have mlB := fun t' => mapLoop_image env nested t' "DyldUuidSharedCacheA" "handle_uuid_shared_cache_a" hcB
    (Composite.find?_eq_of_first 1 rfl (by decide +kernel)) _ hB4
  cases hMA : masterOf "DyldUuidMapA" ((e :: rest).filter (namedExactly env "DYLD_uuid_map_a")) with
  | error err =>
    simp [Expected.handleLaunch, mlA, hMA, finish, tabs_same_self, bind]
  | ok MA =>
    cases hMB : masterOf "DyldUuidSharedCacheA" ((e :: rest).filter (namedExactly env "DYLD_uuid_shared_cache_a")) with
    | error err =>
      simp [Expected.handleLaunch, mlA, mlB, hMA, hMB, finish, tabs_same_self, bind]
    | ok MB =>
      have hg := List.forall_mem_append.mpr
        ⟨master_good "DyldUuidMapA" hcA _ MA hMA, master_good "DyldUuidSharedCacheA" hcB _ MB hMB⟩
      have hk := keysOf_master (MA ++ MB) (fun m hm => (hg m hm).2)
      have hx := extra_launch (e :: rest) (.int (arg e 1)) (MA ++ MB) (fun m hm => (hg m hm).1)
      simp only [List.map_append] at hk hx
      simp [Expected.handleLaunch, mlA, mlB, hMA, hMB, hk, eval_word4, h4, mkObj_launch, finish, hx, render_launch, bind, pure,
        Except.pure, mk]

end dyld

theorem handleVia_eq (n₁ n₂ : NestedFn) (env : Env) (t : Tabs) (name : String) (e : Kevent) (rest : List Kevent)
    (hw : Words4 (e :: rest)) (h : n₁ t (realEvents (e :: rest)) = n₂ t (realEvents (e :: rest))) :
    handleVia Expected.progs n₁ env t name (e :: rest) = handleWith n₂ env t name (e :: rest) := by
  unfold handleVia
  split
  · next hn =>
    simp only [Bool.or_eq_true, beq_iff_eq] at hn
    rcases hn with rfl | rfl
    · exact (run_event env n₁ t e rest hw).trans (Composite.handleWith_perf ..).symm
    · rw [show handleWith n₂ env t "PERF_THD_Data" (e :: rest) = hPerfThdData env t (e :: rest) by simp [handleWith]]
      exact run_thdData env n₁ t e rest (hw e List.mem_cons_self)
  · split
    · next hn =>
      obtain rfl := eq_of_beq hn
      rw [Composite.handleWith_vmfault, ← Composite.hMachVmfault_congr n₁ n₂ env t _ fun _ => h]
      exact run_vmfault env n₁ t e rest hw
    · split
      · next hn =>
        obtain rfl := eq_of_beq hn
        exact (run_launch env n₁ t e rest hw).trans (Composite.handleWith_launch ..).symm
      · exact Composite.handleWith_congr n₁ n₂ env t name _ fun _ => h

theorem parseFuelVia_eq : ∀ (fuel : Nat) (env : Env) (t : Tabs) (events : List Kevent), Words4 events →
    parseFuelVia Expected.progs fuel env t events = parseFuel fuel env t events := by
  intro fuel
  induction fuel with
  | zero => intro env t events _; rfl
  | succ fuel ih =>
    intro env t events hw
    cases events with
    | nil => rfl
    | cons e rest =>
      simp only [parseFuelVia, parseFuel, parseEventListVia, parseEventListWith]
      cases env.codes e.eventid with
      | none => rfl
      | some name =>
        simp only
        split
        · exact handleVia_eq _ _ env t name e rest hw (ih env t _ fun x hx => hw x (mem_of_mem_realEvents hx))
        · rfl

theorem feedVia_eq (env : Env) (s : PState) (e : Kevent) (hs : PInv (fun x => x.values.length = 4) s.pairing)
    (he : e.values.length = 4) : feedVia Expected.progs env s e = feed env s e := by
  have hi := (step_inv (fun x => x.values.length = 4) env.domOf s.pairing e hs he).2
  unfold feedVia feed
  cases hp : Pairing.step env.domOf s.pairing e with
  | mk p' o =>
    rw [hp] at hi
    cases o with
    | none => rfl
    | some w =>
      simp only [parseEventListViaIR, parseEventList, parseFuelVia_eq _ env s.tabs w (hi w rfl).all]
      cases parseFuel (w.length + 1) env s.tabs w <;> rfl

theorem runVia_eq (env : Env) : ∀ (es : List Kevent) (s : PState),
    PInv (fun x => x.values.length = 4) s.pairing → Words4 es → runVia Expected.progs env s es = run env s es := by
  intro es
  induction es with
  | nil => intro s _ _; rfl
  | cons e es ih =>
    intro s hs hw
    have he : e.values.length = 4 := hw e List.mem_cons_self
    simp only [runVia, run, feedVia_eq env s e hs he]
    cases hf : feed env s e with
    | error x => rfl
    | ok q =>
      obtain ⟨r, s'⟩ := q
      have hi := (feed_ok env s s' e r hf).1 ▸ (step_inv (fun x => x.values.length = 4) env.domOf s.pairing e hs he).1
      simp only [ih s' hi fun x hx => hw x (List.mem_cons_of_mem _ hx)]
      cases r <;> rfl

end KdVerif.PyIRCo
