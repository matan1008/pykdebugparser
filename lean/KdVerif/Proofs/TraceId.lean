import KdVerif.Gen.OsLog
import KdVerif.Spec.OsLogFormat
import KdVerif.Proofs.Bytes
import KdVerif.Proofs.OsLog
/-
  Lemmas for C16 `traceid_*`: the construct layout of the current source evaluated on symbolic
  bytes, the bytes of a packed identifier, enum calls on accepted values.
-/
namespace KdVerif.OsLog
open Spec.OsLogFormat Spec.Firehose

theorem enumCall_of_accepts (r : EnumRef) (x : Nat) (h : refAccepts r x = true) :
    ∃ v, enumCall r x = .ok v ∧ v.num = some x := by
  unfold refAccepts at h
  unfold enumCall
  cases hk : r.kind with
  | plain =>
    simp only [hk] at h ⊢
    cases ho : r.cls.ofValue (x : Int) with
    | none => simp [ho] at h
    | some m =>
      refine ⟨_, rfl, ?_⟩
      have := (ofValue_value ho).1
      simp [EnumVal.num, this]
  | keepFlag => exact ⟨_, rfl, rfl⟩
  | strictFlag =>
    simp only [hk] at h ⊢
    have : x &&& definedBits r.cls = x := by simpa using h
    simp [this, EnumVal.num]

theorem enumCall_member {r : EnumRef} {x : Nat} {c n : String} {v : Int}
    (h : enumCall r x = .ok (.member c n v)) :
    c = r.cls.name ∧ (⟨n, v⟩ : EnumMember) ∈ r.cls.members ∧ v = x := by
  unfold enumCall at h
  cases hk : r.kind with
  | plain =>
    simp only [hk] at h
    cases ho : r.cls.ofValue (x : Int) with
    | none => simp [ho] at h
    | some m =>
      simp only [ho, Except.ok.injEq, EnumVal.member.injEq] at h
      obtain ⟨h1, h2, h3⟩ := h
      have hm := ofValue_value ho
      refine ⟨h1.symm, ?_, by rw [← h3]; exact hm.1⟩
      rw [← h2, ← h3]
      exact hm.2
  | keepFlag => simp [hk] at h
  | strictFlag =>
    simp only [hk] at h
    split at h <;> simp at h

/-- The container `firehose_tracepoint_id.parse` returns, by (dotted) attribute name. -/
def parsedFields (b0 b1 b2 b3 code : Nat) : List (String × Nat) :=
  [("namespace", b0), ("type_", b1), ("trace_flags.has_large_offset", b2 / 32 % 2),
   ("trace_flags.has_unique_pid", b2 / 16 % 2),
   ("trace_flags.pc_style", b2 / 2 % 8),
   ("trace_flags.has_current_aid", b2 % 2), ("flags", b3), ("code", code)]

/-- The left side is what `bitsVal` of the three `pc_style` bits of `bitsMSB 8 b` unfolds to. -/
theorem bits3 (b : Nat) : 2 * (2 * (b / 8 % 2) + b / 4 % 2) + b / 2 % 2 = b / 2 % 8 := by
  have h1 : b / 2 % 8 = b / 2 % 2 + 2 * (b / 4 % 4) := by
    rw [Nat.mod_mul (a := 2) (b := 4), Nat.div_div_eq_div_mul]
  have h2 : b / 4 % 4 = b / 4 % 2 + 2 * (b / 8 % 2) := by
    rw [Nat.mod_mul (a := 2) (b := 2), Nat.div_div_eq_div_mul]
  rw [h1, h2, Nat.add_comm, Nat.add_comm (2 * (b / 8 % 2))]

/-- construct's MSB-first `BitStruct` on byte 2: padding = bits 7..6, has_large_offset = bit 5,
    has_unique_pid = bit 4, pc_style = bits 3..1, has_current_aid = bit 0. -/
theorem layout_eval (b0 b1 b2 b3 : Nat) (bs : Bytes) (h : bs.length = 4) :
    parseLayout Gen.OsLog.idLayout (b0 :: b1 :: b2 :: b3 :: bs) = .ok (parsedFields b0 b1 b2 b3 (leNat bs)) := by
  simp [parseLayout, Gen.OsLog.idLayout, parseBits, bitWidth, BitField.width, bitsMSB, bitsVal, andThen, h,
    leNat, List.take_of_length_le (Nat.le_of_eq h), parsedFields, bits3]

theorem toLE_eight (w : Nat) :
    toLE 8 w = w % 256 :: w / 2 ^ 8 % 256 :: w / 2 ^ 16 % 256 :: w / 2 ^ 24 % 256 :: toLE 4 (w / 2 ^ 32) := by
  simp [toLE, Nat.div_div_eq_div_mul]

/-- `decodeFields` on that container with the attribute reads resolved. -/
def decodeBytes (T : IdTables) (nsv t b2 f code : Nat) : Except PyErr TraceId :=
  enumCall T.nsEnum nsv >>=? fun ns =>
  typeOf T nsv t >>=? fun ty =>
  enumCall T.pcEnum (b2 / 2 % 8) >>=? fun pc =>
  flagsOf T nsv f >>=? fun fl =>
  .ok { ns := ns, type_ := ty, hasLargeOffset := b2 / 32 % 2 != 0, hasUniquePid := b2 / 16 % 2 != 0,
        pcStyle := pc, hasCurrentAid := b2 % 2 != 0, flags := fl, code := code }

theorem decodeFields_eval (T : IdTables) (nsv t b2 f code : Nat) :
    decodeFields T (parsedFields nsv t b2 f code) = decodeBytes T nsv t b2 f code := by
  rfl

/-- `parse_trace_identifier` of a 64-bit word depends only on its bytes (and not on the two padding bits). -/
theorem decodeId_word (w : Nat) (hw : w < 2 ^ 64) :
    decodeId Gen.OsLog.idTables w =
      decodeBytes Gen.OsLog.idTables (w % 256) (w / 2 ^ 8 % 256) (w / 2 ^ 16 % 256) (w / 2 ^ 24 % 256)
        (w / 2 ^ 32) := by
  have h8 : Gen.OsLog.idTables.wordSize = 8 := rfl
  have hl : Gen.OsLog.idTables.layout = Gen.OsLog.idLayout := rfl
  have hlt : w < 256 ^ 8 := hw
  have hc : w / 2 ^ 32 < 256 ^ 4 := Nat.div_lt_of_lt_mul hw
  unfold decodeId
  rw [h8, hl, if_pos hlt, toLE_eight, layout_eval _ _ _ _ _ (toLE_length 4 _), leNat_toLE, Nat.mod_eq_of_lt hc]
  exact decodeFields_eval ..

theorem typeOf_spec {T : IdTables} (hdead : ∀ v, T.signpost = some v → (T.types.lookup v).isSome = true)
    {ns x : Nat} (h : byteRule T.types ns x = true) : ∃ v, typeOf T ns x = .ok v ∧ v.num = some x := by
  unfold typeOf
  unfold byteRule at h
  cases hl : T.types.lookup (ns : Int) with
  | some r =>
    rw [hl] at h
    exact enumCall_of_accepts r x h
  | none =>
    have hns : ¬ T.signpost = some (ns : Int) := fun hs => by simpa [hl] using hdead _ hs
    simp only [hns, if_false]
    exact ⟨_, rfl, rfl⟩

theorem flagsOf_spec {T : IdTables} {ns x : Nat} (h : byteRule T.flags ns x = true) :
    ∃ v, flagsOf T ns x = .ok v ∧ v.num = if (T.flags.lookup (ns : Int)).isSome then some x else none := by
  unfold flagsOf
  unfold byteRule at h
  cases hl : T.flags.lookup (ns : Int) with
  | some r =>
    rw [hl] at h
    exact enumCall_of_accepts r x h
  | none => exact ⟨_, rfl, rfl⟩

theorem b2n_lt (b : Bool) : b2n b < 2 := by cases b <;> decide

theorem b2n_bne (b : Bool) : (b2n b != 0) = b := by cases b <;> rfl

theorem div_mod_div_mod (w a c d e : Nat) : w / a % (c * (d * e)) / c % d = w / (a * c) % d := by
  rw [Nat.mod_mul_right_div_self, Nat.mod_mul_right_mod, Nat.div_div_eq_div_mul]

theorem b2n_mod_two (x : Nat) : b2n (x % 2 == 1) = x % 2 := by
  unfold b2n
  rcases Nat.mod_two_eq_zero_or_one x with h | h <;> simp [h]

/-- `decodeBytes` on the bytes of an identifier `t` of the defined domain: `b2` is any byte whose bits 0..5 are the
    base flags of `t`.  `hdead`: the `elif … signpost` branch is unreachable. -/
theorem decodeBytes_spec {T : IdTables} (hdead : ∀ v, T.signpost = some v → (T.types.lookup v).isSome = true)
    (t : Id) (h : inDomain T t = true) (b2 : Nat)
    (hpc : b2 / 2 % 8 = t.pcStyle)
    (hlo : b2 / 32 % 2 = b2n t.hasLargeOffset) (hup : b2 / 16 % 2 = b2n t.hasUniquePid)
    (haid : b2 % 2 = b2n t.hasCurrentAid) :
    ∃ d, decodeBytes T t.ns t.type_ b2 t.flags t.code = .ok d ∧
      d.ns.num = some t.ns ∧ d.type_.num = some t.type_ ∧ d.hasLargeOffset = t.hasLargeOffset ∧
      d.hasUniquePid = t.hasUniquePid ∧ d.pcStyle.num = some t.pcStyle ∧ d.hasCurrentAid = t.hasCurrentAid ∧
      d.flags.num = (if (T.flags.lookup (t.ns : Int)).isSome then some t.flags else none) ∧
      d.code = t.code := by
  simp only [inDomain, Bool.and_eq_true, decide_eq_true_eq] at h
  obtain ⟨⟨⟨⟨⟨⟨⟨⟨_, hns⟩, _⟩, hty⟩, _⟩, hpcs⟩, _⟩, hfl⟩, _⟩ := h
  obtain ⟨vns, ens, nns⟩ := enumCall_of_accepts _ _ hns
  obtain ⟨vty, ety, nty⟩ := typeOf_spec hdead hty
  obtain ⟨vpc, epc, npc⟩ := enumCall_of_accepts _ _ hpcs
  obtain ⟨vfl, efl, nfl⟩ := flagsOf_spec hfl
  unfold decodeBytes
  rw [hpc, hlo, hup, haid, ens, ety, epc, efl]
  exact ⟨_, rfl, nns, nty, b2n_bne _, b2n_bne _, npc, b2n_bne _, nfl, rfl⟩

theorem signpost_branch_dead (v : Int) (h : Gen.OsLog.idTables.signpost = some v) :
    (Gen.OsLog.idTables.types.lookup v).isSome = true := by
  have : Gen.OsLog.idTables.signpost = some 6 := rfl
  rw [this] at h
  cases h
  rfl

/-- Every 64-bit word whose fields (by the documented layout) lie in the defined domain decodes, to those
    fields (`flags` to `None` when the namespace has no flags class); the two padding bits are ignored. -/
theorem decodeId_unpack (w : Nat) (hw : w < 2 ^ 64) (h : inDomain Gen.OsLog.idTables (unpackId w) = true) :
    ∃ d, decodeId Gen.OsLog.idTables w = .ok d ∧
      d.ns.num = some (unpackId w).ns ∧ d.type_.num = some (unpackId w).type_ ∧
      d.hasLargeOffset = (unpackId w).hasLargeOffset ∧ d.hasUniquePid = (unpackId w).hasUniquePid ∧
      d.pcStyle.num = some (unpackId w).pcStyle ∧ d.hasCurrentAid = (unpackId w).hasCurrentAid ∧
      d.flags.num = (if (Gen.OsLog.idTables.flags.lookup ((unpackId w).ns : Int)).isSome
                     then some (unpackId w).flags else none) ∧
      d.code = (unpackId w).code := by
  rw [decodeId_word w hw]
  refine decodeBytes_spec signpost_branch_dead (unpackId w) h (w / 2 ^ 16 % 256) ?_ ?_ ?_ ?_
  · exact div_mod_div_mod w (2 ^ 16) 2 8 16
  · exact (div_mod_div_mod w (2 ^ 16) 32 2 4).trans (b2n_mod_two _).symm
  · exact (div_mod_div_mod w (2 ^ 16) 16 2 8).trans (b2n_mod_two _).symm
  · exact (Nat.mod_mod_of_dvd _ (by decide)).trans (b2n_mod_two _).symm

theorem beq_one_of_b2n {x : Nat} {b : Bool} (h : x = b2n b) : (x == 1) = b := by
  subst h
  cases b <;> rfl

/-- Of `inDomain`, only the width bounds are used. -/
theorem unpackId_packId {T : IdTables} (t : Id) (h : inDomain T t = true) :
    packId t < 2 ^ 64 ∧ unpackId (packId t) = t := by
  simp only [inDomain, Bool.and_eq_true, decide_eq_true_eq] at h
  obtain ⟨⟨⟨⟨⟨⟨⟨⟨hns, _⟩, hty⟩, _⟩, hpc⟩, _⟩, hfl⟩, _⟩, hcode⟩ := h
  obtain ⟨ns, ty, lo, up, pc, aid, fl, code⟩ := t
  have hlo := b2n_lt lo
  have hup := b2n_lt up
  have haid := b2n_lt aid
  simp only [packId, baseFlags, unpackId, Id.mk.injEq] at *
  generalize hw : ns + 2 ^ 8 * ty + 2 ^ 16 * (b2n aid + 2 * pc + 16 * b2n up + 32 * b2n lo) + 2 ^ 24 * fl +
    2 ^ 32 * code = w
  have : w < 2 ^ 64 ∧ w % 256 = ns ∧ w / 2 ^ 8 % 256 = ty ∧ w / 2 ^ 21 % 2 = b2n lo ∧ w / 2 ^ 20 % 2 = b2n up ∧
      w / 2 ^ 17 % 8 = pc ∧ w / 2 ^ 16 % 2 = b2n aid ∧ w / 2 ^ 24 % 256 = fl ∧ w / 2 ^ 32 = code := by
    omega
  obtain ⟨h0, h1, h2, h3, h4, h5, h6, h7, h8⟩ := this
  exact ⟨h0, h1, h2, beq_one_of_b2n h3, beq_one_of_b2n h4, h5, beq_one_of_b2n h6, h7, h8⟩

end KdVerif.OsLog
