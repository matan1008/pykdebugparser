import KdVerif.Model.PyIRCli
import KdVerif.Spec.PyIRCliExpected
/-
  Lemmas for the translation tie of the command-line glue: the EXPECTED terms (`Spec/PyIRCliExpected`), run by the
  interpreter of `Model/PyIRCli`, are the hand models.  `Props/C06` / `C12` / `C13` / `C14` transport them to the terms
  generated from the source (`cli_source_is_expected_ir`).
-/
namespace KdVerif.PyIRCli
open KdVerif

def sigOf : Option PyErr → Signal
  | none => .normal
  | some e => .err e

def loopBody : PStmt :=
  .seq (.ite (.eq (.var 2) (.var 1)) .brk .skip) (.seq (.print (.var 3)) (.addAssign 2 (.int 1)))

theorem pexec_loopBody {α : Type} (count i : Int) (x : α) (s : PState α) (h1 : s.env 1 = some (.int count))
    (h2 : s.env 2 = some (.int i)) (h3 : s.env 3 = some (.obj x)) :
    pexec loopBody s =
      if i = count then (.brk, s) else (.normal, { env := s.env.set 2 (.int (i + 1)), out := s.out ++ [x] }) := by
  have hb : (i == count) = decide (i = count) := rfl
  by_cases hic : i = count <;>
    simp [loopBody, pexec, peval, h1, h2, h3, ptruthy, bind, Except.bind, hb, hic]

/-- The loop from item number `i` on: the items before number `count` are printed; the exception of the generator
    surfaces unless the loop breaks, i.e. unless it pulls the item whose number equals `count`. -/
theorem loop_spec {α : Type} (count : Int) (items : List α) (err : Option PyErr) :
    ∀ (i : Int) (s : PState α), s.env 1 = some (.int count) → s.env 2 = some (.int i) →
      (forLoop (fun s => pexec loopBody s) 3 items err s).1.1 =
        sigOf (if i ≤ count ∧ count < i + items.length then none else err) ∧
      (forLoop (fun s => pexec loopBody s) 3 items err s).1.2.out = s.out ++ printWithCountAux count i items := by
  induction items with
  | nil =>
    intro i s _ _
    have : ¬(i ≤ count ∧ count < i) := by omega
    cases err <;> simp [forLoop, sigOf, printWithCountAux, this]
  | cons x xs ih =>
    intro i s h1 h2
    have hb := pexec_loopBody count i x { s with env := s.env.set 3 (.obj x) } h1 h2 rfl
    rw [forLoop, hb, printWithCountAux]
    by_cases hic : i = count
    · have : count ≤ count ∧ count < count + (((x :: xs).length : Nat) : Int) := by
        simp only [List.length_cons]; omega
      simp only [hic, if_true, this, sigOf, List.append_nil, and_self]
    · have hc : (i + 1 ≤ count ∧ count < i + 1 + (xs.length : Int)) ↔
          (i ≤ count ∧ count < i + (((x :: xs).length : Nat) : Int)) := by
        simp only [List.length_cons]; omega
      simp only [hic, if_false, ← hc]
      have := ih (i + 1) { env := (s.env.set 3 (.obj x)).set 2 (.int (i + 1)), out := s.out ++ [x] } h1 rfl
      rw [this.1, this.2, List.append_assoc]
      exact ⟨rfl, rfl⟩

theorem pexec_forIn_var {α : Type} (v g : Nat) (body : PStmt) (s : PState α) (items : List α) (err : Option PyErr)
    (h : s.env g = some (.gen items err)) :
    pexec (.forIn v (.var g) body) s =
      ((forLoop (fun s => pexec body s) v items err s).1.1,
       { (forLoop (fun s => pexec body s) v items err s).1.2 with
         env := (forLoop (fun s => pexec body s) v items err s).1.2.env.set g (forLoop (fun s => pexec body s) v items err s).2 }) := by
  simp [pexec, peval, h]

theorem pexec_seq_normal {α : Type} (a b : PStmt) (s s' : PState α) (h : pexec a s = (.normal, s')) :
    pexec (.seq a b) s = pexec b s' := by
  rw [pexec, h]

theorem expected_body : Expected.printWithCount.body = .seq (.assign 2 (.int 0)) (.forIn 3 (.var 0) loopBody) := rfl

/-- **`print_with_count`, interpreted**: prints `printWithCount items count`; the generator's exception surfaces unless
    the loop broke, i.e. unless item number `count` (0-based) was pulled. -/
theorem runPwc_expected {α : Type} (items : List α) (err : Option PyErr) (count : Int) :
    runPwc Expected.printWithCount (items, err) count =
      (printWithCount items count, if 0 ≤ count ∧ count < items.length then none else err) := by
  have h := loop_spec count items err 0
    { env := ((PEnv.empty.set 0 (.gen items err)).set 1 (.int count)).set 2 (.int 0), out := [] }
    rfl rfl
  rw [Int.zero_add] at h
  obtain ⟨h1, h2⟩ := h
  have hs : pexec (α := α) (.assign 2 (.int 0)) { env := (PEnv.empty.set 0 (.gen items err)).set 1 (.int count), out := [] } =
      (.normal, { env := ((PEnv.empty.set 0 (.gen items err)).set 1 (.int count)).set 2 (.int 0), out := [] }) := rfl
  have hf := pexec_forIn_var 3 0 loopBody
    { env := ((PEnv.empty.set 0 (.gen items err)).set 1 (.int count)).set 2 (.int 0), out := [] } items err rfl
  rw [runPwc, if_neg (fun h => h rfl), expected_body, pexec_seq_normal _ _ _ _ hs]
  simp only [hf, h1]
  by_cases hc : 0 ≤ count ∧ count < (items.length : Int)
  · simp only [hc, and_self, if_true, sigOf, h2, printWithCount, List.nil_append]
  · cases err <;> simp only [hc, if_false, sigOf, h2, printWithCount, List.nil_append]

theorem runPwc_expected' {α : Type} (gen : List α × Option PyErr) (count : Int) :
    runPwc Expected.printWithCount gen count = pwcOutcome gen count :=
  runPwc_expected gen.1 gen.2 count

theorem initObj_expected : initObj Expected.init [] = .ok freshObj := by
  have h : (initObj Expected.init []).toOption = some freshObj := by decide +kernel
  cases h' : initObj Expected.init [] with
  | error e => rw [h'] at h; cases h
  | ok o => rw [h'] at h; cases h; rfl

theorem getD_optInt (x : Option Int) : (Option.map Val.int x).getD .none = optInt x := by cases x <;> rfl
theorem getD_optStr (x : Option String) : (Option.map Val.str x).getD .none = optStr x := by cases x <;> rfl
theorem getD_multi (xs : List Int) : (multi xs).getD (.tuple []) = .tuple xs := by
  unfold multi; split <;> simp_all

theorem execAll_cons {δ τ : Type} (P : Prog) (W : World δ τ) (env : List (String × Val)) (dump : δ) (st : Stmt)
    (rest : List Stmt) (s s' : St τ) (hne : rest ≠ []) (h : exec1 P W env dump st s = (s', none)) :
    execAll P W env dump (st :: rest) s = execAll P W env dump rest s' := by
  rw [execAll, h]
  exact hne

/-- `parser.a = e` for each pair in order: the object afterwards. -/
def assignAll (env : List (String × Val)) : List (String × Expr) → Obj → Except PyErr Obj
  | [], o => .ok o
  | (a, e) :: rest, o =>
    match evalExpr env e with
    | .ok v => assignAll env rest (o.set a v)
    | .error x => .error x

theorem execAll_setAttrs {δ τ : Type} (P : Prog) (W : World δ τ) (env : List (String × Val)) (dump : δ) (last : Stmt)
    (sets : List (String × Expr)) (o o' : Obj) (s : St τ) (h : assignAll env sets o = .ok o') :
    execAll P W env dump (sets.map (fun p => .setAttr p.1 p.2) ++ [last]) { s with parser := some (.py o) } =
      exec1 P W env dump last { s with parser := some (.py o') } := by
  induction sets generalizing o with
  | nil =>
    cases h
    rfl
  | cons p rest ih =>
    obtain ⟨a, e⟩ := p
    rw [assignAll] at h
    cases he : evalExpr env e with
    | error x => rw [he] at h; cases h
    | ok v =>
      rw [he] at h
      have h1 : exec1 P W env dump (.setAttr a e) { s with parser := some (.py o) } =
          ({ s with parser := some (.py (o.set a v)) }, none) := by
        simp only [exec1, he]
      exact (execAll_cons P W env dump _ _ _ _ (List.append_ne_nil_of_right_ne_nil _ (List.cons_ne_nil _ _)) h1).trans
        (ih _ h)

/-- **A command that configures a `PyKdebugParser` and prints one of its listings**: on options the command declares,
    with supported declarations that match the callback's parameters, the callback runs `parser = PyKdebugParser()`, the
    assignments `sets`, `print_with_count(parser.<m>(kdebug_dump), count)` — the listing of the object with the
    attributes assigned, through `print_with_count`. -/
theorem run_pwc {δ τ : Type} (W : World δ τ) (c : Command) (args : Args) (dump : δ) (sets : List (String × Expr))
    (m : String) (o : Obj) (n : Int)
    (hd : argsDeclared c args = true)
    (hu : c.decls.any (fun d => d.kind.isUnsupported) = false) (hf : c.fnParams = c.decls.map (·.param))
    (hb : c.body = .newParser "PyKdebugParser" [] ::
      (sets.map (fun p => Stmt.setAttr p.1 p.2) ++ [.printWithCount m (.name "kdebug_dump") (.name "count")]))
    (ho : assignAll (bindEnv c.decls args) sets (objWith .none .none (.list []) (.list []) (.bool false) (.bool true)) = .ok o)
    (hk : (bindEnv c.decls args).lookup "kdebug_dump" = some .file)
    (hn : (bindEnv c.decls args).lookup "count" = some (.int n)) :
    run Expected.prog W c args dump = pwcResult (W.formatted m o dump) n := by
  have h1 : exec1 Expected.prog W (bindEnv c.decls args) dump (.newParser "PyKdebugParser" []) ({} : St τ) =
      ({ parser := some (.py freshObj) }, none) := by
    simp only [exec1, Expected.prog, initObj_expected, if_true, ne_eq, not_true_eq_false, if_false]
  simp only [run, runSt, hd, hu, hf, ne_eq, not_true_eq_false, Bool.not_true, Bool.false_eq_true, if_false]
  rw [hb, execAll_cons _ _ _ _ _ _ _ _ (List.append_ne_nil_of_right_ne_nil _ (List.cons_ne_nil _ _)) h1,
    execAll_setAttrs _ W _ dump _ sets freshObj o { parser := some (.py freshObj) } ho]
  simp only [exec1, evalExpr, hk, hn, Expected.prog, runPwc_expected', pwcResult, List.nil_append]

-- what the callback receives for each of the eight declared options, and what the assignments make of the object
attribute [local simp] bindEnv Given.args defaultOf List.lookup getD_optInt getD_optStr getD_multi Expected.classFilter
  Expected.color Expected.count Expected.dumpInput Expected.processFilter Expected.showTid Expected.subclassFilter
  Expected.tidFilter assignAll evalExpr objWith Obj.set Opts.ofGiven

/-- **`kevents`, interpreted**: a fresh parser object, the four options assigned to the four attributes (the two lists as
    the tuples click delivers), `formatted_kevents(dump)` through `print_with_count(…, count)`. -/
theorem run_kevents_expected {δ τ : Type} (W : World δ τ) (g : Given) (hp : g.process = none) (hc : g.color = none) (dump : δ) :
    run Expected.prog W Expected.kevents g.args dump =
      pwcResult (W.formatted "formatted_kevents" (keventsObj (Opts.ofGiven g)) dump) (Opts.ofGiven g).count := by
  exact run_pwc W _ _ dump [("filter_class", .name "class_filters"), ("filter_subclass", .name "subclass_filters"),
    ("filter_tid", .name "tid"), ("show_tid", .name "show_tid")] _ _ _ (by simp [argsDeclared, Expected.kevents, hp, hc])
    (by decide +kernel) rfl rfl (by simp [Expected.kevents, keventsObj]) rfl (by simp [Expected.kevents])

/-- **`traces`, interpreted**: all seven options, the two lists wrapped in `list(…)`. -/
theorem run_traces_expected {δ τ : Type} (W : World δ τ) (g : Given) (dump : δ) :
    run Expected.prog W Expected.traces g.args dump =
      pwcResult (W.formatted "formatted_traces" (tracesObj (Opts.ofGiven g)) dump) (Opts.ofGiven g).count := by
  exact run_pwc W _ _ dump [("color", .name "color"), ("filter_class", .listOf "class_filters"),
    ("filter_process", .name "process"), ("filter_subclass", .listOf "subclass_filters"), ("filter_tid", .name "tid"),
    ("show_tid", .name "show_tid")] _ _ _ (by simp [argsDeclared, Expected.traces]) (by decide +kernel) rfl rfl
    (by simp [Expected.traces, tracesObj]) rfl (by simp [Expected.traces])

/-- `callstacks` and `logs` are one callback up to the listing `m` they print: `--tid`, `--process`, `--show-tid`; no
    class / subclass / colour option. -/
theorem run_plain {δ τ : Type} (W : World δ τ) (name m : String) (g : Given) (hcf : g.classFilters = [])
    (hsf : g.subclassFilters = []) (hc : g.color = none) (dump : δ) :
    run Expected.prog W
        { Expected.callstacks with
          name := name
          body := [.newParser "PyKdebugParser" [], .setAttr "filter_process" (.name "process"),
            .setAttr "filter_tid" (.name "tid"), .setAttr "show_tid" (.name "show_tid"),
            .printWithCount m (.name "kdebug_dump") (.name "count")] } g.args dump =
      pwcResult (W.formatted m (plainObj (Opts.ofGiven g)) dump) (Opts.ofGiven g).count := by
  exact run_pwc W _ _ dump [("filter_process", .name "process"), ("filter_tid", .name "tid"),
    ("show_tid", .name "show_tid")] _ _ _ (by simp [argsDeclared, Expected.callstacks, hcf, hsf, hc, multi])
    (by decide +kernel : Expected.callstacks.decls.any (fun d => d.kind.isUnsupported) = false) rfl rfl
    (by simp [Expected.callstacks, plainObj]) rfl (by simp [Expected.callstacks])

/-- **`callstacks`, interpreted**: `--tid`, `--process`, `--show-tid`; no class / subclass / colour option. -/
theorem run_callstacks_expected {δ τ : Type} (W : World δ τ) (g : Given) (hcf : g.classFilters = [])
    (hsf : g.subclassFilters = []) (hc : g.color = none) (dump : δ) :
    run Expected.prog W Expected.callstacks g.args dump =
      pwcResult (W.formatted "formatted_callstacks" (plainObj (Opts.ofGiven g)) dump) (Opts.ofGiven g).count :=
  run_plain W _ _ g hcf hsf hc dump

/-- **`logs`, interpreted**: the same three options, `formatted_logs`. -/
theorem run_logs_expected {δ τ : Type} (W : World δ τ) (g : Given) (hcf : g.classFilters = [])
    (hsf : g.subclassFilters = []) (hc : g.color = none) (dump : δ) :
    run Expected.prog W Expected.logs g.args dump =
      pwcResult (W.formatted "formatted_logs" (plainObj (Opts.ofGiven g)) dump) (Opts.ofGiven g).count :=
  run_plain W _ _ g hcf hsf hc dump

def tableResult {δ τ : Type} (W : World δ τ) (attr : String) (indent : Int) (dump : δ) : Result :=
  match W.parseAll dump with
  | .error e => .ran [] (some e)
  | .ok t =>
    match W.jsonDumps t attr indent with
    | .ok txt => .ran [txt] none
    | .error e => .ran [] (some e)

/-- **`processes` / `kexts` / `images`, interpreted**: a fresh `KdBufParser({}, {})`, the dump parsed to the end, one
    `json.dumps(parser.<attr>, indent=4)` printed. -/
theorem run_table_expected {δ τ : Type} (W : World δ τ) (name attr : String) (dump : δ) :
    run Expected.prog W (Expected.tableCommand name attr) ({} : Given).args dump = tableResult W attr 4 dump := by
  have hd : argsDeclared (Expected.tableCommand name attr) ({} : Given).args = true := by
    simp [argsDeclared, Given.args, multi]
  unfold run runSt
  simp only [hd, Bool.not_true, Bool.false_eq_true, if_false]
  simp [Expected.tableCommand, Kind.isUnsupported, execAll, exec1, tableResult]
  cases W.parseAll dump with
  | error e => simp
  | ok t => cases h : W.jsonDumps t attr 4 <;> simp [h]

theorem cfgOfObj_objWith (tid : Option Int) (proc : Option String) (cls sub : List Int) (c s st col : Val)
    (hc : intsOf c = some cls) (hs : intsOf s = some sub) :
    cfgOfObj (objWith (optInt tid) (optStr proc) c s st col) =
      some { filterTid := tid.map natOf, filterClass := cls.map natOf, filterSubclass := sub.map natOf,
             filterProcess := proc } := by
  cases tid <;> cases proc <;> simp [cfgOfObj, Obj.get, optInt, optStr, hc, hs]

theorem cfg_keventsObj (o : Opts) : cfgOfObj (keventsObj o) = some { configOf o with filterProcess := none } :=
  cfgOfObj_objWith o.tid none _ _ _ _ _ _ rfl rfl

theorem cfg_tracesObj (o : Opts) : cfgOfObj (tracesObj o) = some (configOf o) :=
  cfgOfObj_objWith o.tid o.process _ _ _ _ _ _ rfl rfl

theorem cfg_plainObj (o : Opts) :
    cfgOfObj (plainObj o) = some { configOf o with filterClass := [], filterSubclass := [] } :=
  cfgOfObj_objWith o.tid o.process [] [] _ _ _ _ rfl rfl

theorem show_objWith (tid proc cls sub col : Val) (b : Bool) :
    showOfObj (objWith tid proc cls sub (.bool b) col) = some { tid := b } := by
  simp [showOfObj, Obj.get, boolOf]

theorem color_objWith (tid proc cls sub st : Val) (b : Bool) :
    colorOfObj (objWith tid proc cls sub st (.bool b)) = some b := by
  simp [colorOfObj, Obj.get, boolOf]

theorem unset_objWith (tid proc cls sub st col : Val) :
    wallClockUnset (objWith tid proc cls sub st col) = true ∧ tablesEmpty (objWith tid proc cls sub st col) = true := by
  simp [wallClockUnset, tablesEmpty, Obj.get]

theorem mapGen_ok {ι : Type} (f : ι → Except PyErr String) (g : ι → String) (h : ∀ x, f x = .ok (g x))
    (items : List ι) (err : Option PyErr) : mapGen f items err = (items.map g, err) := by
  induction items with
  | nil => rfl
  | cons x xs ih => simp [mapGen, h, ih]

/-- `default_trace_codes() if trace_codes is None else trace_codes` -/
def codesArg {κ : Type} : Option κ → ArgVal κ
  | some c => .codes c
  | none => .defaultCodes

/-- `trace_codes` handed on as it came -/
def givenArg {κ : Type} : Option κ → ArgVal κ
  | some c => .codes c
  | none => .none

theorem runFormatted_kevents {δ ι κ : Type} (M : Methods δ ι κ) (o : Obj) (tc : Option κ) (dump : δ) :
    runFormatted M Expected.formattedKevents o tc dump =
      mapGen (fun e => M.formatter "_format_kevent" o e [codesArg tc])
        (M.source "kevents" o [.kdebug] dump).1 (M.source "kevents" o [.kdebug] dump).2 := by
  cases tc <;> simp [runFormatted, Expected.formattedKevents, evalFArgs, evalFArg, codesArg]

theorem runFormatted_traces {δ ι κ : Type} (M : Methods δ ι κ) (o : Obj) (tc : Option κ) (dump : δ) :
    runFormatted M Expected.formattedTraces o tc dump =
      mapGen (fun t => M.formatter "_format_trace" o t [])
        (M.source "traces" o [.kdebug, givenArg tc] dump).1 (M.source "traces" o [.kdebug, givenArg tc] dump).2 := by
  cases tc <;> simp [runFormatted, Expected.formattedTraces, evalFArgs, evalFArg, givenArg]

theorem runFormatted_callstacks {δ ι κ : Type} (M : Methods δ ι κ) (o : Obj) (tc : Option κ) (dump : δ) :
    runFormatted M Expected.formattedCallstacks o tc dump =
      mapGen (fun t => M.formatter "_format_callstack" o t [])
        (M.source "callstacks" o [.kdebug, givenArg tc] dump).1 (M.source "callstacks" o [.kdebug, givenArg tc] dump).2 := by
  cases tc <;> simp [runFormatted, Expected.formattedCallstacks, evalFArgs, evalFArg, givenArg]

theorem runFormatted_logs {δ ι κ : Type} (M : Methods δ ι κ) (o : Obj) (dump : δ) :
    runFormatted M Expected.formattedLogs o none dump =
      mapGen (fun t => M.formatter "_format_log" o t [])
        (M.source "os_log_events" o [.kdebug] dump).1 (M.source "os_log_events" o [.kdebug] dump).2 := by
  simp [runFormatted, Expected.formattedLogs, evalFArgs, evalFArg]

/-- `formatted_logs` takes no code table: `TypeError` -/
theorem runFormatted_logs_codes {δ ι κ : Type} (M : Methods δ ι κ) (o : Obj) (c : κ) (dump : δ) :
    runFormatted M Expected.formattedLogs o (some c) dump = ([], some .typeError) := by
  simp [runFormatted, Expected.formattedLogs]

end KdVerif.PyIRCli
