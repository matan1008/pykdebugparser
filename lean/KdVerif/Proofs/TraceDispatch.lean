import KdVerif.Model.Trace
/-
  The dispatcher `handleWith` on a name outside the hand-written set: the default case of its `match`, stated once.
-/
namespace KdVerif.Trace
open KdVerif.IR

/-- The meaning of the recursive `parse_event_list` call inside `handle_mach_vmfault`. -/
abbrev Nested := Tabs → List Kevent → Except PyErr (Option TraceOut × Tabs)

theorem not_hand_iff {name : String} : handNames.contains name = false ↔
    name ≠ "TRACE_DATA_NEWTHREAD" ∧ name ≠ "TRACE_DATA_EXEC" ∧ name ≠ "TRACE_DATA_THREAD_TERMINATE" ∧
    name ≠ "TRACE_DATA_THREAD_TERMINATE_PID" ∧ name ≠ "TRACE_STRING_GLOBAL" ∧ name ≠ "TRACE_STRING_NEWTHREAD" ∧
    name ≠ "TRACE_STRING_EXEC" ∧ name ≠ "TRACE_STRING_PROC_EXIT" ∧ name ≠ "TRACE_STRING_THREADNAME" ∧
    name ≠ "TRACE_STRING_THREADNAME_PREV" ∧ name ≠ "VFS_LOOKUP" ∧ name ≠ "PERF_Event" ∧ name ≠ "PERF_THD_Data" ∧
    name ≠ "MACH_vmfault" ∧ name ≠ "DBG_DYLD_TIMING_LAUNCH_EXECUTABLE" := by
  simp only [handNames, traceDomainNames, List.cons_append, List.nil_append, List.contains_cons,
    List.contains_nil, Bool.or_false, Bool.or_eq_false_iff, beq_eq_false_iff_ne]

theorem handle_generated (nested : Nested) (env : Env) (t : Tabs) (name : String) (events : List Kevent)
    (h : handNames.contains name = false) :
    handleWith nested env t name events =
      match findDecoder env name with
      | some d =>
        if !d.supported then .error .unmodelled else do
        let (fs, text) ← runGeneratedObj env t d events
        pure (some { name := name, events := events, text := text, obj := some (d.cls, fs) }, t)
      | none => .ok (none, t) := by
  obtain ⟨h1, h2, h3, h4, h5, h6, h7, h8, h9, h10, h11, h12, h13, h14, h15⟩ := not_hand_iff.mp h
  rw [handleWith] <;> first | rfl | assumption

end KdVerif.Trace
