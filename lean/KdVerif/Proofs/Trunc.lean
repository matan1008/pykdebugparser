import KdVerif.Model.ContainerV3
import KdVerif.Proofs.Reader
/-
  Truncation lemmas: `Rel k r r'` says that `r'` reads the first `k` bytes of `r`'s data and stands at
  the same position.  `Det m`: whenever `m` SUCCEEDS on the truncated reader it succeeds on the full
  one with the same value, and the readers stay related (all primitives built from exact reads).
  `DetW R m` is the weaker form the greedy zero skipper of `headerV2` has: the values agree up to `R` (the number of
  zeros skipped may differ) and the readers stay related OR the truncated one is exhausted (the cut fell inside the
  zeros, where the full reader goes on).
-/
namespace KdVerif
open Reader

def Rel (k : Nat) (r r' : Reader) : Prop := r'.data = r.data.take k ∧ r'.pos = r.pos

theorem Rel.rest {k : Nat} {r r' : Reader} (h : Rel k r r') : r'.rest = r.rest.take (k - r.pos) := by
  simp only [Reader.rest, h.1, h.2, List.drop_take]

theorem Rel.read_full {k : Nat} {r r' : Reader} (h : Rel k r r') (n : Nat)
    (hl : (r'.read n).1.length = n) :
    (r.read n).1 = (r'.read n).1 ∧ Rel k (r.read n).2 (r'.read n).2 := by
  have hr := h.rest
  simp only [read_fst] at hl ⊢
  rw [hr, List.take_take] at hl ⊢
  have hle : n ≤ k - r.pos := by
    rw [List.length_take] at hl
    omega
  rw [Nat.min_eq_left hle] at hl ⊢
  refine ⟨rfl, ?_, ?_⟩
  · simp [h.1]
  · simp only [read_pos, h.2, hr, List.length_take] at hl ⊢
    omega

theorem read_short_rest (r : Reader) (n : Nat) (hl : (r.read n).1.length ≠ n) : (r.read n).2.rest = [] := by
  rw [read_rest]
  simp only [read_fst, List.length_take] at hl
  exact List.drop_eq_nil_of_le (by omega)

def Det {α : Type} (m : RM α) : Prop :=
  ∀ k r r', Rel k r r' → ∀ a r1', m r' = (.ok a, r1') → ∃ r1, m r = (.ok a, r1) ∧ Rel k r1 r1'

theorem Det.pure {α : Type} (a : α) : Det (pure a : RM α) := by
  intro k r r' h b r1' e
  simp only [RM.pure_apply, Prod.mk.injEq, Except.ok.injEq] at e
  exact ⟨r, by rw [RM.pure_apply, e.1], e.2 ▸ h⟩

theorem RM.bind_eq_ok {α β : Type} {m : RM α} {f : α → RM β} {r r2 : Reader} {b : β}
    (h : (m >>= f) r = (.ok b, r2)) : ∃ a r1, m r = (.ok a, r1) ∧ f a r1 = (.ok b, r2) := by
  change RM.bind' m f r = _ at h
  unfold RM.bind' at h
  split at h
  · rename_i a r1 e; exact ⟨a, r1, e, h⟩
  · simp at h

theorem Det.bind {α β : Type} {m : RM α} {f : α → RM β} (hm : Det m) (hf : ∀ a, Det (f a)) :
    Det (m >>= f) := by
  intro k r r' h b r2' e
  obtain ⟨a, r1', e1, e2⟩ := RM.bind_eq_ok e
  obtain ⟨r1, e1', h1⟩ := hm k r r' h a r1' e1
  obtain ⟨r2, e2', h2⟩ := hf a k r1 r1' h1 b r2' e2
  exact ⟨r2, by rw [RM.bind_ok e1', e2'], h2⟩

theorem Det.readExact (n : Nat) : Det (readExact n) := by
  intro k r r' h a r1' e
  rw [readExact_eq] at e ⊢
  by_cases hov : ssizeLimit ≤ n
  · rw [if_pos hov] at e; simp at e
  rw [if_neg hov] at e ⊢
  by_cases hl : (r'.read n).1.length = n
  · rw [if_pos hl] at e
    simp only [Prod.mk.injEq, Except.ok.injEq] at e
    obtain ⟨h1, h2⟩ := h.read_full n hl
    refine ⟨(r.read n).2, ?_, e.2 ▸ h2⟩
    rw [h1, if_pos hl, e.1]
  · rw [if_neg hl] at e
    simp at e

theorem Det.tell : Det tell := by
  intro k r r' h a r1' e
  simp only [KdVerif.tell, Prod.mk.injEq, Except.ok.injEq] at e
  exact ⟨r, by simp [KdVerif.tell, ← e.1, h.2], e.2 ▸ h⟩

theorem Det.throw {α : Type} (e : PyErr) : Det (RM.throw' e : RM α) := by
  intro k r r' _ a r1' h
  simp [RM.throw'] at h

theorem Det.int32ul : Det int32ul := Det.bind (Det.readExact 4) (fun _ => Det.pure _)
theorem Det.int64ul : Det int64ul := Det.bind (Det.readExact 8) (fun _ => Det.pure _)
theorem Det.prefixedBytes : Det prefixedBytes := Det.bind Det.int64ul (fun n => Det.readExact n)

theorem Det.aligned {α : Type} (modulus : Nat) {m : RM α} (hm : Det m) : Det (aligned modulus m) :=
  Det.bind Det.tell fun _ => Det.bind hm fun _ => Det.bind Det.tell fun _ =>
    Det.bind (Det.readExact _) fun _ => Det.pure _

theorem Det.readFields : ∀ ns : List Nat, Det (readFields ns)
  | [] => Det.pure _
  | n :: ns => Det.bind (Det.readExact n) fun _ => Det.bind (Det.readFields ns) fun _ => Det.pure _

theorem Det.headerV3 (plist : Bytes → Option PView) : Det (headerV3 plist) := by
  unfold KdVerif.headerV3 headerV3Inner
  refine Det.aligned 8 (Det.bind (Det.readFields _) fun fs => Det.bind Det.prefixedBytes fun p => ?_)
  cases plist p with
  | none => exact Det.throw _
  | some _ => exact Det.pure _


theorem seekAux_take (tag : Bytes) (s : Bytes) (j : Nat) (found : Bytes) (n m : Nat)
    (h : seekAux tag (s.take j) found n = (true, m)) : seekAux tag s found n = (true, m) := by
  induction s generalizing j found n with
  | nil => simpa using h
  | cons b t ih =>
    cases j with
    | zero =>
      simp only [List.take_zero, seekAux, Prod.mk.injEq, decide_eq_true_eq] at h
      simp only [seekAux, h.1, if_true, h.2]
    | succ j =>
      simp only [List.take_succ_cons, seekAux] at h ⊢
      by_cases hf : found = tag
      · simpa [hf] using h
      · simp only [hf, if_false] at h ⊢
        exact ih _ _ _ h

theorem seekUntil_eq (tag : Bytes) (r : Reader) : seekUntil tag r =
    if (seekAux tag (r.read tag.length).2.rest (r.read tag.length).1 0).1 then
      (.ok (), (r.read tag.length).2.stepBytes (seekAux tag (r.read tag.length).2.rest (r.read tag.length).1 0).2 0)
    else
      (.error .eof, (r.read tag.length).2.stepBytes (seekAux tag (r.read tag.length).2.rest (r.read tag.length).1 0).2 1) := rfl

@[simp] theorem Reader.stepBytes_data (r : Reader) (n e : Nat) : (r.stepBytes n e).data = r.data := rfl
@[simp] theorem Reader.stepBytes_pos (r : Reader) (n e : Nat) : (r.stepBytes n e).pos = r.pos + n := rfl

theorem seekAux_nil_short (tag found : Bytes) (n : Nat) (h : found.length ≠ tag.length) :
    (seekAux tag [] found n).1 = false := by
  have : found ≠ tag := fun e => h (by rw [e])
  simp [seekAux, this]

theorem Det.seekUntil (tag : Bytes) : Det (seekUntil tag) := by
  intro k r r' h a r1' e
  rw [seekUntil_eq] at e ⊢
  by_cases hl : (r'.read tag.length).1.length = tag.length
  · obtain ⟨h1, h2⟩ := h.read_full _ hl
    obtain ⟨b, m, hbm⟩ : ∃ b m, seekAux tag (r'.read tag.length).2.rest (r'.read tag.length).1 0 = (b, m) :=
      ⟨_, _, rfl⟩
    rw [hbm] at e
    cases b with
    | false => simp at e
    | true =>
      simp only [if_true, Prod.mk.injEq, true_and] at e
      rw [h2.rest, ← h1] at hbm
      have := seekAux_take _ _ _ _ _ _ hbm
      rw [this]
      refine ⟨(r.read tag.length).2.stepBytes m 0, by simp only [if_true], ?_⟩
      rw [← e]
      exact ⟨by rw [Reader.stepBytes_data, Reader.stepBytes_data]; exact h2.1,
        by rw [Reader.stepBytes_pos, Reader.stepBytes_pos, h2.2]⟩
  · have hr := read_short_rest r' _ hl
    rw [hr, seekAux_nil_short tag _ 0 hl] at e
    simp at e

theorem seekUntil_nil_fails (tag : Bytes) (ht : tag ≠ []) (r : Reader) (hr : r.rest = []) :
    ∃ r1, seekUntil tag r = (.error .eof, r1) := by
  rw [seekUntil_eq]
  have h1 : (r.read tag.length).1 = [] := by simp [hr]
  have h2 : (r.read tag.length).2.rest = [] := by rw [read_rest, hr]; simp
  have : (seekAux tag [] [] 0).1 = false :=
    seekAux_nil_short tag [] 0 (by simpa using fun e => ht (List.eq_nil_of_length_eq_zero e.symm))
  rw [h1, h2, this]
  simp only [Bool.false_eq_true, if_false]
  exact ⟨_, rfl⟩

/-- `reader.read(n)` followed by a tag scan: the only plain (short-read tolerant) read in front of the
    events; if it came back short on the truncated reader the scan fails, so success is stable. -/
theorem Det.plainThenSeek {β : Type} (n : Nat) (tag : Bytes) (ht : tag ≠ []) {g : RM β} (hg : Det g) :
    Det (readPlain n >>= fun _ => (KdVerif.seekUntil tag >>= fun _ => g)) := by
  intro k r r' h b r2' e
  obtain ⟨a, r1', e1, e2⟩ := RM.bind_eq_ok e
  simp only [readPlain, Prod.mk.injEq, Except.ok.injEq] at e1
  by_cases hl : (r'.read n).1.length = n
  · obtain ⟨h1, h2⟩ := h.read_full n hl
    rw [← e1.2] at e2
    obtain ⟨r2, e2', hh⟩ := (Det.bind (Det.seekUntil tag) (fun _ => hg)) k _ _ h2 b r2' e2
    refine ⟨r2, ?_, hh⟩
    have : readPlain n r = (.ok (r.read n).1, (r.read n).2) := rfl
    rw [RM.bind_ok this, e2']
  · have hr := read_short_rest r' n hl
    rw [e1.2] at hr
    obtain ⟨x, r3, e3, _⟩ := RM.bind_eq_ok e2
    obtain ⟨r4, e4⟩ := seekUntil_nil_fails tag ht r1' hr
    rw [e4] at e3
    simp at e3

theorem Det.threadmapV3 : Det threadmapV3 := by
  unfold KdVerif.threadmapV3
  exact Det.plainThenSeek _ _ (by decide)
    (Det.bind (Det.seekUntil _) fun _ => Det.bind Det.prefixedBytes fun _ => Det.pure _)

theorem Det.fixedCString (n : Nat) : Det (fixedCString n) := by
  rw [fixedCString_eq]
  refine Det.bind (Det.readExact n) fun b => ?_
  cases cstringOf b with
  | ok s => exact Det.pure _
  | error e => exact Det.throw _

theorem Det.threadEntry : Det threadEntry :=
  Det.bind Det.int64ul fun _ => Det.bind Det.int32ul fun _ => Det.bind (Det.fixedCString _) fun _ => Det.pure _

theorem Det.arrayN {α : Type} {m : RM α} (hm : Det m) : ∀ n, Det (arrayN m n)
  | 0 => Det.pure _
  | n + 1 => Det.bind hm fun _ => Det.bind (Det.arrayN hm n) fun _ => Det.pure _

theorem Det.padding (n : Nat) : Det (padding n) := Det.bind (Det.readExact n) fun _ => Det.pure _


/-- what the loops need from the record decoder: anything but 64 bytes is rejected (C01). -/
def RejectsShort {ε : Type} (dec : Bytes → Except PyErr ε) : Prop :=
  ∀ x : Bytes, x.length ≠ 64 → ∃ e, dec x = .error e

theorem recordLoop_trunc {ε : Type} (dec : Bytes → Except PyErr ε) (hdec : RejectsShort dec)
    {k : Nat} (fuel' : Nat) : ∀ (fuel : Nat) (r r' : Reader), Rel k r r' → fuel' ≤ fuel →
    (recordLoop dec fuel' r').1 <+: (recordLoop dec fuel r).1 := by
  induction fuel' with
  | zero => intro fuel r r' _ _; exact List.nil_prefix
  | succ f' ih =>
    intro fuel r r' h hf
    obtain ⟨f, rfl⟩ : ∃ f, fuel = f + 1 := ⟨fuel - 1, by omega⟩
    simp only [recordLoop]
    by_cases he : (r'.read 64).1 = []
    · simp only [he, if_true]; exact List.nil_prefix
    · by_cases hl : (r'.read 64).1.length = 64
      · obtain ⟨h1, h2⟩ := h.read_full 64 hl
        rw [h1]
        simp only [he, if_false]
        cases hd : dec (r'.read 64).1 with
        | error e => exact List.nil_prefix
        | ok ev =>
          simp only [List.cons_prefix_cons, true_and]
          exact ih f _ _ h2 (by omega)
      · obtain ⟨e, hd⟩ := hdec _ hl
        simp only [he, if_false, hd]; exact List.nil_prefix

theorem recordsN_trunc {ε : Type} (dec : Bytes → Except PyErr ε) (hdec : RejectsShort dec) {k : Nat} (n : Nat) :
    ∀ (r r' : Reader), Rel k r r' →
      (recordsN dec n r').1 <+: (recordsN dec n r).1 ∧
      ((recordsN dec n r').2.1 = none →
        (recordsN dec n r).1 = (recordsN dec n r').1 ∧ (recordsN dec n r).2.1 = none ∧
          Rel k (recordsN dec n r).2.2 (recordsN dec n r').2.2) := by
  induction n with
  | zero => intro r r' h; exact ⟨List.nil_prefix, fun _ => ⟨rfl, rfl, h⟩⟩
  | succ n ih =>
    intro r r' h
    simp only [recordsN, Gen.Consts.keventSize]
    by_cases hl : (r'.read 64).1.length = 64
    · obtain ⟨h1, h2⟩ := h.read_full 64 hl
      rw [h1]
      cases hd : dec (r'.read 64).1 with
      | error e => exact ⟨List.nil_prefix, fun hh => by simp at hh⟩
      | ok ev =>
        obtain ⟨i1, i2⟩ := ih _ _ h2
        refine ⟨by simp only [List.cons_prefix_cons, true_and]; exact i1, fun hh => ?_⟩
        obtain ⟨j1, j2, j3⟩ := i2 hh
        exact ⟨by simp only [j1], j2, j3⟩
    · obtain ⟨e, hd⟩ := hdec _ hl
      simp only [hd]
      exact ⟨List.nil_prefix, fun hh => by simp at hh⟩

theorem recordsN_exhausted {ε : Type} (dec : Bytes → Except PyErr ε) (hdec : RejectsShort dec) (n : Nat)
    (r : Reader) (hr : r.rest = []) :
    (recordsN dec n r).1 = [] ∧ ((recordsN dec n r).2.1 = none → (recordsN dec n r).2.2.rest = []) := by
  cases n with
  | zero => exact ⟨rfl, fun _ => hr⟩
  | succ n =>
    have : (r.read 64).1.length ≠ 64 := by simp [hr]
    obtain ⟨e, hd⟩ := hdec _ this
    simp only [recordsN, Gen.Consts.keventSize, hd]
    exact ⟨trivial, fun hh => by simp at hh⟩

theorem chunkLoop_trunc {ε : Type} (dec : Bytes → Except PyErr ε) (hdec : RejectsShort dec)
    {k : Nat} (fuel' : Nat) : ∀ (fuel : Nat) (r r' : Reader), Rel k r r' → fuel' ≤ fuel →
    (chunkLoop dec fuel' r').1 <+: (chunkLoop dec fuel r).1 := by
  induction fuel' with
  | zero => intro fuel r r' _ _; exact List.nil_prefix
  | succ f' ih =>
    intro fuel r r' h hf
    obtain ⟨f, rfl⟩ : ∃ f, fuel = f + 1 := ⟨fuel - 1, by omega⟩
    rw [chunkLoop]
    cases hs' : seekUntil Gen.Consts.TRACEV3_EVENTS_TAG r' with
    | mk res1' r1' =>
    cases res1' with
    | error e => exact List.nil_prefix
    | ok u =>
      obtain ⟨r1, hs, h1⟩ := Det.seekUntil _ k r r' h u r1' hs'
      rw [chunkLoop, hs]
      simp only
      cases hi' : int64ul r1' with
      | mk res2' r2' =>
      cases res2' with
      | error e => exact List.nil_prefix
      | ok size =>
        obtain ⟨r2, hi, h2⟩ := Det.int64ul k r1 r1' h1 size r2' hi'
        rw [hi]
        simp only
        -- the 8 bytes behind the size are a plain read: short on the cut reader means the cut reader is exhausted,
        -- and the chunk and everything behind it deliver nothing
        by_cases hl : (r2'.read 8).1.length = 8
        · obtain ⟨_, h3⟩ := h2.read_full 8 hl
          obtain ⟨q1, q2⟩ := recordsN_trunc dec hdec (size / Gen.Consts.keventSize) _ _ h3
          generalize recordsN dec (size / Gen.Consts.keventSize) (r2'.read 8).2 = q' at q1 q2 ⊢
          generalize recordsN dec (size / Gen.Consts.keventSize) (r2.read 8).2 = q at q1 q2 ⊢
          obtain ⟨evs', oe', r4'⟩ := q'
          obtain ⟨evs, oe, r4⟩ := q
          dsimp only at q1 q2 ⊢
          cases oe' with
          | some e =>
            cases oe with
            | some e2 => exact q1
            | none =>
              dsimp only
              split
              · exact q1.trans (List.prefix_append _ _)
              · exact q1
          | none =>
            obtain ⟨rfl, rfl, j3⟩ := q2 rfl
            dsimp only
            by_cases hm : (r4'.read Gen.Consts.TRACEV3_MORE_EVENTS.length).1 = Gen.Consts.TRACEV3_MORE_EVENTS
            · obtain ⟨g1, g2⟩ := j3.read_full _ (by rw [hm])
              rw [if_pos hm, if_pos (g1.trans hm)]
              exact (List.prefix_append_right_inj _).mpr (ih f _ _ g2 (by omega))
            · rw [if_neg hm]
              split
              · exact List.prefix_append _ _
              · exact List.prefix_refl _
        · obtain ⟨x1, x2⟩ := recordsN_exhausted dec hdec (size / Gen.Consts.keventSize) _ (read_short_rest r2' 8 hl)
          generalize recordsN dec (size / Gen.Consts.keventSize) (r2'.read 8).2 = q' at x1 x2 ⊢
          obtain ⟨evs', oe', r4'⟩ := q'
          dsimp only at x1 x2 ⊢
          subst x1
          cases oe' with
          | some e => exact List.nil_prefix
          | none =>
            have : ¬ (r4'.read Gen.Consts.TRACEV3_MORE_EVENTS.length).1 = Gen.Consts.TRACEV3_MORE_EVENTS := by
              simp [x2 rfl, Gen.Consts.TRACEV3_MORE_EVENTS]
            dsimp only
            rw [if_neg this]
            exact List.nil_prefix


def leadZeros (s : Bytes) : Nat := (s.takeWhile (· == 0)).length

theorem leadZeros_take (s : Bytes) (j : Nat) : leadZeros (s.take j) = min (leadZeros s) j := by
  induction s generalizing j with
  | nil => simp [leadZeros]
  | cons b t ih =>
    cases j with
    | zero => simp [leadZeros]
    | succ j =>
      by_cases hb : b = 0
      · have := ih j
        simp only [leadZeros, List.take_succ_cons, List.takeWhile_cons, hb, beq_self_eq_true, if_true,
          List.length_cons] at this ⊢
        omega
      · have hb' : (b == 0) = false := by simpa using hb
        simp [leadZeros, hb']

theorem constZeroByte_eq (r : Reader) : constZeroByte r =
    if r.rest.head? = some 0 then (.ok (), (r.read 1).2) else (.error .streamError, (r.read 1).2) := by
  unfold constZeroByte
  cases h : r.rest with
  | nil =>
    have : readExact 1 r = (.error .streamError, (r.read 1).2) := by
      rw [readExact_small (by decide)]; simp [h]
    rw [RM.bind_err this]; rfl
  | cons b t =>
    have : readExact 1 r = (.ok [b], (r.read 1).2) := by
      rw [readExact_small (by decide)]; simp [h]
    rw [RM.bind_ok this]
    by_cases hb : b = 0 <;> simp [hb] <;> rfl

/-- closed form of the greedy zero skipper: it stops behind the leading zeros of the unread suffix,
    padding or data (K1). -/
theorem greedyZeros_spec (fuel : Nat) : ∀ (r : Reader), r.rest.length + 1 ≤ fuel →
    ∃ l b, greedyRange constZeroByte fuel r = (.ok l, b) ∧ b.data = r.data ∧ b.pos = r.pos + leadZeros r.rest
      ∧ l.length = leadZeros r.rest := by
  induction fuel with
  | zero => intro r h; omega
  | succ fuel ih =>
    intro r hf
    by_cases h0 : r.rest.head? = some 0
    · have ez : constZeroByte r = (.ok (), (r.read 1).2) := by rw [constZeroByte_eq, if_pos h0]
      obtain ⟨t, ht⟩ : ∃ t, r.rest = 0 :: t := by
        cases hr : r.rest with
        | nil => simp [hr] at h0
        | cons b t => exact ⟨t, by simp [hr] at h0; rw [h0]⟩
      obtain ⟨l, b2, e2, d2, p2, l2⟩ := ih (r.read 1).2 (by rw [read_rest, ht]; simp [ht] at hf ⊢; omega)
      rw [read_rest, ht] at p2 l2
      refine ⟨() :: l, b2, by rw [greedyRange_ok ez, e2]; rfl, d2, ?_, ?_⟩
      · rw [p2, read_pos, ht]; simp [leadZeros]; omega
      · rw [List.length_cons, l2, ht]; simp [leadZeros]
    · have ez : constZeroByte r = (.error .streamError, (r.read 1).2) := by rw [constZeroByte_eq, if_neg h0]
      have hz : leadZeros r.rest = 0 := by
        cases hr : r.rest with
        | nil => rfl
        | cons b t => simp [hr] at h0; simp [leadZeros, h0]
      exact ⟨[], _, greedyRange_stop ez (by decide), rfl, by rw [hz]; rfl, hz.symm⟩

def DetW {α : Type} (R : α → α → Prop) (m : RM α) : Prop :=
  ∀ k r r', Rel k r r' → ∀ a r1', m r' = (.ok a, r1') →
    ∃ b r1, m r = (.ok b, r1) ∧ R b a ∧ (Rel k r1 r1' ∨ r1'.rest = [])

theorem DetW.bind {α β : Type} {R : β → β → Prop} {m : RM α} {f : α → RM β} (hm : Det m)
    (hf : ∀ a, DetW R (f a)) : DetW R (m >>= f) := by
  intro k r r' h b r2' e
  obtain ⟨a, r1', e1, e2⟩ := RM.bind_eq_ok e
  obtain ⟨r1, e1', h1⟩ := hm k r r' h a r1' e1
  obtain ⟨b2, r2, e2', h2⟩ := hf a k r1 r1' h1 b r2' e2
  exact ⟨b2, r2, by rw [RM.bind_ok e1', e2'], h2⟩

theorem zeroSkip_detW {β : Type} {R : β → β → Prop} (g : List Unit → β) (hR : ∀ l l', R (g l) (g l')) :
    DetW R (restFuel >>= fun fuel => (greedyRange constZeroByte fuel >>= fun pad => (pure (g pad) : RM β))) := by
  intro k r r' h b r2' e
  obtain ⟨l, b1, e1, d1, p1, _⟩ := greedyZeros_spec (r.rest.length + 1) r (Nat.le_refl _)
  obtain ⟨l', b1', e1', d1', p1', _⟩ := greedyZeros_spec (r'.rest.length + 1) r' (Nat.le_refl _)
  have hr : restFuel r = (.ok (r.rest.length + 1), r) := rfl
  have hr' : restFuel r' = (.ok (r'.rest.length + 1), r') := rfl
  have e2 : (restFuel >>= fun fuel => (greedyRange constZeroByte fuel >>= fun pad => (pure (g pad) : RM β))) r'
      = (.ok (g l'), b1') := by rw [RM.bind_ok hr', RM.bind_ok e1']; rfl
  rw [e2] at e
  simp only [Prod.mk.injEq, Except.ok.injEq] at e
  refine ⟨g l, b1, by rw [RM.bind_ok hr, RM.bind_ok e1]; rfl, e.1 ▸ hR l l', ?_⟩
  rw [← e.2]
  rw [h.rest, leadZeros_take] at p1'
  by_cases hz : leadZeros r.rest ≤ k - r.pos
  · left
    exact ⟨by rw [d1', d1, h.1], by rw [p1', p1, h.2, Nat.min_eq_left hz]⟩
  · right
    have hlen : leadZeros r.rest ≤ r.rest.length := (List.takeWhile_sublist _).length_le
    simp only [Reader.rest, List.length_drop] at hlen
    have hz' : k - r.pos ≤ leadZeros r.rest := by omega
    rw [Nat.min_eq_right hz'] at p1'
    simp only [Reader.rest, d1', h.1, p1', h.2]
    apply List.drop_eq_nil_of_le
    rw [List.length_take]
    omega

theorem headerV2_detW : DetW (fun b a => b.threadmap = a.threadmap) headerV2 := by
  unfold headerV2
  exact DetW.bind Det.int32ul fun _ => DetW.bind (Det.padding _) fun _ => DetW.bind (Det.padding _) fun _ =>
    DetW.bind Det.int32ul fun _ => DetW.bind Det.int64ul fun _ => DetW.bind (Det.padding _) fun _ =>
    DetW.bind (Det.arrayN Det.threadEntry _) fun _ => zeroSkip_detW _ (fun _ _ => rfl)

theorem recordLoop_nil {ε : Type} (dec : Bytes → Except PyErr ε) (fuel : Nat) (r : Reader) (hr : r.rest = []) :
    (recordLoop dec fuel r).1 = [] := by
  cases fuel with
  | zero => rfl
  | succ f => simp [recordLoop, hr]

/-- a cut v2 dump delivers a prefix of the full dump's events and, once it gets as far as its records, has the
    full dump's tables. -/
theorem parseV2_trunc_run {ε : Type} (dec : Bytes → Except PyErr ε) (prior prior' : Tables)
    {k : Nat} {r r' : Reader} (h : Rel k r r') :
    (RejectsShort dec → (parseV2 dec prior' r').events <+: (parseV2 dec prior r).events) ∧
    ((parseV2 dec prior' r').events ≠ [] → (parseV2 dec prior' r').tables = (parseV2 dec prior r).tables) := by
  unfold parseV2
  cases hh' : headerV2 r' with
  | mk res' r1' =>
  cases res' with
  | error e => exact ⟨fun _ => List.nil_prefix, fun hne => absurd rfl hne⟩
  | ok hd' =>
    obtain ⟨hd, r1, hh, htm, hrel⟩ := headerV2_detW k r r' h hd' r1' hh'
    rw [hh]
    refine ⟨fun hdec => ?_, fun _ => by simp only [setThreadMap, htm]⟩
    rcases hrel with hrel | hnil
    · apply recordLoop_trunc dec hdec _ _ _ _ hrel
      rw [hrel.rest, List.length_take]
      omega
    · simp only [recordLoop_nil dec _ _ hnil]; exact List.nil_prefix

theorem parseV2_trunc {ε : Type} (dec : Bytes → Except PyErr ε) (hdec : RejectsShort dec) (prior prior' : Tables)
    {k : Nat} {r r' : Reader} (h : Rel k r r') :
    (parseV2 dec prior' r').events <+: (parseV2 dec prior r).events :=
  (parseV2_trunc_run dec prior prior' h).1 hdec


theorem filterMap_ev {ε : Type} (l : List ε) : (l.map Out.ev).filterMap Out.ev? = l := by
  induction l with
  | nil => rfl
  | cons a l ih => simpa [Out.ev?] using ih

theorem events_evs {ε : Type} (l : List ε) (e : Option PyErr) (t t' : Tables) (m : V3Meta) (r : Reader) :
    (Run3.mk (l.map Out.ev) e t t' m r).events = l :=
  filterMap_ev l

theorem events_evs_logs {ε : Type} (l : List ε) (g : List LogOut) (e : Option PyErr) (t t' : Tables) (m : V3Meta)
    (r : Reader) : (Run3.mk (l.map Out.ev ++ g.map Out.log) e t t' m r).events = l := by
  have h2 : (g.map (Out.log (ε := ε))).filterMap Out.ev? = [] := by simp [Out.ev?]
  unfold Run3.events
  rw [List.filterMap_append, filterMap_ev, h2, List.append_nil]

theorem tailOfBlocks_events {ε : Type} (plist : Bytes → Option PView) (evs : List ε) (t : Tables) (m : V3Meta)
    (bl : List (Bytes × Bytes)) (rd : Reader) :
    (tailOfBlocks plist evs t m bl rd).events = evs ∧ (tailOfBlocks plist evs t m bl rd).tmTables = t := by
  unfold tailOfBlocks
  split
  · exact ⟨events_evs .., rfl⟩
  · exact ⟨events_evs_logs .., rfl⟩

theorem tailV3_events {ε : Type} (plist : Bytes → Option PView) (evs : List ε) (t : Tables) (m : V3Meta)
    (r : Reader) : (tailV3 plist evs t m r).events = evs ∧ (tailV3 plist evs t m r).tmTables = t := by
  unfold tailV3
  dsimp only
  split
  · exact ⟨events_evs .., rfl⟩
  · exact tailOfBlocks_events ..

/-- a cut v3 dump delivers a prefix of the full dump's events and, once it delivers any, has the full dump's
    thread-map tables. -/
theorem parseV3_trunc_run {ε : Type} (plist : Bytes → Option PView) (dec : Bytes → Except PyErr ε)
    (prior prior' : PState) {k : Nat} {r r' : Reader} (h : Rel k r r') :
    (RejectsShort dec → (parseV3 plist dec prior' r').events <+: (parseV3 plist dec prior r).events) ∧
    ((parseV3 plist dec prior' r').events ≠ [] →
      (parseV3 plist dec prior' r').tmTables = (parseV3 plist dec prior r).tmTables) := by
  unfold parseV3
  cases hh' : headerV3 plist r' with
  | mk res' r1' =>
  cases res' with
  | error e => exact ⟨fun _ => List.nil_prefix, fun hne => absurd rfl hne⟩
  | ok hd =>
    obtain ⟨r1, hh, h1⟩ := Det.headerV3 plist k r r' h hd r1' hh'
    rw [hh]
    dsimp only
    cases ht' : threadmapV3 r1' with
    | mk res2' r2' =>
    cases res2' with
    | error e => exact ⟨fun _ => List.nil_prefix, fun hne => absurd rfl hne⟩
    | ok tm =>
      obtain ⟨r2, ht, h2⟩ := Det.threadmapV3 k r1 r1' h1 tm r2' ht'
      rw [ht]
      dsimp only
      have hfuel : r2'.rest.length / 16 + 2 ≤ r2.rest.length / 16 + 2 := by
        rw [h2.rest, List.length_take]
        omega
      refine ⟨fun hdec => ?_, fun _ => ?_⟩
      · have key := chunkLoop_trunc dec hdec _ _ r2 r2' h2 hfuel
        split <;> split <;> simp only [events_evs, tailV3_events] <;> exact key
      · split <;> split <;> simp only [tailV3_events, setThreadMap]

theorem parseV3_trunc {ε : Type} (plist : Bytes → Option PView) (dec : Bytes → Except PyErr ε)
    (hdec : RejectsShort dec) (prior prior' : PState) {k : Nat} {r r' : Reader} (h : Rel k r r') :
    (parseV3 plist dec prior' r').events <+: (parseV3 plist dec prior r).events :=
  (parseV3_trunc_run plist dec prior prior' h).1 hdec

section
variable {ε : Type} (plist : Bytes → Option PView) (dec : Bytes → Except PyErr ε) (prior : PState) {data : Bytes}

theorem parse_v2 (h : ((ofBytes data).read Gen.Consts.RAW_VERSION_SIZE).1 = Gen.Consts.RAW_VERSION2_BYTES) :
    parse plist dec prior data =
      let x := parseV2 dec prior.tables ((ofBytes data).read Gen.Consts.RAW_VERSION_SIZE).2
      ⟨x.events.map .ev, x.err, x.tables, x.tables, prior.md, x.rd⟩ :=
  if_pos h

theorem parse_v3 (h : ((ofBytes data).read Gen.Consts.RAW_VERSION_SIZE).1 = Gen.Consts.RAW_VERSION3_BYTES) :
    parse plist dec prior data = parseV3 plist dec prior ((ofBytes data).read Gen.Consts.RAW_VERSION_SIZE).2 :=
  (if_neg (by rw [h]; decide)).trans (if_pos h)

theorem parse_other (h2 : ¬ ((ofBytes data).read Gen.Consts.RAW_VERSION_SIZE).1 = Gen.Consts.RAW_VERSION2_BYTES)
    (h3 : ¬ ((ofBytes data).read Gen.Consts.RAW_VERSION_SIZE).1 = Gen.Consts.RAW_VERSION3_BYTES) :
    parse plist dec prior data = ⟨[], some .keyError, prior.tables, prior.tables, prior.md,
      ((ofBytes data).read Gen.Consts.RAW_VERSION_SIZE).2⟩ :=
  (if_neg h2).trans (if_neg h3)

end

theorem magic_trunc (data : Bytes) (k : Nat) {v : Bytes} (hv : v.length = Gen.Consts.RAW_VERSION_SIZE)
    (h : ((Reader.ofBytes (data.take k)).read Gen.Consts.RAW_VERSION_SIZE).1 = v) :
    ((Reader.ofBytes data).read Gen.Consts.RAW_VERSION_SIZE).1 = v ∧
      Rel k ((Reader.ofBytes data).read Gen.Consts.RAW_VERSION_SIZE).2
        ((Reader.ofBytes (data.take k)).read Gen.Consts.RAW_VERSION_SIZE).2 := by
  have h0 : Rel k (Reader.ofBytes data) (Reader.ofBytes (data.take k)) := ⟨rfl, rfl⟩
  obtain ⟨h1, h2⟩ := h0.read_full _ (by rw [h, hv])
  exact ⟨h1.trans h, h2⟩

/-- the run on a cut dump against the run on the full one: a prefix of the events, and the same thread-map tables
    as soon as an event is delivered. -/
theorem parse_trunc_run {ε : Type} (plist : Bytes → Option PView) (dec : Bytes → Except PyErr ε)
    (prior prior' : PState) (data : Bytes) (k : Nat) :
    (RejectsShort dec → (parse plist dec prior' (data.take k)).events <+: (parse plist dec prior data).events) ∧
    ((parse plist dec prior' (data.take k)).events ≠ [] →
      (parse plist dec prior' (data.take k)).tmTables = (parse plist dec prior data).tmTables) := by
  by_cases h2 : ((Reader.ofBytes (data.take k)).read Gen.Consts.RAW_VERSION_SIZE).1 = Gen.Consts.RAW_VERSION2_BYTES
  · obtain ⟨e, hr⟩ := magic_trunc data k rfl h2
    simp only [parse_v2 _ _ _ h2, parse_v2 _ _ _ e, events_evs]
    exact parseV2_trunc_run dec _ _ hr
  by_cases h3 : ((Reader.ofBytes (data.take k)).read Gen.Consts.RAW_VERSION_SIZE).1 = Gen.Consts.RAW_VERSION3_BYTES
  · obtain ⟨e, hr⟩ := magic_trunc data k rfl h3
    rw [parse_v3 _ _ _ h3, parse_v3 _ _ _ e]
    exact parseV3_trunc_run plist dec _ _ hr
  · rw [parse_other _ _ _ h2 h3]
    exact ⟨fun _ => List.nil_prefix, fun hne => absurd rfl hne⟩

theorem parse_trunc {ε : Type} (plist : Bytes → Option PView) (dec : Bytes → Except PyErr ε)
    (hdec : RejectsShort dec) (prior prior' : PState) (data : Bytes) (k : Nat) :
    (parse plist dec prior' (data.take k)).events <+: (parse plist dec prior data).events :=
  (parse_trunc_run plist dec prior prior' data k).1 hdec

theorem parse_trunc_tables {ε : Type} (plist : Bytes → Option PView) (dec : Bytes → Except PyErr ε)
    (prior prior' : PState) (data : Bytes) (k : Nat)
    (hne : (parse plist dec prior' (data.take k)).events ≠ []) :
    (parse plist dec prior' (data.take k)).tmTables = (parse plist dec prior data).tmTables :=
  (parse_trunc_run plist dec prior prior' data k).2 hne

end KdVerif
