import KdVerif.Model.ContainerV2
import KdVerif.Proofs.Bytes
/-
  Lemmas about the reader monad and the construct primitives, in "unread suffix" form:
  if the unread suffix is `x ++ s` and a primitive is built to consume `x`, it returns the value
  encoded by `x` and leaves `s` unread.
-/
namespace KdVerif

theorem RM.bind_ok {α β : Type} {m : RM α} {f : α → RM β} {r r' : Reader} {a : α}
    (h : m r = (.ok a, r')) : (m >>= f) r = f a r' := by
  show RM.bind' m f r = _
  unfold RM.bind'; rw [h]

theorem RM.bind_err {α β : Type} {m : RM α} {f : α → RM β} {r r' : Reader} {e : PyErr}
    (h : m r = (.error e, r')) : (m >>= f) r = (.error e, r') := by
  show RM.bind' m f r = _
  unfold RM.bind'; rw [h]

@[simp] theorem RM.pure_apply {α : Type} (a : α) (r : Reader) : (pure a : RM α) r = (.ok a, r) := rfl

namespace Reader

@[simp] theorem read_fst (r : Reader) (n : Nat) : (r.read n).1 = r.rest.take n := rfl
@[simp] theorem read_data (r : Reader) (n : Nat) : (r.read n).2.data = r.data := rfl
@[simp] theorem read_pos (r : Reader) (n : Nat) : (r.read n).2.pos = r.pos + min n r.rest.length := by
  simp [read, List.length_take]
@[simp] theorem seekTo_data (r : Reader) (p : Nat) : (r.seekTo p).data = r.data := rfl
@[simp] theorem seekTo_pos (r : Reader) (p : Nat) : (r.seekTo p).pos = p := rfl

theorem read_rest (r : Reader) (n : Nat) : (r.read n).2.rest = r.rest.drop n := by
  simp only [rest, read, List.length_take, List.length_drop, List.drop_drop]
  by_cases h : n ≤ r.data.length - r.pos
  · rw [Nat.min_eq_left h]
  · have h' : r.data.length - r.pos ≤ n := by omega
    rw [Nat.min_eq_right h', List.drop_eq_nil_of_le (by omega), List.drop_eq_nil_of_le (by omega)]

/-- `r'` continues `r` on the same data with `s` unread. -/
def Cont (r r' : Reader) (s : Bytes) : Prop := r'.rest = s ∧ r'.data = r.data

theorem Cont.trans_data {r r' r'' : Reader} {s s' : Bytes} (h : Cont r r' s) (h' : Cont r' r'' s') :
    Cont r r'' s' := ⟨h'.1, h'.2.trans h.2⟩

theorem read_cont {r : Reader} {x s : Bytes} (h : r.rest = x ++ s) :
    (r.read x.length).1 = x ∧ Cont r (r.read x.length).2 s := by
  refine ⟨?_, ?_, rfl⟩
  · simp [h]
  · rw [read_rest, h]; simp

end Reader

open Reader

theorem readExact_eq (n : Nat) (r : Reader) : readExact n r =
    if ssizeLimit ≤ n then (.error .streamError, r.bump)
    else if (r.read n).1.length = n then (.ok (r.read n).1, (r.read n).2)
    else (.error .streamError, (r.read n).2) := rfl

theorem readExact_small {n : Nat} (h : n < ssizeLimit) (r : Reader) : readExact n r =
    if (r.read n).1.length = n then (.ok (r.read n).1, (r.read n).2) else (.error .streamError, (r.read n).2) := by
  rw [readExact_eq, if_neg (Nat.not_le.mpr h)]

theorem readExact_err {n : Nat} {r r' : Reader} {e : PyErr} (h : readExact n r = (.error e, r')) :
    e = .streamError := by
  rw [readExact_eq] at h
  split at h
  · simp only [Prod.mk.injEq, Except.error.injEq] at h; exact h.1.symm
  · split at h <;> simp only [Prod.mk.injEq, Except.error.injEq] at h
    · simp at h
    · exact h.1.symm

theorem readExact_cont {r : Reader} {x s : Bytes} {n : Nat} (h : r.rest = x ++ s) (hn : x.length = n)
    (hlt : n < ssizeLimit := by decide) :
    ∃ r', readExact n r = (.ok x, r') ∧ Cont r r' s := by
  subst hn
  obtain ⟨h1, h2⟩ := read_cont h
  refine ⟨(r.read x.length).2, ?_, h2⟩
  rw [readExact_small hlt]
  simp only [h1, if_true]

theorem padding_cont {r : Reader} {x s : Bytes} {n : Nat} (h : r.rest = x ++ s) (hn : x.length = n)
    (hlt : n < ssizeLimit := by decide) :
    ∃ r', padding n r = (.ok (), r') ∧ Cont r r' s := by
  obtain ⟨r', h1, h2⟩ := readExact_cont h hn hlt
  exact ⟨r', by unfold padding; rw [RM.bind_ok h1]; rfl, h2⟩

theorem greedyRange_ok {α : Type} {m : RM α} {fuel : Nat} {r r' : Reader} {a : α} (h : m r = (.ok a, r')) :
    greedyRange m (fuel + 1) r = ((greedyRange m fuel r').1.map (a :: ·), (greedyRange m fuel r').2) := by
  simp only [greedyRange, h]
  rcases greedyRange m fuel r' with ⟨_ | _, _⟩ <;> rfl

theorem greedyRange_stop {α : Type} {m : RM α} {fuel : Nat} {r r' : Reader} {e : PyErr} (h : m r = (.error e, r'))
    (he : e ≠ .hang) : greedyRange m (fuel + 1) r = (.ok [], r'.seekTo r.pos) := by
  cases e <;> first | exact absurd rfl he | simp only [greedyRange, h]

theorem select2_ok {α : Type} {m1 m2 : RM α} {r r1 : Reader} {a : α} (h : m1 r = (.ok a, r1)) :
    select2 m1 m2 r = (.ok a, r1) := by
  simp only [select2, h]

theorem select2_err {α : Type} {m1 m2 : RM α} {r r1 : Reader} {e : PyErr} (h : m1 r = (.error e, r1))
    (he : e ≠ .hang) :
    select2 m1 m2 r =
      match m2 (r1.seekTo r.pos) with
      | (.ok a, r2) => (.ok a, r2)
      | (.error .hang, r2) => (.error .hang, r2)
      | (.error _, r2) => (.error .streamError, r2.seekTo r.pos) := by
  cases e <;> first | exact absurd rfl he | (simp only [select2, h]; rfl)

theorem select2_fail {α : Type} {m1 m2 : RM α} {r r1 r2 : Reader} {e e2 : PyErr} (h : m1 r = (.error e, r1))
    (he : e ≠ .hang) (h2 : m2 (r1.seekTo r.pos) = (.error e2, r2)) (he2 : e2 ≠ .hang) :
    select2 m1 m2 r = (.error .streamError, r2.seekTo r.pos) := by
  rw [select2_err h he, h2]
  cases e2 <;> first | exact absurd rfl he2 | rfl

theorem readLE_cont {r : Reader} {n v : Nat} {s : Bytes} (h : r.rest = toLE n v ++ s) (hv : v < 256 ^ n)
    (hn : n < ssizeLimit := by decide) :
    ∃ r', (readExact n >>= fun b => pure (leNat b)) r = (.ok v, r') ∧ Cont r r' s := by
  obtain ⟨r', h1, h2⟩ := readExact_cont h (toLE_length n v) hn
  exact ⟨r', by rw [RM.bind_ok h1, RM.pure_apply, leNat_toLE, Nat.mod_eq_of_lt hv], h2⟩

theorem int32ul_cont {r : Reader} {v : Nat} {s : Bytes} (h : r.rest = toLE 4 v ++ s) (hv : v < 2 ^ 32) :
    ∃ r', int32ul r = (.ok v, r') ∧ Cont r r' s := readLE_cont h (by omega)

theorem int64ul_cont {r : Reader} {v : Nat} {s : Bytes} (h : r.rest = toLE 8 v ++ s) (hv : v < 2 ^ 64) :
    ∃ r', int64ul r = (.ok v, r') ∧ Cont r r' s := readLE_cont h (by omega)

theorem fixedCString_eq (n : Nat) : fixedCString n = readExact n >>= fun b =>
    match cstringOf b with
    | .ok s => pure s
    | .error e => RM.throw' e := by
  funext r
  show _ = RM.bind' _ _ r
  unfold fixedCString RM.bind'
  cases readExact n r with
  | mk res r' =>
  cases res with
  | error e => rfl
  | ok b => dsimp only; cases cstringOf b <;> rfl

end KdVerif
