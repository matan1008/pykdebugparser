import KdVerif.Spec.PyIROlExpected
import KdVerif.Proofs.OsLog
/-
  The expected IR of `parse_decomposed_segment`, `parse_decomposed` and `parse_trace_identifier`
  (`Spec/PyIROlExpected`), run by the interpreter of `Model/PyIROl`, is `OsLog.parseSegment`, `OsLog.parseDecomposed`,
  `OsLog.parseTraceIdentifier` of the hand model — for EVERY `PVal` argument and every string table: same value, same
  exception (the last on tables that are `Coherent`).
-/
namespace KdVerif.PyIROl
open KdVerif.OsLog Expr Stmt

@[simp] theorem andThen_ok {α β : Type} (a : α) (f : α → Except PyErr β) : (Except.ok a >>=? f) = f a := rfl
@[simp] theorem andThen_error {α β : Type} (e : PyErr) (f : α → Except PyErr β) :
    ((Except.error e : Except PyErr α) >>=? f) = .error e := rfl

@[simp] theorem truthy_bool (b : Bool) : truthy (.bool b) = b := rfl

theorem andThen_assoc {α β γ : Type} (m : Except PyErr α) (f : α → Except PyErr β) (g : β → Except PyErr γ) :
    (m >>=? f >>=? g) = (m >>=? fun a => f a >>=? g) := by cases m <;> rfl

theorem andThen_pure {α : Type} (m : Except PyErr α) : (m >>=? Except.ok) = m := by cases m <;> rfl

theorem Locals.set_same (l : Locals) (i : Nat) (v : Val) : (l.set i v) i = some v := by simp [Locals.set]
theorem Locals.set_other (l : Locals) (i j : Nat) (v : Val) (h : j ≠ i) : (l.set i v) j = l j := by
  simp [Locals.set, h]

theorem dset_fresh (d : Dict) (k : String) (x : PVal) (h : d.lookup k = Option.none) : dset d k x = d ++ [(k, x)] := by
  induction d with
  | nil => rfl
  | cons p r ih =>
    obtain ⟨k', y⟩ := p
    by_cases hk : k = k'
    · subst hk; simp [List.lookup] at h
    · have hk' : (k == k') = false := by simpa using hk
      have hk'' : (k' == k) = false := by simpa using fun h' : k' = k => hk h'.symm
      have hr : r.lookup k = Option.none := by simpa [List.lookup, hk'] using h
      simp [dset, hk'', ih hr]

abbrev KeysIn (ks : List String) (f : Dict) : Prop := ∀ k, k ∉ ks → f.lookup k = Option.none

structure DictAt (loc₀ : Locals) (v : Nat) (d : Dict) (loc : Locals) : Prop where
  frame : ∀ j < v, loc j = loc₀ j
  val : loc v = some (.pv (.dict d))

theorem DictAt.init (loc : Locals) (v : Nat) (d : Dict) : DictAt loc v d (loc.set v (.pv (.dict d))) :=
  ⟨fun _ hj => Locals.set_other _ _ _ _ (Nat.ne_of_lt hj), Locals.set_same _ _ _⟩

theorem DictAt.below {loc₀ loc loc' : Locals} {v w : Nat} {l d : Dict} (hl : DictAt loc₀ w l loc)
    (hd : DictAt loc v d loc') (hwv : w < v) : DictAt loc₀ w l loc' :=
  ⟨fun j hj => (hd.frame j (Nat.lt_trans hj hwv)).trans (hl.frame j hj), (hd.frame w hwv).trans hl.val⟩

/-- `r` is the outcome of a block that appends what `m` yields (keys among `ks`) to the dict `d` of local `v` and leaves
    the locals below `v` as they are in `loc₀` — or raises what `m` raises.  Locals are numbered by first binding, so a
    block that fills `v` writes only `v` and locals bound later. -/
def Adds (loc₀ : Locals) (v : Nat) (d : Dict) (ks : List String) (m : Except PyErr Dict) (r : Except PyErr Outcome) :
    Prop :=
  match m with
  | .error e => r = .error e
  | .ok f => KeysIn ks f ∧ ∃ loc, r = .ok (.normal loc) ∧ DictAt loc₀ v (d ++ f) loc

section rules
variable {cx : Ctx} {loc₀ loc : Locals} {v : Nat} {d : Dict} {ks : List String}

theorem Adds.congr {m m' : Except PyErr Dict} {r : Except PyErr Outcome} (h : Adds loc₀ v d ks m r) (e : m = m') :
    Adds loc₀ v d ks m' r := e ▸ h

/-- `R` is `Adds …` or `Returns …`; all that is asked of it (`hR`) is that an exception of `a` is the outcome. -/
theorem Adds.bind {β : Type} {R : Except PyErr β → Except PyErr Outcome → Prop} {a b : Stmt}
    {m : Except PyErr Dict} {K : Dict → Except PyErr β} (ha : Adds loc₀ v d ks m (exec cx a loc))
    (hb : ∀ f loc', KeysIn ks f → DictAt loc₀ v (d ++ f) loc' → R (K f) (exec cx b loc'))
    (hR : ∀ e, R (.error e) (.error e) := by exact fun _ => rfl) :
    R (m >>=? K) (exec cx (seq a b) loc) := by
  rw [exec]
  cases m with
  | error e =>
    rw [show exec cx a loc = .error e from ha]
    exact hR e
  | ok f =>
    obtain ⟨hk, loc', hr, hd⟩ := ha
    rw [hr]
    exact hb f loc' hk hd

theorem Adds.nop (hd : DictAt loc₀ v d loc) : Adds loc₀ v d ks (.ok []) (exec cx skip loc) :=
  ⟨fun _ _ => rfl, loc, rfl, by rwa [List.append_nil]⟩

theorem Adds.cond {c : Expr} {t s : Stmt} {mc : Except PyErr PVal} {m₁ m₂ : Except PyErr Dict}
    (hc : eval cx loc c >>=? asP = mc) (ht : Adds loc₀ v d ks m₁ (exec cx t loc))
    (hs : Adds loc₀ v d ks m₂ (exec cx s loc)) :
    Adds loc₀ v d ks (mc >>=? fun p => if truthy p then m₁ else m₂) (exec cx (ite c t s) loc) := by
  rw [exec, hc]
  cases mc with
  | error e => rfl
  | ok p => cases hp : truthy p <;> simpa only [andThen_ok, hp, Bool.false_eq_true, if_false, if_true]

/-- `if 'k' in B: body`, where `body` appends `g (B['k'])`: the model's `optKey` -/
theorem Adds.opt {B : Expr} {mb : Except PyErr PVal} (hB : eval cx loc B >>=? asP = mb) (hd : DictAt loc₀ v d loc)
    (k : String) {g : PVal → Except PyErr Dict} {body : Stmt}
    (hbody : Adds loc₀ v d ks (mb >>=? fun b => subscr b k >>=? g) (exec cx body loc)) :
    Adds loc₀ v d ks (mb >>=? fun b => optKey b k g []) (exec cx (.ite (hasKey k B) body skip) loc) := by
  have hc : eval cx loc (hasKey k B) >>=? asP = mb >>=? fun b => contains k b >>=? fun c => .ok (.bool c) := by
    rw [eval, hB]
    simp only [andThen_assoc, andThen_ok, asP]
  refine (Adds.cond hc hbody (Adds.nop hd)).congr ?_
  cases mb with
  | error e => rfl
  | ok b =>
    simp only [andThen_ok, optKey]
    cases contains k b with
    | error e => rfl
    | ok c => cases c <;> rfl

/-- `v['name'] = e` for a key the dict does not have yet -/
theorem Adds.set (hd : DictAt loc₀ v d loc) {name : String} (hk : d.lookup name = Option.none) (e : Expr) :
    Adds loc₀ v d [name] (eval cx loc e >>=? Val.store >>=? fun x => .ok [(name, x)])
      (exec cx (setKey v name e) loc) := by
  rw [exec]
  cases eval cx loc e >>=? Val.store with
  | error err => rfl
  | ok x =>
    simp only [andThen_ok, hd.val, dset_fresh _ _ _ hk]
    refine ⟨fun k hk' => ?_, _, rfl, fun j hj => ?_, Locals.set_same _ _ _⟩
    · have : (k == name) = false := by simpa using hk'
      simp [List.lookup, this]
    · exact (Locals.set_other _ _ _ _ (Nat.ne_of_lt hj)).trans (hd.frame j hj)

theorem eval_key (B : Expr) (k : String) :
    eval cx loc (key B k) >>=? asP = eval cx loc B >>=? asP >>=? fun b => subscr b k := by
  rw [eval]
  simp only [andThen_assoc, andThen_ok, asP, andThen_pure]

/-- `v['name'] = B['k']` -/
theorem Adds.setOfKey {B : Expr} {mb : Except PyErr PVal} (hB : eval cx loc B >>=? asP = mb) (hd : DictAt loc₀ v d loc)
    {name : String} (hk : d.lookup name = Option.none) (k : String) :
    Adds loc₀ v d [name] (mb >>=? fun b => subscr b k >>=? plainField name) (exec cx (setKey v name (key B k)) loc) := by
  refine (Adds.set hd hk _).congr ?_
  rw [eval, hB]
  simp only [andThen_assoc, andThen_ok, Val.store]
  rfl

/-- `v['name'] = log_strings[B['k']]` -/
theorem Adds.setOfStr {B : Expr} {mb : Except PyErr PVal} (hB : eval cx loc B >>=? asP = mb) (hT : loc 1 = some .table)
    (hd : DictAt loc₀ v d loc) {name : String} (hk : d.lookup name = Option.none) (k : String) :
    Adds loc₀ v d [name] (mb >>=? fun b => subscr b k >>=? strField cx.S name)
      (exec cx (setKey v name (strAt (var 1) (key B k))) loc) := by
  refine (Adds.set hd hk _).congr ?_
  rw [eval, eval, hT]
  simp only [andThen_ok, eval_key, hB, andThen_assoc, Val.store]
  rfl

/-- `w['name'] = v` for the dict a nested block has filled in `v` -/
theorem Adds.setOfVar {loc' : Locals} {w : Nat} {l : Dict} (hl : DictAt loc₀ w l loc) (hd : DictAt loc v d loc')
    (hwv : w < v) {name : String} (hk : l.lookup name = Option.none) :
    Adds loc₀ w l [name] (.ok [(name, .dict d)]) (exec cx (setKey w name (var v)) loc') := by
  have := Adds.set (cx := cx) (hl.below hd hwv) hk (var v)
  rwa [eval, hd.val] at this

theorem exec_optStr {B : Expr} {mb : Except PyErr PVal} (hB : eval cx loc B >>=? asP = mb) (hT : loc 1 = some .table)
    (hd : DictAt loc₀ v d loc) {name : String} (hk : d.lookup name = Option.none) (k : String) :
    Adds loc₀ v d [name] (mb >>=? fun b => optKey b k (strField cx.S name) [])
      (exec cx (Expected.optStr v name B k) loc) :=
  Adds.opt hB hd k (Adds.setOfStr hB hT hd hk k)

theorem exec_optPlain {B : Expr} {mb : Except PyErr PVal} (hB : eval cx loc B >>=? asP = mb)
    (hd : DictAt loc₀ v d loc) {name : String} (hk : d.lookup name = Option.none) (k : String) :
    Adds loc₀ v d [name] (mb >>=? fun b => optKey b k (plainField name) [])
      (exec cx (Expected.optPlain v name B k) loc) :=
  Adds.opt hB hd k (Adds.setOfKey hB hd hk k)

end rules

section blocks
variable {cx : Ctx} {loc₀ loc : Locals}

/-- the frame of `parse_decomposed_segment`: v0 = `segment`, v1 = `log_strings` -/
structure SegFrame (loc : Locals) (seg : PVal) : Prop where
  h0 : loc 0 = some (.pv seg)
  h1 : loc 1 = some .table

theorem SegFrame.below {loc' : Locals} {seg : PVal} {v : Nat} {d : Dict} (h : SegFrame loc seg)
    (hd : DictAt loc v d loc') (hv : 2 ≤ v) : SegFrame loc' seg :=
  ⟨(hd.frame 0 (by omega)).trans h.h0, (hd.frame 1 (by omega)).trans h.h1⟩

theorem eval_segKey {seg : PVal} (hf : SegFrame loc seg) (k : String) :
    eval cx loc (key (var 0) k) >>=? asP = subscr seg k := by
  rw [eval_key, eval, hf.h0]
  rfl

theorem store_pv (m : Except PyErr PVal) : ((m >>=? fun r => .ok (Val.pv r)) >>=? Val.store) = m := by
  cases m <;> rfl

/-- the comprehension element `log_strings[token]` is `strIndex S` -/
theorem comp_strAt (hT : loc 1 = some .table) (v : Nat) (hv : v ≠ 1) :
    (fun x => eval cx (loc.set v (.pv x)) (strAt (var 1) (var v)) >>=? Val.store) = strIndex cx.S := by
  funext x
  have h1 : (loc.set v (.pv x)) 1 = some .table := by rw [Locals.set_other _ _ _ _ (Ne.symm hv)]; exact hT
  simp only [eval, h1, Locals.set_same, andThen_ok, asP]
  exact store_pv _

/-- `if 't' in B and B['t']: v['tokens'] = [log_strings[token] for token in B['t']]` is `parseTokens` of `B['t']` -/
theorem exec_tokens {mb : Except PyErr PVal} {d : Dict} (hB : eval cx loc Expected.segP >>=? asP = mb)
    (hT : loc 1 = some .table) (hd : DictAt loc₀ 3 d loc) (hk : d.lookup "tokens" = Option.none) :
    Adds loc₀ 3 d ["tokens"] (mb >>=? fun p => optKey p "t" (parseTokens cx.S) [])
      (exec cx Expected.tokensBlock loc) := by
  have hc : eval cx loc (and (hasKey "t" Expected.segP) (key Expected.segP "t")) >>=? asP =
      mb >>=? fun p => contains "t" p >>=? fun c => if c then subscr p "t" else .ok (.bool false) := by
    simp only [eval, hB]
    cases mb with
    | error e => rfl
    | ok p =>
      simp only [andThen_ok]
      cases contains "t" p with
      | error e => rfl
      | ok c => cases c <;> simp [asP, andThen_assoc, andThen_pure]
  have hs := Adds.set (cx := cx) hd hk (listComp 4 (strAt (var 1) (var 4)) (key Expected.segP "t"))
  rw [eval, eval_key, hB, comp_strAt hT 4 (by decide)] at hs
  refine (Adds.cond hc hs (Adds.nop hd)).congr ?_
  cases mb with
  | error e => rfl
  | ok p =>
    simp only [andThen_ok, optKey]
    cases contains "t" p with
    | error e => rfl
    | ok c =>
      cases c with
      | false => rfl
      | true =>
        simp only [andThen_ok, if_true]
        cases subscr p "t" with
        | error e => rfl
        | ok t => cases ht : truthy t <;> simp [parseTokens, ht, andThen_assoc, Val.store]

theorem exec_seq_assign (w : Nat) (b : Stmt) :
    exec cx (seq (assign w dictEmpty) b) loc = exec cx b (loc.set w (.pv (.dict []))) := rfl

theorem exec_placeholderBlock {seg : PVal} {mp : Except PyErr PVal} {l : Dict} (hf : SegFrame loc seg)
    (hp : subscr seg "p" = mp) (hl : DictAt loc₀ 2 l loc) (hk : l.lookup "placeholder" = Option.none) :
    Adds loc₀ 2 l ["placeholder"] (mp >>=? fun p => parsePlaceholder cx.S p >>=? fun r => .ok [("placeholder", r)])
      (exec cx Expected.placeholderBlock loc) := by
  have hB : ∀ {d loc'}, DictAt loc 3 d loc' → eval cx loc' Expected.segP >>=? asP = mp := fun h =>
    (eval_segKey (hf.below h (by decide)) "p").trans hp
  have hT : ∀ {d loc'}, DictAt loc 3 d loc' → loc' 1 = some .table := fun h => (hf.below h (by decide)).h1
  have h0 := DictAt.init loc 3 []
  rw [Expected.placeholderBlock, exec_seq_assign]
  refine (Adds.bind (exec_optStr (hB h0) (hT h0) h0 rfl "rs") fun f1 l1 k1 h1 =>
    Adds.bind (exec_tokens (hB h1) (hT h1) h1 (by simp [k1])) fun f2 l2 k2 h2 =>
    Adds.bind (exec_optStr (hB h2) (hT h2) h2 (by simp [List.lookup_append, k1, k2]) "tn")
      fun f3 l3 k3 h3 =>
    Adds.bind (exec_optStr (hB h3) (hT h3) h3 (by simp [List.lookup_append, k1, k2, k3]) "ty")
      fun f4 l4 k4 h4 =>
    Adds.bind (Adds.setOfKey (hB h4) h4 (by simp [List.lookup_append, k1, k2, k3, k4]) "w")
      fun f5 l5 k5 h5 =>
    Adds.bind (Adds.setOfKey (hB h5) h5 (by simp [List.lookup_append, k1, k2, k3, k4, k5]) "p")
      fun f6 l6 k6 h6 =>
    Adds.setOfVar hl h6 (by decide) hk).congr ?_
  cases mp with
  | error e => rfl
  | ok p => simp [parsePlaceholder, andThen_assoc, plainField]

/-- `v.get('name') == n` on a local dict is the model's `getEq` -/
theorem eval_getEq {v : Nat} {d : Dict} (hv : loc v = some (.pv (.dict d))) (name : String) (n : Int) :
    eval cx loc (eqInt (get (var v) name) n) >>=? asP = .ok (.bool (getEq d name n)) := by
  cases hl : d.lookup name with
  | none => simp [eval, hv, asP, getEq, hl, pyEqInt, numOf]
  | some x => simp [eval, hv, asP, getEq, hl]

theorem Adds.after {v : Nat} {d f : Dict} {ks ks' : List String} {m : Except PyErr Dict} {r : Except PyErr Outcome}
    (hf : KeysIn ks f) (h : Adds loc₀ v (d ++ f) ks' m r) :
    Adds loc₀ v d (ks ++ ks') (m >>=? fun g => .ok (f ++ g)) r := by
  cases m with
  | error e => exact h
  | ok g =>
    obtain ⟨hg, loc', hr, hd⟩ := h
    refine ⟨fun k hk => ?_, loc', hr, by rwa [← List.append_assoc]⟩
    rw [List.mem_append, not_or] at hk
    simp [List.lookup_append, hf k hk.1, hg k hk.2]

/-- `if parsed_arg.get('category') == 1: <sc>; <st>` -/
theorem exec_scalarBlock {ma : Except PyErr PVal} {d : Dict} {c : Bool}
    (hA : ∀ {d loc}, DictAt loc₀ 5 d loc → eval cx loc Expected.segA >>=? asP = ma)
    (hd : DictAt loc₀ 5 d loc) (hc : getEq d "category" 1 = c) (hsc : d.lookup "scalar_category" = Option.none)
    (hst : d.lookup "scalar_type" = Option.none) :
    Adds loc₀ 5 d ["scalar_category", "scalar_type"]
      (if c then ma >>=? fun a =>
         optKey a "sc" (plainField "scalar_category") [] >>=? fun c1 =>
         optKey a "st" (plainField "scalar_type") [] >>=? fun c2 => .ok (c1 ++ c2)
       else .ok []) (exec cx Expected.scalarBlock loc) := by
  subst hc
  refine (Adds.cond (eval_getEq hd.val "category" 1)
    (Adds.bind (exec_optPlain (hA hd) hd hsc "sc") fun c1 l1 k1 h1 =>
      (exec_optPlain (hA h1) h1 (by simp [List.lookup_append, hst, k1]) "st").after k1) (Adds.nop hd)).congr ?_
  cases ma <;> rfl

/-- `if 'availability' not in parsed_arg or parsed_arg['availability'] == 3: if 'or' in …: …` -/
theorem exec_objectBlock {ma : Except PyErr PVal} {d : Dict} {c₁ c₂ : Bool}
    (hA : eval cx loc Expected.segA >>=? asP = ma) (hT : loc 1 = some .table) (hd : DictAt loc₀ 5 d loc)
    (h₁ : ((d.lookup "availability").isNone || getEq d "availability" 3) = c₁) (h₂ : getEq d "category" 2 = c₂)
    (hk : d.lookup "object_representation" = Option.none) :
    Adds loc₀ 5 d ["object_representation"]
      (if c₁ then ma >>=? fun a =>
         optKey a "or" (fun v => if c₂ then strField cx.S "object_representation" v
                                 else plainField "object_representation" v) []
       else .ok []) (exec cx Expected.objectBlock loc) := by
  subst h₁ h₂
  have hc : eval cx loc (or (not (hasKey "availability" (var 5))) (eqInt (key (var 5) "availability") 3)) >>=? asP =
      .ok (.bool ((d.lookup "availability").isNone || getEq d "availability" 3)) := by
    cases hl : d.lookup "availability" with
    | none => simp [eval, hd.val, asP, contains, hl]
    | some x => simp [eval, hd.val, asP, contains, subscr, hl, getEq]
  refine (Adds.cond hc (Adds.opt hA hd "or" ((Adds.cond (eval_getEq hd.val "category" 2)
    (Adds.setOfStr hA hT hd hk "or") (Adds.setOfKey hA hd hk "or")).congr ?_)) (Adds.nop hd)).congr rfl
  cases ma <;> cases getEq d "category" 2 <;> rfl

theorem isNone_lookup {f : Dict} {name : String} (h : KeysIn [name] f) : (f.lookup name).isNone = f.isEmpty := by
  cases f with
  | nil => rfl
  | cons p r =>
    by_cases hk : p.1 = name
    · simp [List.lookup, ← hk]
    · simpa [List.lookup] using h p.1 (by simpa using hk)

theorem exec_argBlock {seg : PVal} {ma : Except PyErr PVal} {l : Dict} (hf : SegFrame loc seg)
    (ha : subscr seg "a" = ma) (hl : DictAt loc₀ 2 l loc) (hk : l.lookup "arg" = Option.none) :
    Adds loc₀ 2 l ["arg"] (ma >>=? fun a => parseArg cx.S a >>=? fun r => .ok [("arg", r)])
      (exec cx Expected.argBlock loc) := by
  have hA : ∀ {d loc'}, DictAt loc 5 d loc' → eval cx loc' Expected.segA >>=? asP = ma := fun h =>
    (eval_segKey (hf.below h (by decide)) "a").trans ha
  have h0 := DictAt.init loc 5 []
  rw [Expected.argBlock, exec_seq_assign]
  refine (Adds.bind (exec_optPlain (hA h0) h0 rfl "a") fun b1 l1 k1 h1 =>
    Adds.bind (exec_optPlain (hA h1) h1 (by simp [k1]) "p") fun b2 l2 k2 h2 =>
    Adds.bind (exec_optPlain (hA h2) h2 (by simp [List.lookup_append, k1, k2]) "c") fun b3 l3 k3 h3 =>
    Adds.bind (exec_scalarBlock hA h3 (c := getEq b3 "category" 1) (by simp [getEq, List.lookup_append, k1, k2])
      (by simp [List.lookup_append, k1, k2, k3]) (by simp [List.lookup_append, k1, k2, k3])) fun b4 l4 k4 h4 =>
    Adds.bind (exec_objectBlock (hA h4) (hf.below h4 (by decide)).h1 h4
      (c₁ := b1.isEmpty || getEq b1 "availability" 3) (c₂ := getEq b3 "category" 2)
      (by simp [getEq, List.lookup_append, k2, k3, k4, isNone_lookup k1])
      (by simp [getEq, List.lookup_append, k1, k2, k4])
      (by simp [List.lookup_append, k1, k2, k3, k4])) fun b5 l5 k5 h5 =>
    Adds.setOfVar hl h5 (by decide) hk).congr ?_
  cases ma with
  | error e => rfl
  | ok a => simp [parseArg, andThen_assoc]

def Returns (m : Except PyErr PVal) (r : Except PyErr Outcome) : Prop :=
  r = match m with
      | .error e => .error e
      | .ok x => .ok (.ret x)

theorem Returns.congr {m m' : Except PyErr PVal} {r : Except PyErr Outcome} (h : Returns m r) (e : m = m') :
    Returns m' r := e ▸ h

theorem exec_segmentBody {seg : PVal} (hf : SegFrame loc seg) :
    Returns (parseSegment cx.S seg) (exec cx Expected.segmentBody loc) := by
  have hB : ∀ {d loc'}, DictAt loc 2 d loc' → eval cx loc' (var 0) >>=? asP = .ok seg := fun h => by
    rw [eval, (hf.below h (by decide)).h0]; rfl
  have h0 := DictAt.init loc 2 []
  rw [Expected.segmentBody, exec_seq_assign, parseSegment]
  exact Adds.bind (exec_optStr (hB h0) (hf.below h0 (by decide)).h1 h0 rfl "lp") fun f1 l1 k1 h1 =>
    Adds.bind (Adds.opt (hB h1) h1 "p" (exec_placeholderBlock (hf.below h1 (by decide)) rfl h1 (by simp [k1])))
      fun f2 l2 k2 h2 =>
    Adds.bind (Adds.opt (hB h2) h2 "a" (exec_argBlock (hf.below h2 (by decide)) rfl h2
      (by simp [List.lookup_append, k1, k2]))) fun f3 l3 k3 h3 => by
    rw [Returns, exec, eval, h3.val]
    rfl

end blocks

theorem runBody_of_returns {cx : Ctx} {name : String} {params : Nat} {body : Stmt} {args : List Val}
    {m : Except PyErr PVal} (h : Returns m (exec cx body (Locals.ofArgs args))) (hn : args.length = params) :
    runBody cx ⟨name, params, body⟩ args = m := by
  simp only [runBody, hn, ne_eq, not_true, if_false, show exec cx body (Locals.ofArgs args) = _ from h]
  cases m <;> rfl

section methods
variable (T : IdTables) (S : Strings)

theorem exec_seq (cx : Ctx) (loc : Locals) (a b : Stmt) : exec cx (seq a b) loc =
    match exec cx a loc with
    | .ok (.normal loc') => exec cx b loc'
    | r => r := rfl

theorem exec_ite (cx : Ctx) (loc : Locals) (c : Expr) (t e : Stmt) : exec cx (ite c t e) loc =
    eval cx loc c >>=? asP >>=? fun p => if truthy p then exec cx t loc else exec cx e loc := rfl

/-- the comprehension element `cls.parse_decomposed_segment(seg, log_strings)` is the callee on the element -/
theorem comp_call (cx : Ctx) (loc : Locals) (hT : loc 1 = some .table) :
    (fun x => eval cx (loc.set 3 (.pv x)) (call2 "parse_decomposed_segment" (var 3) (var 1)) >>=? Val.store) =
      fun x => cx.call "parse_decomposed_segment" [.pv x, .table] := by
  funext x
  have h1 : (loc.set 3 (.pv x)) 1 = some .table := by rw [Locals.set_other _ _ _ _ (by decide)]; exact hT
  simp only [eval, h1, Locals.set_same, andThen_ok]
  exact store_pv _

theorem exec_assign (cx : Ctx) (loc : Locals) (v : Nat) (e : Expr) :
    exec cx (assign v e) loc = eval cx loc e >>=? fun x => .ok (.normal (loc.set v x)) := rfl

theorem exec_ret (cx : Ctx) (loc : Locals) (e : Expr) :
    exec cx (ret e) loc = eval cx loc e >>=? Val.store >>=? fun p => .ok (.ret p) := rfl

theorem exec_decomposedBody (cx : Ctx) (loc : Locals) {dm : PVal} (hf : SegFrame loc dm)
    (hcall : ∀ seg, cx.call "parse_decomposed_segment" [.pv seg, .table] = parseSegment cx.S seg) :
    Returns (OsLog.parseDecomposed cx.S dm) (exec cx Expected.decomposedBody loc) := by
  have hk : ∀ k, eval cx loc (key (var 0) k) = (subscr dm k >>=? fun r => .ok (.pv r)) := fun k => by
    simp [eval, hf.h0, asP]
  rw [Expected.decomposedBody, exec_seq, exec_assign, eval, eval, hk, hk, OsLog.parseDecomposed]
  cases subscr dm "pc" with
  | error e => rfl
  | ok pc =>
    cases subscr dm "s" with
    | error e => rfl
    | ok st =>
      have hd := DictAt.init loc 2 (dset (dset [] "placeholder_count" pc) "state" st)
      have hf2 := hf.below hd (by decide)
      have hs := Adds.set (cx := cx) (name := "segments") hd rfl (listComp 3 (call2 "parse_decomposed_segment" (var 3) (var 1))
        (key (var 0) "seg"))
      rw [eval, eval_segKey hf2, comp_call cx _ hf2.h1, funext hcall] at hs
      have hpc : subscr (.dict (dset (dset [] "placeholder_count" pc) "state" st)) "placeholder_count" = .ok pc := rfl
      show Returns _ (exec cx (seq _ _) (loc.set 2 _))
      rw [exec_seq, exec_ite, eval, eval_key, eval, hd.val]
      simp only [andThen_ok, asP, hpc]
      cases truthy pc with
      | false => rfl
      | true =>
        refine Returns.congr (Adds.bind (R := Returns) (K := fun f => .ok (.dict (_ ++ f))) hs fun f loc' _ hd' => by
          rw [Returns, exec, eval, hd'.val]
          rfl) ?_
        simp only [andThen_assoc, andThen_ok, Val.store, if_true]
        rfl

theorem findFun_segment : findFun Expected.prog "parse_decomposed_segment" = some Expected.parseDecomposedSegment :=
  rfl
theorem findFun_decomposed : findFun Expected.prog "parse_decomposed" = some Expected.parseDecomposed := rfl
theorem findFun_traceId : findFun Expected.prog "parse_trace_identifier" = some Expected.parseTraceIdentifier := rfl

/-- **`parse_decomposed_segment`, interpreted, is `parseSegment`**, at any nesting level that is left — whatever the
    calls of other methods mean (it makes none) -/
theorem callLevel_segment (d : Nat) (seg : PVal) :
    callLevel T S Expected.prog (d + 1) "parse_decomposed_segment" [.pv seg, .table] = parseSegment S seg := by
  rw [callLevel, findFun_segment]
  exact runBody_of_returns (exec_segmentBody (cx := ⟨T, S, _, _⟩) ⟨rfl, rfl⟩) rfl

/-- `run` is `callLevel` at depth 3, the number of methods of the expected program. -/
theorem run_segment (seg : PVal) :
    run T S Expected.prog "parse_decomposed_segment" [.pv seg, .table] = parseSegment S seg :=
  callLevel_segment T S 2 seg

/-- **`parse_decomposed`, interpreted, is `parseDecomposed`**: the method it calls is `parseSegment` -/
theorem run_decomposed (dm : PVal) :
    run T S Expected.prog "parse_decomposed" [.pv dm, .table] = OsLog.parseDecomposed S dm := by
  show callLevel T S Expected.prog 3 _ _ = _
  rw [callLevel, findFun_decomposed]
  exact runBody_of_returns (exec_decomposedBody ⟨T, S, _, _⟩ _ ⟨rfl, rfl⟩ (callLevel_segment T S 1)) rfl

end methods

end KdVerif.PyIROl

namespace KdVerif.PyIROl
open KdVerif.OsLog

/-- the leaves `parse_trace_identifier` reads from the parsed container -/
def idIntLeaves : List String := ["namespace", "type_", "trace_flags.pc_style", "flags", "code"]
def idFlagLeaves : List String :=
  ["trace_flags.has_large_offset", "trace_flags.has_unique_pid", "trace_flags.has_current_aid"]

/-- **What the refinement proof of `parse_trace_identifier` needs from the REFLECTED tables** (decidable; `C16.id_tables_coherent` proves
    it of the generated tables by `decide`): the three enum classes the source names are the ones reflected under
    `nsEnum` / `pcEnum` / `signpostType`; the namespace class is a plain `Enum` that has a member `signpost` whose value is
    the reflected `signpost`; the signpost type class is a flag class; the reflected layout of `firehose_tracepoint_id`
    yields the leaves the method reads, `Flag`s exactly for the three booleans, and `trace_flags` is a nested struct (not
    a leaf). -/
def Coherent (T : IdTables) : Prop :=
  T.nsEnum.cls.name = "FirehoseTracepointNamespace" ∧ T.nsEnum.kind = .plain ∧
  T.pcEnum.cls.name = "FirehoseTracepointFlagsPcStyle" ∧
  T.signpostType.cls.name = "FirehoseTracepointSignpostType" ∧ T.signpostType.kind ≠ .plain ∧
  (T.nsEnum.cls.members.find? (·.name == "signpost")).isSome = true ∧
  T.signpost = (T.nsEnum.cls.members.find? (·.name == "signpost")).map (·.value) ∧
  (∀ n ∈ idIntLeaves ++ idFlagLeaves, n ∈ layoutKeys T.layout) ∧
  "trace_flags" ∉ layoutKeys T.layout ∧ (layoutGroups T.layout).contains "trace_flags" = true ∧
  (∀ n ∈ idFlagLeaves, (layoutFlags T.layout).contains n = true) ∧
  (∀ n ∈ idIntLeaves, (layoutFlags T.layout).contains n = false)

instance (T : IdTables) : Decidable (Coherent T) := by unfold Coherent; infer_instance

theorem parseBits_keys : ∀ (bfs : List BitField) (bs : List Nat) (r : List (String × Nat)),
    parseBits bfs bs = .ok r → r.map (·.1) = bitKeys bfs
  | [], bs, r, h => by cases h; rfl
  | .pad n :: fs, bs, r, h => by
    rw [parseBits] at h
    split at h
    · cases h
    · exact parseBits_keys fs _ r h
  | .flag nm :: fs, [], r, h => by cases h
  | .flag nm :: fs, b :: rest, r, h => by
    obtain ⟨r', hr, h⟩ := OsLog.andThen_eq_ok.mp h
    cases h
    exact congrArg (nm :: ·) (parseBits_keys fs rest r' hr)
  | .uint nm n :: fs, bs, r, h => by
    rw [parseBits] at h
    split at h
    · cases h
    · obtain ⟨r', hr, h⟩ := OsLog.andThen_eq_ok.mp h
      cases h
      exact congrArg (nm :: ·) (parseBits_keys fs _ r' hr)
  | .unsupported _ :: _, bs, r, h => by cases h

theorem parseLayout_keys : ∀ (L : List LField) (bs : Bytes) (r : List (String × Nat)),
    parseLayout L bs = .ok r → r.map (·.1) = layoutKeys L
  | [], bs, r, h => by cases h; rfl
  | .uint nm sz le :: fs, bs, r, h => by
    rw [parseLayout] at h
    split at h
    · cases h
    · obtain ⟨r', hr, h⟩ := OsLog.andThen_eq_ok.mp h
      cases h
      exact congrArg (nm :: ·) (parseLayout_keys fs _ r' hr)
  | .bits _ bfs :: fs, bs, r, h => by
    rw [parseLayout] at h
    split at h
    · cases h
    · obtain ⟨rb, hb, h⟩ := OsLog.andThen_eq_ok.mp h
      obtain ⟨r', hr, h⟩ := OsLog.andThen_eq_ok.mp h
      cases h
      rw [List.map_append, parseBits_keys bfs _ rb hb, parseLayout_keys fs _ r' hr]
      rfl
  | .unsupported _ :: _, bs, r, h => by cases h

theorem parseWordP_keys {T : IdTables} {v : PVal} {fs : List (String × Nat)} (h : parseWordP T v = .ok fs) :
    fs.map (·.1) = layoutKeys T.layout := by
  unfold parseWordP at h
  cases hn : numOf v with
  | none => simp [hn] at h
  | some n =>
    simp only [hn] at h
    split at h
    · cases h
    · split at h
      · exact parseLayout_keys _ _ _ h
      · cases h

theorem lookup_of_mem_keys {fs : List (String × Nat)} {n : String} (h : n ∈ fs.map (·.1)) :
    ∃ x, fs.lookup n = some x :=
  Option.isSome_iff_exists.mp (by simpa using h)

theorem lookup_none_of_not_mem_keys {fs : List (String × Nat)} {n : String} (h : n ∉ fs.map (·.1)) :
    fs.lookup n = Option.none := by
  simp only [List.mem_map, not_exists, not_and, List.lookup_eq_none_iff, bne_iff_ne] at h ⊢
  exact fun p hp hn => h p hp hn.symm

theorem parseTraceIdentifier_eq (T : IdTables) (v : PVal) :
    parseTraceIdentifier T v = (parseWordP T v >>=? decodeFields T >>=? fun t => .ok t.toPVal) := by
  unfold parseTraceIdentifier parseWordP decodeId
  cases hn : numOf v with
  | none => rfl
  | some n =>
    simp only []
    by_cases h0 : n < 0
    · simp [h0]
    · by_cases h1 : n.toNat < 256 ^ T.wordSize <;> simp [h0, h1]

section traceid
variable (cx : Ctx) (loc : Locals)

theorem enumCall_plain {r : EnumRef} (hk : r.kind = .plain) (x : Nat) :
    enumCall r x = match r.cls.ofValue x with
      | some m => .ok (.member r.cls.name m.name m.value)
      | Option.none => .error .valueError := by
  unfold enumCall; rw [hk]; rfl

theorem enumCall_flagKind {r : EnumRef} (hk : r.kind ≠ .plain) {x : Nat} {e : EnumVal} (h : enumCall r x = .ok e) :
    e = .flags r.cls.name x := by
  unfold enumCall at h
  cases hkind : r.kind with
  | plain => exact absurd hkind hk
  | keepFlag => simp [hkind] at h; exact h.symm
  | strictFlag =>
    simp only [hkind] at h
    split at h
    · simp at h; exact h.symm
    · cases h

theorem callEnum_nat (r : EnumRef) (n : Nat) : callEnum r (.int (n : Int)) = (enumCall r n >>=? fun e => .ok (.ev e)) := by
  simp [callEnum]

theorem classOf_coherent {T : IdTables} (hc : Coherent T) :
    classOf T "FirehoseTracepointNamespace" = some T.nsEnum ∧
    classOf T "FirehoseTracepointFlagsPcStyle" = some T.pcEnum ∧
    classOf T "FirehoseTracepointSignpostType" = some T.signpostType := by
  obtain ⟨h1, _, h3, h4, _⟩ := hc
  simp [classOf, List.find?, h1, h3, h4]

/-- the frame of `parse_trace_identifier` after its first statement: v1 = the parsed container -/
structure IdFrame (T : IdTables) (loc : Locals) (fs : List (String × Nat)) : Prop where
  h1 : loc 1 = some (.con "" fs)
  grp : fs.lookup "trace_flags" = Option.none
  grpL : (layoutGroups T.layout).contains "trace_flags" = true

theorem IdFrame.set {T : IdTables} {loc : Locals} {fs : List (String × Nat)} (h : IdFrame T loc fs) (v : Nat) (x : Val)
    (hv : 2 ≤ v) : IdFrame T (loc.set v x) fs :=
  ⟨by rw [Locals.set_other _ _ _ _ (by omega)]; exact h.h1, h.grp, h.grpL⟩

/-- `trace_id.<name>` for an integer leaf -/
theorem eval_attr {fs : List (String × Nat)} (hf : IdFrame cx.T loc fs) {name : String} {n : Nat}
    (hl : fs.lookup name = some n) (hb : (layoutFlags cx.T.layout).contains name = false) :
    eval cx loc (.attr (.var 1) name) = .ok (.pv (.int n)) := by
  have hb' : name ∉ layoutFlags cx.T.layout := by simpa using hb
  simp [eval, hf.h1, conAttr, hl, hb']

theorem eval_idFlag {fs : List (String × Nat)} (hf : IdFrame cx.T loc fs) (name : String) :
    eval cx loc (Expected.idFlag name) = conAttr cx.T "trace_flags." fs name := by
  have hg : "trace_flags" ∈ layoutGroups cx.T.layout := by simpa using hf.grpL
  simp [Expected.idFlag, eval, hf.h1, conAttr, hf.grp, hg]

/-! `trace_namespace` (v2) holds the member of value `a`: `v2 in <dict>` and `<dict>[v2](x)` for a module-level dict -/

theorem eval_inTable {tbl : String} {entries : List (Int × EnumRef)} (ht : tableOf cx.T tbl = some entries)
    {n : String} {a : Nat} (h2 : loc 2 = some (.ev (.member cx.T.nsEnum.cls.name n a))) :
    eval cx loc (.inTable (.var 2) tbl) = .ok (.pv (.bool (entries.lookup (a : Int)).isSome)) := by
  simp [eval, ht, h2, tableLookup]

theorem eval_tableCall {tbl : String} {entries : List (Int × EnumRef)} (ht : tableOf cx.T tbl = some entries)
    {n : String} {a : Nat} (h2 : loc 2 = some (.ev (.member cx.T.nsEnum.cls.name n a))) {r : EnumRef}
    (hl : entries.lookup (a : Int) = some r) {x : Expr} {k : Nat} (hx : eval cx loc x = .ok (.pv (.int k))) :
    eval cx loc (.tableCall tbl (.var 2) x) = (OsLog.enumCall r k >>=? fun e => .ok (.ev e)) := by
  simp [eval, ht, h2, tableLookup, hl, hx, asP, callEnum_nat]

theorem tableOf_types (T : IdTables) : tableOf T "tracepoint_types" = some T.types := rfl
theorem tableOf_flags (T : IdTables) : tableOf T "tracepoint_flags" = some T.flags := rfl

theorem exec_typeBlock (hc : Coherent cx.T) {a t : Nat} {n : String}
    (hty : eval cx loc Expected.idType = .ok (.pv (.int t)))
    (h2 : loc 2 = some (.ev (.member cx.T.nsEnum.cls.name n a))) :
    match typeOf cx.T a t with
    | .error e => exec cx Expected.typeBlock loc = .error e
    | .ok ty => ∃ tv, exec cx Expected.typeBlock loc = .ok (.normal (loc.set 3 tv)) ∧ tv.store = .ok ty.toPVal := by
  unfold typeOf
  rw [Expected.typeBlock, exec_ite, eval_inTable cx loc (tableOf_types _) h2]
  cases hl : cx.T.types.lookup (a : Int) with
  | some r =>
    simp only [andThen_ok, asP, truthy_bool, Option.isSome_some, if_true]
    rw [exec_assign, eval_tableCall cx loc (tableOf_types _) h2 hl hty]
    cases OsLog.enumCall r t with
    | error e => rfl
    | ok ty => exact ⟨.ev ty, rfl, rfl⟩
  | none =>
    have hcls := (classOf_coherent hc).2.2
    obtain ⟨h1, _, _, _, hk, hsp, hsv, _⟩ := hc
    obtain ⟨ms, hms⟩ := Option.isSome_iff_exists.mp hsp
    have hmem : eval cx loc (.isMember (.var 2) "FirehoseTracepointNamespace" "signpost") =
        .ok (.pv (.bool ((a : Int) == ms.value))) := by
      simp [eval, h2, classOf, h1, hms]
    simp only [andThen_ok, asP, truthy_bool, Option.isSome_none, Bool.false_eq_true, if_false]
    rw [exec_ite, hmem, hsv, hms]
    by_cases hv : ms.value = (a : Int)
    · have hb : ((a : Int) == ms.value) = true := by simp [hv]
      simp only [andThen_ok, asP, truthy_bool, if_true, Option.map_some, hv]
      have hband : ∀ msk : Nat, eval cx loc (.enumCall "FirehoseTracepointSignpostType" (.band Expected.idType msk)) =
          (OsLog.enumCall cx.T.signpostType (t &&& msk) >>=? fun e => .ok (.ev e)) := fun msk => by
        simp [eval, hcls, hty, asP, callEnum_nat]
      rw [exec_assign, eval, hband, hband]
      cases e1 : OsLog.enumCall cx.T.signpostType (t &&& 0xc0) with
      | error e => simp
      | ok v1 =>
        have := enumCall_flagKind hk e1; subst this
        cases e2 : OsLog.enumCall cx.T.signpostType (t &&& 0x3f) with
        | error e => simp
        | ok v2 =>
          have := enumCall_flagKind hk e2; subst this
          simp only [andThen_ok, beq_self_eq_true, if_true]
          exact ⟨_, rfl, rfl⟩
    · have hb : ((a : Int) == ms.value) = false := by simpa using fun h => hv h.symm
      have hne : ¬ (some ms.value = some (a : Int)) := by simpa using hv
      simp only [andThen_ok, asP, truthy_bool, hb, Bool.false_eq_true, if_false, Option.map_some, hne]
      rw [exec_assign, hty]
      exact ⟨_, rfl, rfl⟩

theorem decodeFields_eq (T : IdTables) {fs : List (String × Nat)} {a t lo up pcv aid fl code : Nat}
    (h1 : fs.lookup "namespace" = some a) (h2 : fs.lookup "type_" = some t)
    (h3 : fs.lookup "trace_flags.has_large_offset" = some lo) (h4 : fs.lookup "trace_flags.has_unique_pid" = some up)
    (h5 : fs.lookup "trace_flags.pc_style" = some pcv) (h6 : fs.lookup "trace_flags.has_current_aid" = some aid)
    (h7 : fs.lookup "flags" = some fl) (h8 : fs.lookup "code" = some code) :
    decodeFields T fs =
      (OsLog.enumCall T.nsEnum a >>=? fun ns => typeOf T a t >>=? fun ty =>
       OsLog.enumCall T.pcEnum pcv >>=? fun pc => flagsOf T a fl >>=? fun f =>
       .ok { ns := ns, type_ := ty, hasLargeOffset := lo != 0, hasUniquePid := up != 0, pcStyle := pc,
             hasCurrentAid := aid != 0, flags := f, code := code }) := by
  unfold decodeFields typeOf flagsOf
  simp only [OsLog.attr, h1, h2, h3, h4, h5, h6, h7, h8, andThen_ok]
  cases OsLog.enumCall T.nsEnum a with
  | error e => rfl
  | ok ns =>
    simp only [andThen_ok]
    cases T.types.lookup (a : Int) with
    | some r => cases T.flags.lookup (a : Int) <;> rfl
    | none =>
      by_cases hs : T.signpost = some (a : Int)
      · cases T.flags.lookup (a : Int) <;> simp only [hs, if_true] <;> rfl
      · cases T.flags.lookup (a : Int) <;> simp only [hs, if_false] <;> rfl

theorem eval_dictAdd (d : Expr) (k : String) (v : Expr) : eval cx loc (.dictAdd d k v) =
    eval cx loc d >>=? fun dv =>
    match dv with
    | .pv (.dict kv) => eval cx loc v >>=? fun x => x.store >>=? fun p => .ok (.pv (.dict (dset kv k p)))
    | _ => .error .unmodelled := rfl

theorem eval_enumCall (cls : String) (e : Expr) : eval cx loc (.enumCall cls e) =
    match classOf cx.T cls with
    | Option.none => .error .unmodelled
    | some r => eval cx loc e >>=? asP >>=? callEnum r := rfl

/-- `TraceIdentifier(…)` with its keyword arguments, returned -/
theorem exec_retId (hc : Coherent cx.T) (hP : findClass cx.P "TraceIdentifier" = some Expected.clsTraceIdentifier)
    {fs : List (String × Nat)} (hf : IdFrame cx.T loc fs) {a lo up pcv aid fl code : Nat} {n : String} {tv : Val}
    {ty : EnumVal} (h2 : loc 2 = some (.ev (.member cx.T.nsEnum.cls.name n a)))
    (h3 : loc 3 = some tv) (hs : tv.store = .ok ty.toPVal)
    (l3 : fs.lookup "trace_flags.has_large_offset" = some lo) (l4 : fs.lookup "trace_flags.has_unique_pid" = some up)
    (l5 : fs.lookup "trace_flags.pc_style" = some pcv) (l6 : fs.lookup "trace_flags.has_current_aid" = some aid)
    (l7 : fs.lookup "flags" = some fl) (l8 : fs.lookup "code" = some code) :
    Returns ((OsLog.enumCall cx.T.pcEnum pcv >>=? fun pc => flagsOf cx.T a fl >>=? fun f =>
        .ok { ns := .member cx.T.nsEnum.cls.name n a, type_ := ty, hasLargeOffset := lo != 0, hasUniquePid := up != 0,
              pcStyle := pc, hasCurrentAid := aid != 0, flags := f, code := code }) >>=? fun t : TraceId => .ok t.toPVal)
      (exec cx (.ret (.construct "TraceIdentifier" Expected.idKeywords)) loc) := by
  have hpc := (classOf_coherent hc).2.1
  obtain ⟨_, _, _, _, _, _, _, _, _, _, hfl, hil⟩ := hc
  simp only [idFlagLeaves, List.forall_mem_cons] at hfl
  have e7 := eval_attr cx loc hf l7 (hil _ (by decide))
  have e8 := eval_attr cx loc hf l8 (hil _ (by decide))
  have hv2 : eval cx loc (.var 2) = .ok (.ev (.member cx.T.nsEnum.cls.name n a)) := by simp [eval, h2]
  have hv3 : eval cx loc (.var 3) = .ok tv := by simp [eval, h3]
  -- `flags=… if … else None`, as it is stored
  have hflags : (eval cx loc (.ifExp (.inTable (.var 2) "tracepoint_flags")
      (.tableCall "tracepoint_flags" (.var 2) (.attr (.var 1) "flags")) .none) >>=? Val.store) =
      (flagsOf cx.T a fl >>=? fun f => .ok f.toPVal) := by
    rw [eval, eval_inTable cx loc (tableOf_flags _) h2]
    unfold flagsOf
    cases hl : cx.T.flags.lookup (a : Int) with
    | none => rfl
    | some r =>
      simp only [andThen_ok, asP, truthy_bool, Option.isSome_some, if_true]
      rw [eval_tableCall cx loc (tableOf_flags _) h2 hl e7]
      cases OsLog.enumCall r fl <;> rfl
  have hd0 : eval cx loc .dictEmpty = .ok (.pv (.dict [])) := rfl
  have sp : ∀ v : PVal, (Val.pv v).store = .ok v := fun _ => rfl
  have se : ∀ e : EnumVal, (Val.ev e).store = .ok e.toPVal := fun _ => rfl
  unfold Returns Expected.idKeywords
  rw [exec_ret, eval, hP]
  simp only [eval_dictAdd, ← andThen_assoc, hd0, hv2, hv3, hs, e8, hflags,
    eval_idFlag cx loc hf, conAttr, String.reduceAppend, l3, l4, l5, l6, hfl, hil "trace_flags.pc_style" (by decide), eval_enumCall, hpc, asP,
    callEnum_nat, sp, se, andThen_ok, if_true, Bool.false_eq_true, if_false]
  cases OsLog.enumCall cx.T.pcEnum pcv with
  | error e => rfl
  | ok pc => cases flagsOf cx.T a fl <;> rfl

theorem exec_traceIdBody (hc : Coherent cx.T)
    (hP : findClass cx.P "TraceIdentifier" = some Expected.clsTraceIdentifier) {v : PVal}
    (h0 : loc 0 = some (.pv v)) :
    Returns (parseTraceIdentifier cx.T v) (exec cx Expected.traceIdBody loc) := by
  unfold Returns
  rw [parseTraceIdentifier_eq, Expected.traceIdBody, exec_seq, exec_assign]
  have hpw : eval cx loc (.parseWord "firehose_tracepoint_id" "Int64ul" (.var 0)) =
      (parseWordP cx.T v >>=? fun fs => .ok (.con "" fs)) := by
    simp [eval, h0, asP]
  rw [hpw]
  cases hw : parseWordP cx.T v with
  | error e => rfl
  | ok fs =>
    simp only [andThen_ok]
    have hkeys := parseWordP_keys hw
    have hc' := hc
    obtain ⟨_, hplain, _, _, _, _, _, hleaves, hgrp, hgrpL, _, hil⟩ := hc'
    have lk : ∀ n, n ∈ idIntLeaves ++ idFlagLeaves → ∃ x, fs.lookup n = some x := fun n hn =>
      lookup_of_mem_keys (by rw [hkeys]; exact hleaves n hn)
    obtain ⟨a, l1⟩ := lk "namespace" (by decide)
    obtain ⟨t, l2⟩ := lk "type_" (by decide)
    obtain ⟨lo, l3⟩ := lk "trace_flags.has_large_offset" (by decide)
    obtain ⟨up, l4⟩ := lk "trace_flags.has_unique_pid" (by decide)
    obtain ⟨pcv, l5⟩ := lk "trace_flags.pc_style" (by decide)
    obtain ⟨aid, l6⟩ := lk "trace_flags.has_current_aid" (by decide)
    obtain ⟨fl, l7⟩ := lk "flags" (by decide)
    obtain ⟨code, l8⟩ := lk "code" (by decide)
    have hf1 : IdFrame cx.T (loc.set 1 (.con "" fs)) fs :=
      ⟨Locals.set_same _ _ _, lookup_none_of_not_mem_keys (by rw [hkeys]; exact hgrp), hgrpL⟩
    rw [decodeFields_eq cx.T l1 l2 l3 l4 l5 l6 l7 l8, exec_seq, exec_assign, eval_enumCall, (classOf_coherent hc).1,
      eval_attr cx _ hf1 l1 (hil _ (by decide))]
    simp only [andThen_ok, asP, callEnum_nat]
    rw [enumCall_plain hplain]
    cases hm : cx.T.nsEnum.cls.ofValue (a : Int) with
    | none => rfl
    | some m =>
      simp only [andThen_ok, (ofValue_value hm).1]
      have hf2 := hf1.set 2 (.ev (.member cx.T.nsEnum.cls.name m.name a)) (by omega)
      have tb := exec_typeBlock cx _ hc
        (eval_attr cx _ hf2 l2 (hil _ (by decide))) (Locals.set_same _ _ _)
      rw [exec_seq]
      cases hty : typeOf cx.T a t with
      | error e => rw [hty] at tb; simp only [] at tb; rw [tb]; rfl
      | ok ty =>
        rw [hty] at tb
        obtain ⟨tv, hx, hst⟩ := tb
        rw [hx]
        simp only [andThen_ok]
        exact exec_retId cx _ hc hP (hf2.set 3 tv (by omega))
          (by rw [Locals.set_other _ _ _ _ (by decide)]; exact Locals.set_same _ _ _) (Locals.set_same _ _ _) hst
          l3 l4 l5 l6 l7 l8

end traceid

section methods
variable (S : Strings)

theorem findClass_traceIdentifier : findClass Expected.prog "TraceIdentifier" = some Expected.clsTraceIdentifier :=
  rfl

/-- **`parse_trace_identifier`, interpreted, is `parseTraceIdentifier`** — on coherent reflected tables, whatever the
    string table and the calls of other methods (it makes none) -/
theorem run_traceId {T : IdTables} (hc : Coherent T) (v : PVal) :
    run T S Expected.prog "parse_trace_identifier" [.pv v] = parseTraceIdentifier T v := by
  show callLevel T S Expected.prog 3 _ _ = _
  rw [callLevel, findFun_traceId]
  exact runBody_of_returns (exec_traceIdBody ⟨T, S, _, _⟩ _ hc findClass_traceIdentifier rfl) rfl

end methods

end KdVerif.PyIROl
