import KdVerif.Proofs.IRCallPart
/-
  C10 — syscall results: errors take precedence and come only from the END record.

  Subject: the BSD decoders of `Gen.Decoders.decoders` (regenerated from bsd.py on every run; the body
  of `serialize_result` / `handle_pipe` is inlined by the translator, so a change to the shared result
  serializer changes every decoder's IR and these theorems are re-checked against it).
-/
namespace KdVerif.C10
open KdVerif.IR KdVerif.DecoderFacts

/-- The BSD syscalls that cannot fail or do not return (the property's own list, by name key). -/
def exempt : List Nat :=
  [ 1522137941954752423160164        -- BSC_getpid
  , 1522137941954752423487844        -- BSC_getuid
  , 389667313140416620145240420      -- BSC_geteuid
  , 389667313140416620329462116      -- BSC_getppid
  , 389667313140416620144322916      -- BSC_getegid
  , 1522137941954752422570340        -- BSC_getgid
  , 389667313140416620328874608      -- BSC_getpgrp
  , 5945851335821014168427           -- BSC_umask
  , 23225981780518071907             -- BSC_sync
  , 471078875919418491243629222804630242497254857996901   -- BSC_sys_getdtablesize
  , 99754832163946654787145525614    -- BSC_getlogin
  , 1522137941952634751776357        -- BSC_execve
  , 5945851335825192612459           -- BSC_vfork
  , 1840151859037600149138904360953431088660723364965     -- BSC_bsdthread_create
  , 120596192233795280899163069076556861202883280777470308 ]  -- BSC_abort_with_payload

def commaSp : List Nat := [44, 32]

/-- `'errno: NAME(code)'` if the host knows the code, else `'errno: code'` — as an IR expression. -/
def errExpr : Expr :=
  .cat (.strLit [101, 114, 114, 110, 111, 58, 32])
    (.ite (.hostHas .errno (.endArg 0))
      (.cat (.hostGet .errno (.endArg 0)) (.cat (.strLit [40]) (.cat (.strOf (.endArg 0)) (.strLit [41]))))
      (.strOf (.endArg 0)))

/-- The success part may read the END record's return word (word 1; `pipe` also word 2) and nothing else. -/
def succSel : Sel := { endL := [1, 2] }

/-- `r` is "error text if the error word is non-zero, else `succ`" (both spellings in the source). -/
def resultOf : Expr → Option Expr
  | .ite (.notE (.endArg 0)) succ err => if err = errExpr then some succ else none
  | .ite (.endArg 0) err succ => if err = errExpr then some succ else none
  | _ => none

def resOK (r : Expr) : Bool :=
  match resultOf r with
  | some succ => within succSel succ
  | none => false

/-- The three ways a result is appended to the call text. -/
def tailOK : Expr → Bool
  | .ite r (.cat (.strLit l) (.strOf r')) (.strLit []) => l = commaSp && r = r' && resOK r   -- only if non-empty
  | .cat (.strLit l) (.strOf r) => l = commaSp && resOK r                                     -- always
  | .cat (.strLit l) (.cat (.strOf r) extra) =>                                                -- fsgetpath: + path
    l = commaSp && resOK r && within { lookups := true } extra
  | _ => false

def resultShaped (d : Decoder) : Bool :=
  !(d.family == 0) || exempt.contains d.key ||
    (match d.shape with
     | some s => tailOK (subst d.fields s.tail)
     | none => false)

/-- What a result part may read: the END record, host errno table, (fsgetpath) the looked-up path. -/
def tailSel : Sel := { endL := [0, 1, 2], hostErrno := true, lookups := true }

def tailReadsEndOnly (d : Decoder) : Bool :=
  !(d.family == 0) || exempt.contains d.key ||
    (match d.shape with
     | some s => within tailSel (subst d.fields s.tail)
     | none => false)

/-- The two facts about the result parts, checked in one pass over the table so that the kernel computes each
    inlined tail once: it has one of the three shapes, and it reads no START word, thread id or context table. -/
theorem tails_checked : decoders.all (fun d => resultShaped d && tailReadsEndOnly d) = true := by decide +kernel

/-- Every decoded BSD syscall outside the exempt list ends in a result part of one of the three shapes,
    built from the shared error text and a success text that reads only the END return word(s). -/
theorem all_resultful : decoders.all resultShaped = true :=
  List.all_eq_true.mpr fun d hd => ((Bool.and_eq_true ..).mp (List.all_eq_true.mp tails_checked d hd)).1

/-- Every BSD decoder is a syscall decoder of call shape, so what `calls_read_start_only` says about call
    parts (no END word, no errno name) holds of the whole family. -/
theorem bsd_syscallLike : decoders.all (fun d => !(d.family == 0) || syscallLike d) = true := by decide +kernel

def errText (h : Host) (e : Nat) : String :=
  "errno: " ++ (match h.errno e with
    | some n => n ++ ("(" ++ (toString e ++ ")"))
    | none => toString e)

theorem litString_errno : litString [101, 114, 114, 110, 111, 58, 32] = "errno: " := by decide
theorem litString_lp : litString [40] = "(" := by decide
theorem litString_rp : litString [41] = ")" := by decide

theorem errExpr_eval (c : Ctx) (e : Nat) (he : c.win.endArgs[0]? = some e) :
    eval c errExpr = .ok (.str (errText c.host e)) := by
  have h0 : ¬ ((e : Int) < 0) := by omega
  unfold errExpr errText
  cases hh : c.host.errno e with
  | none =>
    simp [eval, he, hh, Host.table, pyStr, bind, Except.bind, pure, Except.pure, litString_errno]
    rfl
  | some n =>
    simp [eval, he, hh, Host.table, pyStr, asNat, truthy, bind, Except.bind, pure, Except.pure, litString_errno,
      litString_lp, litString_rp, h0]
    rfl

theorem resultOf_eq_some {r succ : Expr} (h : resultOf r = some succ) :
    r = .ite (.notE (.endArg 0)) succ errExpr ∨ r = .ite (.endArg 0) errExpr succ := by
  unfold resultOf at h
  split at h
  · obtain ⟨rfl, ⟨⟩⟩ := Option.ite_none_right_eq_some.mp h
    exact .inl rfl
  · obtain ⟨rfl, ⟨⟩⟩ := Option.ite_none_right_eq_some.mp h
    exact .inr rfl
  · cases h

/-- **Errors take precedence**: if the END record's error word is non-zero, the result reads
    `errno: NAME(code)` / `errno: code` with exactly that code — whatever the success text, the return
    word and the START record are. -/
theorem result_error (c : Ctx) (r succ : Expr) (hr : resultOf r = some succ) (e : Nat)
    (he : c.win.endArgs[0]? = some e) (hne : e ≠ 0) :
    eval c r = .ok (.str (errText c.host e)) := by
  rcases resultOf_eq_some hr with rfl | rfl <;>
    simp [eval, he, truthy, hne, bind, Except.bind, pure, Except.pure, errExpr_eval c e he]

/-- **No errno on success**: if the error word is zero the result is the success text alone. -/
theorem result_success (c : Ctx) (r succ : Expr) (hr : resultOf r = some succ)
    (he : c.win.endArgs[0]? = some 0) : eval c r = eval c succ := by
  rcases resultOf_eq_some hr with rfl | rfl <;> simp [eval, he, truthy, bind, Except.bind, pure, Except.pure]

/-- **Any success value shown is a rendering of the END record's return word**: the success text is the
    same in any two contexts whose END return words (1, and 2 for `pipe`) agree — START record, error
    word, lookups, host and context tables may all differ. -/
theorem success_text_from_return_word (succ : Expr) (hs : within succSel succ = true) (c c' : Ctx)
    (ht : c.tables = c'.tables) (h1 : c.win.endArgs[1]? = c'.win.endArgs[1]?)
    (h2 : c.win.endArgs[2]? = c'.win.endArgs[2]?) : eval c succ = eval c' succ := by
  apply eval_congr succSel c c' _ succ hs
  exact { tables := ht, start := nofun, startAll := nofun, endA := nofun, tid := nofun, data := nofun,
          endL := fun k hk => by
            rcases List.mem_cons.mp (List.contains_iff_mem.mp hk) with rfl | hk
            · exact h1
            · cases List.mem_singleton.mp hk
              exact h2
          lookups := nofun, gstr := nofun, tpids := nofun, tnames := nofun, host := nofun, hostErrno := nofun,
          fields := nofun }

theorem decoder_result (d : Decoder) (hd : d ∈ decoders) (hfam : d.family = 0) (hex : d.key ∉ exempt) :
    ∃ s, d.shape = some s ∧ tailOK (subst d.fields s.tail) = true := by
  have h := List.all_eq_true.mp all_resultful d hd
  simp only [resultShaped, hfam, beq_self_eq_true, Bool.not_true, Bool.false_or, Bool.or_eq_true,
    List.contains_eq_mem, decide_eq_true_eq] at h
  rcases h with h | h
  · exact absurd h hex
  · split at h
    · exact ⟨_, ‹_›, h⟩
    · cases h

theorem resOK_spec {r : Expr} (h : resOK r = true) :
    ∃ succ, resultOf r = some succ ∧ within succSel succ = true := by
  unfold resOK at h
  split at h
  · exact ⟨_, ‹_›, h⟩
  · cases h

theorem tailOK_result (t : Expr) (h : tailOK t = true) :
    ∃ r succ, resultOf r = some succ ∧ within succSel succ = true ∧
      (t = .ite r (.cat (.strLit commaSp) (.strOf r)) (.strLit []) ∨
       t = .cat (.strLit commaSp) (.strOf r) ∨
       ∃ extra, t = .cat (.strLit commaSp) (.cat (.strOf r) extra) ∧ within { lookups := true } extra = true) := by
  unfold tailOK at h
  split at h
  · simp only [Bool.and_eq_true, decide_eq_true_eq] at h
    obtain ⟨⟨rfl, rfl⟩, hres⟩ := h
    obtain ⟨succ, hro, hw⟩ := resOK_spec hres
    exact ⟨_, succ, hro, hw, .inl rfl⟩
  · simp only [Bool.and_eq_true, decide_eq_true_eq] at h
    obtain ⟨rfl, hres⟩ := h
    obtain ⟨succ, hro, hw⟩ := resOK_spec hres
    exact ⟨_, succ, hro, hw, .inr (.inl rfl)⟩
  · simp only [Bool.and_eq_true, decide_eq_true_eq] at h
    obtain ⟨⟨rfl, hres⟩, hex⟩ := h
    obtain ⟨succ, hro, hw⟩ := resOK_spec hres
    exact ⟨_, succ, hro, hw, .inr (.inr ⟨_, rfl, hex⟩)⟩
  · cases h

/-- **The result part depends only on the END record** (and the host's errno names, and for fsgetpath the
    looked-up path): for every BSD decoder and any two windows whose END words 0..2 and lookups agree, the
    result texts are equal, whatever the START records, thread ids and context tables are. -/
theorem tail_depends_only_on_end (d : Decoder) (hd : d ∈ decoders) (hfam : d.family = 0)
    (hex : d.key ∉ exempt) (s : Shape) (hs : d.shape = some s) (h : Host) (t : Tables) (w w' : Window)
    (he : ∀ k, k < 3 → w.endArgs[k]? = w'.endArgs[k]?)
    (hl : w.lookups = w'.lookups) (hr : w.restFirst = w'.restFirst) :
    evalS (ctx h t w) (subst d.fields s.tail) = evalS (ctx h t w') (subst d.fields s.tail) := by
  have hw := ((Bool.and_eq_true ..).mp (List.all_eq_true.mp tails_checked d hd)).2
  simp only [tailReadsEndOnly, hfam, beq_self_eq_true, Bool.not_true, Bool.false_or, hs, Bool.or_eq_true,
    List.contains_eq_mem, decide_eq_true_eq] at hw
  rcases hw with hw | hw
  · exact absurd hw hex
  apply evalS_congr tailSel _ _ _ _ hw
  exact { tables := rfl, start := nofun, startAll := nofun, endA := nofun, tid := nofun, data := nofun,
          endL := fun k hk => he k (by
            simp only [tailSel, List.contains_iff_mem, List.mem_cons, List.not_mem_nil, or_false] at hk
            omega)
          lookups := fun _ => ⟨hl, hr⟩, gstr := nofun, tpids := nofun, tnames := nofun, host := nofun,
          hostErrno := fun _ => rfl, fields := nofun }

/-- The call part does not depend on the END record: for every BSD decoder and any two windows with the same
    START words and lookups — whatever their END records — the call texts are equal. -/
theorem call_indep_of_end (d : Decoder) (hd : d ∈ decoders) (hfam : d.family = 0)
    (s : Shape) (hs : d.shape = some s) (h : Host) (t : Tables) (w w' : Window) (hw : SameStart w w') :
    evalPieces (ctx h t w) (callPiecesOf d s) = evalPieces (ctx h t w') (callPiecesOf d s) := by
  have hsys := List.all_eq_true.mp bsd_syscallLike d hd
  simp only [hfam, beq_self_eq_true, Bool.not_true, Bool.false_or] at hsys
  exact callText_congr d hd hsys s hs h t w w' hw

/-- BSC_open is a non-exempt BSD decoder; its tail has the "always" shape with success text `fd: <word 1>`. -/
example : ∃ d ∈ decoders, d.key = 23225981780450370926 ∧ d.family = 0 ∧ d.key ∉ exempt ∧
    (d.shape.map fun s => subst d.fields s.tail) =
      some (.cat (.strLit commaSp) (.strOf (.ite (.endArg 0) errExpr
        (.cat (.strLit [102, 100, 58, 32]) (.strOf (.endArg 1)))))) := by
  decide +kernel

example : errText { errno := fun n => if n = 2 then some "ENOENT" else none, signals := fun _ => none,
                    addressFamily := fun _ => none, socketKind := fun _ => none, solSocket := 0 } 2
    = "errno: ENOENT(2)" := by decide +kernel

end KdVerif.C10
