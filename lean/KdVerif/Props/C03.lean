import KdVerif.Props.C02
import KdVerif.Proofs.ContainerV3
import KdVerif.Proofs.Blocks
import KdVerif.Proofs.EndToEnd
import KdVerif.Proofs.PyIRRdKd
/-
  C03 — a version-3 dump yields all chunked events, then logs, plus metadata sections.

  Subject: `parse plist fromKdBuf prior (encodeV3 f)` (Model/ContainerV3), the model of
  `KdBufParser(tp, pn).parse(reader)` exhausted, for EVERY well-formed `V3File` (Spec/ContainerV3): any
  header fields, any cpu_info payload that loads, any stackshot filler and gaps satisfying the scanner
  side-conditions (the first occurrence of each tag is where the grammar puts it — `NoEarlier`), any thread
  map (+ < 32 trailing bytes), ANY chunking `first :: more` of the record list, any blocks (all but the
  last aligned).  `plist` (plistlib.loads, as far as the parser looks at the result) is an opaque parameter.

  Everything hangs on `v3_round_trip`: the whole reader — header, 8-byte realignment, `read(4)`, both scans,
  thread-map chunk, every chunk with `size // 64`, MORE continuation, `seek(-8, 1)`, the additional-data range with
  the `Select(Aligned…, plain)` alternative — run on `encodeV3 f` equals the block loop + log loop applied to exactly
  the file's blocks, with exactly the decoded records as events; the clauses of C03 (`v3_events` … `v3_blocks`) and
  the end-to-end statements (`e2e_…`, over `Model/EndToEnd.lean`) are read off it.

  ASSUMPTIONS of the specification (not findings): "the dump's string index" = the last string block;
  plist payloads are opaque (`BlockOk` says what must load); OsLogEvent is reduced to cm/tid/p/pid.
-/
namespace KdVerif.C03
open KdVerif Spec Reader Gen.Consts

/-- **seek_until stops exactly behind the FIRST occurrence of the tag**: if the unread bytes are
    `pre ++ tag ++ post` and `tag` does not occur earlier (`NoEarlier`: no window of `pre ++ tag` starting
    inside `pre` equals `tag`), the scan succeeds and leaves exactly `post` unread — whatever `pre` contains
    (near-miss prefixes of the tag, other tags, …). -/
theorem seekUntil_first_occurrence {r : Reader} {tag pre post : Bytes} (hL : tag ≠ [])
    (h : r.rest = pre ++ (tag ++ post)) (hno : NoEarlier tag pre) :
    ∃ r', seekUntil tag r = (.ok (), r') ∧ r'.rest = post ∧ r'.data = r.data :=
  seekUntil_cont hL h hno

/-- … and at end of file it raises instead of spinning. -/
theorem seekUntil_eof {r : Reader} {tag : Bytes} (hL : tag ≠ []) (h : r.rest = []) :
    ∃ r', seekUntil tag r = (.error .eof, r') :=
  seekUntil_nil_fails tag hL r h

def blocksOf (f : V3File) : List (Bytes × Bytes) := f.blocks.map fun b => (b.tag, b.payload)

/-- **Round trip of the whole v3 reader.**  For every well-formed v3 file whose cpu_info payload loads,
    and ANY prior parser state: the parse is the block loop and log loop (`tailOfBlocks`) applied to exactly
    the file's blocks, with the decodings of all records of all chunks as events, the thread-map chunk as
    tables and the header fields + cpu_info payload as `v3_header`. -/
theorem v3_round_trip (plist : Bytes → Option PView) (prior : PState) (f : V3File) (wf : f.WF)
    (hcpu : plist f.cpu ≠ none) :
    ∃ rd, parse plist fromKdBuf prior (encodeV3 f) =
      tailOfBlocks plist (f.recs.map specDecode) (C02.threadTables f.threads)
        { prior.md with header := some (f.hdr, f.cpu) } (blocksOf f) rd := by
  obtain ⟨rd, h⟩ := parse_encodeV3 plist fromKdBuf specDecode PyIRRd.kd_rejectsShort prior f wf hcpu (EndToEnd.decodeRecord_v3recs f wf)
  refine ⟨rd, ?_⟩
  rw [h]
  simp only [setThreadMap, C02.threadTables, List.foldl_map, toEntry, blocksOf]

/-- **Events.**  The events are the decodings of ALL records of ALL chunks, in file order, each the
    little-endian reading of its own record (C01) — exactly `f.recs.length` of them. -/
theorem v3_events (plist : Bytes → Option PView) (prior : PState) (f : V3File) (wf : f.WF) (hcpu : plist f.cpu ≠ none) :
    (parse plist fromKdBuf prior (encodeV3 f)).events = f.recs.map specDecode := by
  obtain ⟨rd, h⟩ := v3_round_trip plist prior f wf hcpu
  rw [h, (tailOfBlocks_events ..).1]

/-- **… for every chunking.**  Two well-formed files whose chunks hold the same records in the same
    order — however they are split into 1..k chunks, whatever the gaps, size remainders and the other
    sections are — deliver the same events. -/
theorem v3_events_chunking (plist : Bytes → Option PView) (prior prior' : PState) (f g : V3File) (wf : f.WF) (wg : g.WF)
    (hf : plist f.cpu ≠ none) (hg : plist g.cpu ≠ none) (hrecs : f.recs = g.recs) :
    (parse plist fromKdBuf prior (encodeV3 f)).events = (parse plist fromKdBuf prior' (encodeV3 g)).events := by
  rw [v3_events plist prior f wf hf, v3_events plist prior' g wg hg, hrecs]

/-- **Events precede every log.**  The delivered sequence is all events followed by log records only. -/
theorem v3_events_before_logs (plist : Bytes → Option PView) (prior : PState) (f : V3File) (wf : f.WF)
    (hcpu : plist f.cpu ≠ none) :
    ∃ logs : List LogOut, (parse plist fromKdBuf prior (encodeV3 f)).outs =
      (f.recs.map specDecode).map .ev ++ logs.map .log := by
  obtain ⟨rd, h⟩ := v3_round_trip plist prior f wf hcpu
  rw [h]
  unfold tailOfBlocks
  split
  · exact ⟨[], by simp⟩
  · exact ⟨_, rfl⟩

/-- **Thread map.**  While the events are delivered the two tables are exactly the thread-map chunk
    filled into EMPTY tables (later entry for a key wins: `C02.v2_lookup_last_wins`), whatever they held. -/
theorem v3_threadmap (plist : Bytes → Option PView) (prior : PState) (f : V3File) (wf : f.WF) (hcpu : plist f.cpu ≠ none) :
    (parse plist fromKdBuf prior (encodeV3 f)).tmTables = C02.threadTables f.threads := by
  obtain ⟨rd, h⟩ := v3_round_trip plist prior f wf hcpu
  rw [h, (tailOfBlocks_events ..).2]

/-- **Blocks.**  If every block's payload loads with the key its tag needs (`BlockOk`) and the log
    records' strings are in the string index (`LogsResolve`), then, for any prior state:
    * the parse ends normally; events, then the log records of ALL log blocks in file order, numbered
      0,1,…, message and process name resolved through the inverted index of the LAST string block;
    * `v3_header` = the twelve header integers and the cpu_info payload;
    * processes / images = the payload of the LAST such block (none if there is none);
    * kernel extensions, dyld binaries, trace codes = concatenation over the blocks in file order;
    * the tables are the thread map extended, in order, by every log record that names a process and
      has a non-zero thread id. -/
theorem v3_blocks (plist : Bytes → Option PView) (prior : PState) (f : V3File) (wf : f.WF) (hcpu : plist f.cpu ≠ none)
    (hok : ∀ b ∈ blocksOf f, BlockOk plist b) :
    let x := parse plist fromKdBuf prior (encodeV3 f)
    let strings := match lastOf TRACEV3_LOG_STRINGS (blocksOf f) with
      | some p => invertIndex (itemsOf plist p)
      | none => []
    let raw := (payloadsOf TRACEV3_LOG_EVENTS (blocksOf f)).flatMap (eventsOf plist)
    LogsResolve strings raw →
      x.err = none ∧
      x.outs = (f.recs.map specDecode).map .ev ++ (expectedLogs strings 0 raw).map .log ∧
      x.md.header = some (f.hdr, f.cpu) ∧
      x.md.processes = lastOf TRACEV3_PROCESSES (blocksOf f) ∧
      x.md.images = lastOf TRACEV3_IMAGES (blocksOf f) ∧
      x.md.kexts = (payloadsOf TRACEV3_KERNEL_EXTENSIONS (blocksOf f)).flatMap (binariesOf plist) ∧
      x.md.dyldBin.getD [] = (payloadsOf TRACEV3_DYLD_MODULES (blocksOf f)).flatMap (binariesOf plist) ∧
      x.md.traceCodes = (payloadsOf TRACEV3_TRACE_CODES (blocksOf f)).flatten ∧
      x.tables = (expectedLogs strings 0 raw).foldl extendTables (C02.threadTables f.threads) := by
  intro x strings raw hres
  obtain ⟨rd, h⟩ := v3_round_trip plist prior f wf hcpu
  obtain ⟨s, e, g0, g1, g2, g3, g4, g5, g6, g7⟩ := dispatchBlocks_ok plist (blocksOf f)
    ⟨V3Meta.reset { prior.md with header := some (f.hdr, f.cpu) }, [], []⟩ hok (Or.inl ⟨rfl, rfl⟩)
  have hstr : s.logStrings = strings := g7
  have hraw : s.logEvents = raw := by rw [g6]; rfl
  have hx : x = tailOfBlocks plist (f.recs.map specDecode) (C02.threadTables f.threads)
      { prior.md with header := some (f.hdr, f.cpu) } (blocksOf f) rd := h
  rw [hx]
  unfold tailOfBlocks
  rw [e]
  dsimp only
  rw [hstr, hraw, logLoop_ok strings raw 0 _ hres]
  refine ⟨rfl, rfl, g0, ?_, ?_, ?_, ?_, ?_, rfl⟩
  · rw [g1]; cases lastOf TRACEV3_PROCESSES (blocksOf f) <;> rfl
  · rw [g2]; cases lastOf TRACEV3_IMAGES (blocksOf f) <;> rfl
  · rw [g3]; rfl
  · rw [g5]; rfl
  · rw [g4]; rfl


/-- The thread-map chunk as the trace layer receives it: `(tid, pid, name)` in file order, the name bytes decoded
    (`CString('utf8')`). -/
def fileThreadMap (f : V3File) : Declared.ThreadMap :=
  f.threads.map fun t => (t.tid, t.pid, EndToEnd.utf8 t.name)

theorem threadMapOf_entries (f : V3File) : EndToEnd.threadMapOf (f.threads.map toEntry) = fileThreadMap f := by
  simp only [EndToEnd.threadMapOf, fileThreadMap, List.map_map]
  rfl

/-- **C03 composed with C01, at the entry of the trace layer.**  For every well-formed v3 file whose cpu_info payload
    loads — any header, filler and gaps, any thread-map chunk, ANY chunking of the records, any blocks: what
    `PyKdebugParser.traces` / `formatted_traces` work on is exactly the thread-map chunk's entries (in file order) and
    exactly the decodings of the records of ALL chunks (C01's `specDecode`, in file order) — the log records are not
    among them (`kevents` drops them) —, and the exception the container reader ends with, AFTER every event has been
    handed over, is the one `KdBufParser.parse` ends with on the same bytes (block loop / log loop; whatever the parser
    object held before).  No first-byte hypothesis: the v3 reader has no padding skipper (K1 is a v2 defect). -/
theorem e2e_dump_of_encoded_v3 (plist : Bytes → Option PView) (prior : PState) (f : V3File) (wf : f.WF)
    (hcpu : plist f.cpu ≠ none) :
    EndToEnd.dumpOf plist (encodeV3 f) =
      .ok ({ threadMap := fileThreadMap f, events := f.recs.map specDecode },
           (parse plist fromKdBuf prior (encodeV3 f)).err) := by
  obtain ⟨rd, h⟩ := EndToEnd.dumpOf_encoded_v3 plist f wf hcpu
  have hc := (EndToEnd.dumpOf_is_parse plist prior _ _ _ h).2.1
  rw [h, hc, threadMapOf_entries]

/-- … and when every block loads with the key its tag needs and the log records' strings are in the string index
    (the hypotheses of `v3_blocks`), the container contributes no exception. -/
theorem e2e_dump_of_encoded_v3_ok (plist : Bytes → Option PView) (f : V3File) (wf : f.WF) (hcpu : plist f.cpu ≠ none)
    (hok : ∀ b ∈ blocksOf f, BlockOk plist b)
    (hres : LogsResolve
      (match lastOf TRACEV3_LOG_STRINGS (blocksOf f) with
        | some p => invertIndex (itemsOf plist p)
        | none => [])
      ((payloadsOf TRACEV3_LOG_EVENTS (blocksOf f)).flatMap (eventsOf plist))) :
    EndToEnd.dumpOf plist (encodeV3 f) =
      .ok ({ threadMap := fileThreadMap f, events := f.recs.map specDecode }, none) := by
  rw [e2e_dump_of_encoded_v3 plist EndToEnd.freshParser f wf hcpu,
    (v3_blocks plist EndToEnd.freshParser f wf hcpu hok hres).1]

/-- For every well-formed v3 file whose cpu_info payload loads the dump is readable and the trace layer receives the
    thread-map chunk.  (If the cpu_info payload does not load, `parse_v3` raises before `set_thread_map`.) -/
theorem e2e_threadmap_of_encoded_v3 (plist : Bytes → Option PView) (f : V3File) (wf : f.WF)
    (hcpu : plist f.cpu ≠ none) :
    ∃ d c, EndToEnd.dumpOf plist (encodeV3 f) = .ok (d, c) ∧ d.threadMap = fileThreadMap f :=
  ⟨_, _, e2e_dump_of_encoded_v3 plist EndToEnd.freshParser f wf hcpu, rfl⟩

/-- **The lines of an encoded v3 file.**  The lines `formatted_traces` yields for the file's bytes are the lines of the
    line builder over `traces` of (the thread-map chunk, the decodings of the records of all chunks), and the iteration
    ends with the first rendering exception, else the exception of the trace layer, else — after ALL lines — the
    exception the container reader ends with in the blocks behind the last chunk. -/
theorem e2e_lines_of_encoded_v3 (env : Trace.Env) (obj : TracePipeline.Obj) (sh : Format.Show)
    (plist : Bytes → Option PView) (prior : PState) (f : V3File) (wf : f.WF) (hcpu : plist f.cpu ≠ none) :
    let res := (TracePipeline.traces env obj
      { threadMap := fileThreadMap f, events := f.recs.map specDecode }).1
    EndToEnd.formattedTraces env obj sh plist (encodeV3 f) =
      ((EndToEnd.formatAll sh res.traces).1,
       match (EndToEnd.formatAll sh res.traces).2 with
       | some e => some e
       | none => match res.err with
         | some e => some e
         | none => (parse plist fromKdBuf prior (encodeV3 f)).err) := by
  intro res
  have h := e2e_dump_of_encoded_v3 plist prior f wf hcpu
  exact Prod.ext (EndToEnd.formattedTraces_lines env obj sh plist _ _ _ h)
    (EndToEnd.formattedTraces_err env obj sh plist _ _ _ h)

/-- … with blocks that load (`v3_blocks`' hypotheses): the exception of the trace layer only. -/
theorem e2e_lines_of_encoded_v3_ok (env : Trace.Env) (obj : TracePipeline.Obj) (sh : Format.Show)
    (plist : Bytes → Option PView) (f : V3File) (wf : f.WF) (hcpu : plist f.cpu ≠ none)
    (hok : ∀ b ∈ blocksOf f, BlockOk plist b)
    (hres : LogsResolve
      (match lastOf TRACEV3_LOG_STRINGS (blocksOf f) with
        | some p => invertIndex (itemsOf plist p)
        | none => [])
      ((payloadsOf TRACEV3_LOG_EVENTS (blocksOf f)).flatMap (eventsOf plist))) :
    let res := (TracePipeline.traces env obj
      { threadMap := fileThreadMap f, events := f.recs.map specDecode }).1
    EndToEnd.formattedTraces env obj sh plist (encodeV3 f) =
      ((EndToEnd.formatAll sh res.traces).1,
       match (EndToEnd.formatAll sh res.traces).2 with
       | some e => some e
       | none => res.err) := by
  intro res
  have h := e2e_lines_of_encoded_v3 env obj sh plist EndToEnd.freshParser f wf hcpu
  rw [(v3_blocks plist EndToEnd.freshParser f wf hcpu hok hres).1] at h
  rw [h]
  refine Prod.ext rfl ?_
  show (match (EndToEnd.formatAll sh res.traces).2 with
        | some e => some e
        | none => match res.err with
          | some e => some e
          | none => none) = _
  cases (EndToEnd.formatAll sh res.traces).2 <;> cases res.err <;> rfl

/-- **The lines do not depend on the chunking, the filler, the header or the blocks.**  Two well-formed v3 files with
    the same thread-map entries and the same records in the same order — however split into chunks, whatever else
    they contain — give the same formatted lines, for every filter configuration and column setting. -/
theorem e2e_lines_chunking_v3 (env : Trace.Env) (obj : TracePipeline.Obj) (sh : Format.Show)
    (plist : Bytes → Option PView) (f g : V3File) (wf : f.WF) (wg : g.WF) (hf : plist f.cpu ≠ none)
    (hg : plist g.cpu ≠ none) (hth : f.threads = g.threads) (hrecs : f.recs = g.recs) :
    (EndToEnd.formattedTraces env obj sh plist (encodeV3 f)).1 =
      (EndToEnd.formattedTraces env obj sh plist (encodeV3 g)).1 := by
  rw [e2e_lines_of_encoded_v3 env obj sh plist EndToEnd.freshParser f wf hf,
    e2e_lines_of_encoded_v3 env obj sh plist EndToEnd.freshParser g wg hg]
  simp only [fileThreadMap, hth, hrecs]

/-- … and the same lines as the version-2 file with that thread map and those records (first record not beginning
    with a zero byte: K1), whatever its padding. -/
theorem e2e_lines_v3_eq_v2 (env : Trace.Env) (obj : TracePipeline.Obj) (sh : Format.Show)
    (plist : Bytes → Option PView) (f : V3File) (g : V2File) (wf : f.WF) (wg : g.WF) (hf : plist f.cpu ≠ none)
    (h0 : C02.FirstByteNonZero g) (hth : f.threads = g.threads) (hrecs : f.recs = g.recs) :
    (EndToEnd.formattedTraces env obj sh plist (encodeV3 f)).1 =
      (EndToEnd.formattedTraces env obj sh plist (encodeV2 g)).1 := by
  rw [e2e_lines_of_encoded_v3 env obj sh plist EndToEnd.freshParser f wf hf,
    C02.e2e_lines_of_encoded env obj sh plist g wg h0]
  simp only [fileThreadMap, C02.fileThreadMap, hth, hrecs]

def exRec (b : Nat) : Bytes := List.replicate 64 b

def exFile : V3File :=
  { hdr := [1, 2, 3, 4, 5, 6, 7, 8, 9, 10, 11, 12], cpu := [0x62, 0x70], four := [9, 9, 9, 9],
    filler := [115, 116, 97, 0, 0x1d, 0], gap1 := [0, 0x1d, 0, 0],
    threads := [⟨7, 100, [0x61], [0x62, 0, 0xfe]⟩, ⟨8, 100, [0xc3, 0xa9], []⟩], tmTrail := [1, 2, 3],
    first := ⟨[0, 0x1e, 0], 5, List.replicate 8 0, [exRec 1]⟩,
    more := [⟨[], 0, List.replicate 8 7, [exRec 2, exRec 3]⟩],
    blocks := [⟨TRACEV3_TRACE_CODES, [0x41, 0x0a], true⟩, ⟨TRACEV3_TRACE_CODES, [0x42], false⟩] }

theorem exFile_wf : exFile.WF := by
  simp only [V3File.WF, V2Thread.WF, V3Chunk.WF, V3Block.WF, NoEarlier, IsBytes, blocksAligned, exFile, List.head?_cons,
    Option.some.injEq, forall_eq']
  decide +kernel

/-- Non-vacuity: the hypotheses of the theorems are met by the concrete file: two chunks, gaps containing proper
    prefixes of the tags they precede, a multi-byte thread name, an unpadded last block. -/
example (plist : Bytes → Option PView) (prior : PState) (h : plist exFile.cpu ≠ none) :
    (parse plist fromKdBuf prior (encodeV3 exFile)).events = [specDecode (exRec 1), specDecode (exRec 2), specDecode (exRec 3)]
    ∧ (parse plist fromKdBuf prior (encodeV3 exFile)).md.traceCodes = [0x41, 0x0a, 0x42] := by
  refine ⟨v3_events plist prior exFile exFile_wf h, ?_⟩
  have hok : ∀ b ∈ blocksOf exFile, BlockOk plist b := by
    intro b hb
    simp only [blocksOf, exFile, List.map_cons, List.map_nil, List.mem_cons, List.not_mem_nil, or_false] at hb
    rcases hb with rfl | rfl <;>
      exact ⟨fun e => absurd e (by decide), fun _ => by decide, fun e => absurd e (by decide), fun e => absurd e (by decide),
        fun e => absurd e (by decide), fun e => absurd e (by decide), fun e => absurd e (by decide)⟩
  have := (v3_blocks plist prior exFile exFile_wf h hok (by
    intro e he
    have hne : ¬ TRACEV3_LOG_EVENTS = TRACEV3_TRACE_CODES := by decide
    simp [payloadsOf, blocksOf, exFile, hne] at he)).2.2.2.2.2.2.2.1
  rw [this]; decide

/-- the model run on the concrete file (kernel-evaluated): 3 events from 2 chunks, both trace-code blocks
    concatenated, thread map as tables. -/
example :
    let x := parse (fun _ => some ⟨false, [], none, none, none⟩) fromKdBuf ⟨⟨[(1, 1)], [(1, [0x78])]⟩, {}⟩ (encodeV3 exFile)
    x.events = [specDecode (exRec 1), specDecode (exRec 2), specDecode (exRec 3)] ∧ x.err = none ∧
    x.md.traceCodes = [0x41, 0x0a, 0x42] ∧ x.tables.threadsPids = [(7, 100), (8, 100)] ∧
    x.md.header = some (exFile.hdr, exFile.cpu) := by
  decide +kernel

/-- `plistlib.loads` for the examples: the cpu_info payload of `exFile` is a (non-empty) dict, nothing else loads. -/
def exPlist : Bytes → Option PView := fun b => if b = [0x62, 0x70] then some ⟨false, [], none, none, none⟩ else none

/-- Non-vacuity of the end-to-end theorems: `exFile` meets the hypotheses: thread map `a` / `é`, the three records of the two chunks. -/
example :
    EndToEnd.dumpOf exPlist (encodeV3 exFile) =
      .ok ({ threadMap := fileThreadMap exFile, events := [specDecode (exRec 1), specDecode (exRec 2), specDecode (exRec 3)] },
           (parse exPlist fromKdBuf EndToEnd.freshParser (encodeV3 exFile)).err) ∧
    fileThreadMap exFile = [(7, 100, "a"), (8, 100, "é")] :=
  ⟨e2e_dump_of_encoded_v3 exPlist _ exFile exFile_wf (by decide), by decide +kernel⟩

/-- The thread map and the six records of `EndToEnd.exFile` (the version-2 example of C02 / C06 / C14) as a version-3
    dump: two records in the first chunk (size remainder 5, a gap with a near-miss of the events tag), four in a
    second chunk behind the MORE tag, then a trace-codes block and (last, unpadded) a processes block. -/
def exFileLines : V3File :=
  { exFile with
    threads := EndToEnd.exFile.threads
    first := ⟨[0, 0x1e, 0], 5, List.replicate 8 0, EndToEnd.exFile.recs.take 2⟩
    more := [⟨[], 0, List.replicate 8 7, EndToEnd.exFile.recs.drop 2⟩]
    blocks := [⟨TRACEV3_TRACE_CODES, [0x41, 0x0a], true⟩, ⟨TRACEV3_PROCESSES, [1, 2, 3], false⟩] }

theorem exFileLines_wf : exFileLines.WF := by
  simp only [V3File.WF, V2Thread.WF, V3Chunk.WF, V3Block.WF, NoEarlier, IsBytes, blocksAligned, exFileLines, exFile,
    List.head?_cons, Option.some.injEq, forall_eq']
  decide +kernel

/-- same thread map, same records as the version-2 example: by `e2e_lines_v3_eq_v2` the same six lines, for every
    environment, filter and column setting. -/
example (env : Trace.Env) (obj : TracePipeline.Obj) (sh : Format.Show) :
    (EndToEnd.formattedTraces env obj sh exPlist (encodeV3 exFileLines)).1 =
      (EndToEnd.formattedTraces env obj sh exPlist (encodeV2 EndToEnd.exFile)).1 :=
  e2e_lines_v3_eq_v2 env obj sh exPlist exFileLines EndToEnd.exFile exFileLines_wf EndToEnd.exFile_wf (by decide)
    EndToEnd.exFile_first rfl (by decide +kernel)

/-- the composition run on the bytes (kernel-evaluated): the six lines; the payload of the processes block does not
    load, `plistlib`'s exception surfaces AFTER the last line; cut inside the last record (the second chunk's fourth): the first
    five lines, then `struct.error`; cut inside the thread-map chunk: no line, `StreamError`; with a payload that
    loads: no exception. -/
example :
    let file := encodeV3 exFileLines
    EndToEnd.formattedTraces EndToEnd.exEnv {} {} exPlist file =
      (["1 launchd(42)                       Process exit name: x",
        "2 launchd(42)                       New thread 9 of parent: 50",
        "3 (50)                              Process exit name: y",
        "4 launchd(42)                       New thread of parent: new",
        "5 new(50)                           Process exit name: z",
        "6 Error: tid 8                      Process exit name: {"], some .valueError) ∧
    (EndToEnd.formattedTraces EndToEnd.exEnv {} {} exPlist (file.take (file.length - 100))) =
      (["1 launchd(42)                       Process exit name: x",
        "2 launchd(42)                       New thread 9 of parent: 50",
        "3 (50)                              Process exit name: y",
        "4 launchd(42)                       New thread of parent: new",
        "5 new(50)                           Process exit name: z"], some .structError) ∧
    EndToEnd.formattedTraces EndToEnd.exEnv {} {} exPlist (file.take 150) = ([], some .streamError) ∧
    (EndToEnd.formattedTraces EndToEnd.exEnv {} {} (fun _ => some ⟨false, [], none, none, none⟩) file).2 = none := by
  decide +kernel

/-! ### Translation tie: the source text of `seek_until` and of the WHOLE `parse_v3`

  (`tools/gen_pyir_rd.py` → `Gen/PyIRRd.lean`, IR and interpreter `Model/PyIRRd`; see `Props/C02`.)  Nothing of
  `parse_v3` is hand-modelled apart from what it CALLS: the construct parsers (`Aligned(8, kd_header_v3)`,
  `kd_v3_threadmap`, `Int64ul`, `kd_v3_additional_data` = `greedyRange blockElem`), `plistlib.loads` (the parameter
  `plist`) and `OsLogEvent.from_raw_log_event` (`fromRawLog`). -/

/-- **The translated source is the program the refinement lemmas were proved for.** -/
theorem source_is_expected_ir : Gen.PyIRRd.prog = PyIRRd.Expected.prog ∧ Gen.PyIRRd.notes = [] :=
  C02.source_is_expected_ir

/-- **`seek_until`, interpreted, is `seekUntil`** — for every tag and every reader state: same outcome (found /
    `EOFError`), same position, same read counters.  With `seekUntil_first_occurrence`: the interpreted source stops
    exactly behind the FIRST occurrence of the tag. -/
theorem seek_until_ir_eq_model (tag : Bytes) (r : Reader) :
    PyIRRd.runSeek Gen.PyIRRd.prog.seekUntil tag r = seekUntil tag r := by
  rw [source_is_expected_ir.1]; exact PyIRRd.runSeek_expected tag r

/-- **The tail of `parse_v3`, interpreted, is `tailV3`**: what the translated generator does behind its chunk loop —
    `reader.seek(-8, 1)`, `kd_v3_additional_data.parse_stream(reader)`, the five attribute resets, the block loop with
    its `if / elif` chain on `block.tag` (`dyld_modules` seeded by `update` when empty and `['Binaries']` extended
    otherwise, `trace_codes +=` the decoded payload, `processes` / `images` replaced, kernel-extension binaries and raw log
    events accumulated, the string index inverted), then the log loop (`from_raw_log_event`, both tables extended when the
    record names a process and a thread, `yield`) — from ANY state (reader, tables, parser attributes, local variables)
    that has yielded the records `evs`: the same outputs in the same order, the same exception, tables, attributes and
    reader as the model's `tailV3`. -/
theorem parse_v3_tail_ir_eq_model (plist : Bytes → Option PView) (evs : List Kevent) (env : PyIRRd.Env) (t : Tables)
    (m : V3Meta) (r : Reader) :
    PyIRRd.runFrom (Gen.PyIRRd.prog.params fromKdBuf plist) Gen.PyIRRd.prog.parseV3.afterLoop
        ⟨env, r, t, t, m, evs.map .ev⟩ =
      tailV3 plist evs t m r := by
  rw [source_is_expected_ir.1]
  exact PyIRRd.tail_exec (PyIRRd.Expected.prog.params fromKdBuf plist) evs ⟨env, r, t, t, m, evs.map .ev⟩ rfl rfl

/-- **The WHOLE `parse_v3`, interpreted, is `parseV3`** — header, realignment read, both scans, thread-map chunk,
    `set_thread_map`, the chunk loop with `size // 64` records per chunk and the MORE continuation, and the tail
    (`parse_v3_tail_ir_eq_model`) — for every reader state and prior parser state.  `viaV3` is nothing but the translated
    generator run to its end. -/
theorem parse_v3_ir_eq_model (plist : Bytes → Option PView) (prior : PState) (r : Reader) (g : r.pos ≤ r.data.length) :
    parseV3 plist fromKdBuf prior r = PyIRRd.viaV3 Gen.PyIRRd.prog plist fromKdBuf prior r := by
  rw [source_is_expected_ir.1]
  exact PyIRRd.parseV3_via_ir plist fromKdBuf PyIRRd.kd_rejectsShort PyIRRd.kd_noHang prior r g

/-- **The subject of every C03 theorem is the interpreted source.** -/
theorem parse_is_interpreted_source (plist : Bytes → Option PView) (prior : PState) (data : Bytes) :
    parse plist fromKdBuf prior data = PyIRRd.parseVia Gen.PyIRRd.prog plist fromKdBuf prior data :=
  PyIRRd.parse_eq_parseVia_gen source_is_expected_ir plist prior data

/-- non-vacuity: the generated `seek_until`, interpreted, finds a tag behind a near miss and stops behind it -/
example : (PyIRRd.runSeek Gen.PyIRRd.prog.seekUntil [1, 2, 3] (Reader.ofBytes [9, 1, 2, 1, 2, 3, 7])).1.toOption = some () ∧
    (PyIRRd.runSeek Gen.PyIRRd.prog.seekUntil [1, 2, 3] (Reader.ofBytes [9, 1, 2, 1, 2, 3, 7])).2 =
      { data := [9, 1, 2, 1, 2, 3, 7], pos := 6, calls := 4, got := 6, req := 6 } := by decide

/-- `exFile` with a trace-codes block, a string-index block and (last, unpadded) a log block -/
def exFileLogs : V3File :=
  { exFile with
    blocks := [⟨TRACEV3_TRACE_CODES, [0x41, 0x0a], true⟩, ⟨TRACEV3_LOG_STRINGS, [0x53], true⟩,
               ⟨TRACEV3_LOG_EVENTS, [0x4c], false⟩] }

/-- `plistlib.loads` for `exFileLogs`: the cpu_info payload, a string index `{'hi': 5, 'p': 6}`, two raw log events
    (message 5 on thread 9 of process 6 = `p`, pid 77; message 5 without thread and process) -/
def exPlistLogs : Bytes → Option PView := fun b =>
  if b = [0x62, 0x70] then some ⟨false, [], none, none, none⟩
  else if b = [0x53] then some ⟨false, [], none, none, some [([0x68, 0x69], 5), ([0x70], 6)]⟩
  else if b = [0x4c] then some ⟨false, [], none, some [⟨5, 9, some 6, some 77⟩, ⟨5, 0, none, none⟩], none⟩
  else none

/-- non-vacuity: the WHOLE generated `parse_v3` (through the generated `parse`), interpreted, on a dump with two chunks,
    a trace-codes block, a string index and a log block: the three records, then the two log events in order (resolved
    through the inverted index), no exception; the trace codes are the block's payload; the first log event extends both
    tables, the second (no process, thread 0) does not; the reader ends at the end of the file. -/
example :
    (PyIRRd.parseVia Gen.PyIRRd.prog exPlistLogs fromKdBuf ⟨Tables.empty, {}⟩ (encodeV3 exFileLogs)).events.length = 3 ∧
    (PyIRRd.parseVia Gen.PyIRRd.prog exPlistLogs fromKdBuf ⟨Tables.empty, {}⟩ (encodeV3 exFileLogs)).outs.length = 5 ∧
    (PyIRRd.parseVia Gen.PyIRRd.prog exPlistLogs fromKdBuf ⟨Tables.empty, {}⟩ (encodeV3 exFileLogs)).logs =
      [⟨0, [0x68, 0x69], 9, [0x70], 77⟩, ⟨1, [0x68, 0x69], 0, [], 0⟩] ∧
    (PyIRRd.parseVia Gen.PyIRRd.prog exPlistLogs fromKdBuf ⟨Tables.empty, {}⟩ (encodeV3 exFileLogs)).err = none ∧
    (PyIRRd.parseVia Gen.PyIRRd.prog exPlistLogs fromKdBuf ⟨Tables.empty, {}⟩ (encodeV3 exFileLogs)).md.traceCodes =
      [0x41, 0x0a] ∧
    (PyIRRd.parseVia Gen.PyIRRd.prog exPlistLogs fromKdBuf ⟨Tables.empty, {}⟩ (encodeV3 exFileLogs)).tables =
      ⟨[(7, 100), (8, 100), (9, 77)], [(100, [0xc3, 0xa9]), (77, [0x70])]⟩ ∧
    (PyIRRd.parseVia Gen.PyIRRd.prog exPlistLogs fromKdBuf ⟨Tables.empty, {}⟩ (encodeV3 exFileLogs)).tmTables =
      ⟨[(7, 100), (8, 100)], [(100, [0xc3, 0xa9])]⟩ ∧
    (PyIRRd.parseVia Gen.PyIRRd.prog exPlistLogs fromKdBuf ⟨Tables.empty, {}⟩ (encodeV3 exFileLogs)).rd.pos =
      (encodeV3 exFileLogs).length := by
  decide +kernel

/-! ### Translation tie, continued: the constructor `KdBufParser.__init__`

  `tools/gen_pyir_rd.py` also translates `KdBufParser.__init__(self, threads_pids=None, pids_names=None)` into
  `Gen.PyIRRd.prog.init : PyIRRd.CtorDef` (so `source_is_expected_ir` above — and in C02 / C06 — covers it): the attribute
  initialisers SORTED by attribute (every value is a display, `None`, or `{} if <parameter> is None else <parameter>` over a
  parameter that is never rebound — they do not depend on each other; `dict()` = `{}`); `self.versions` is the dict display
  of `prog.parse`.  `PyIRRd.runCtor d given m₀` constructs the object: `given[k]` says whether the k-th argument is a dict
  or `None` (omitted arguments take the default, `None`); `m₀` stands for whatever the metadata attributes would show if
  an initialiser were missing.  `CtorObj.toPState t`: the state `PState` of the hand model, given the contents `t` of the
  caller's two dicts. -/

/-- The interpreted constructor yields the initial state the reader model starts from — for
    every combination of given / `None` arguments, whatever `m₀`:
    * a table that was passed IS the caller's dict (`TableRef.arg k`: `set_thread_map` and the log loop then write the
      caller's tables), a table that was not is a new empty dict;
    * the metadata is exactly `{}` = `V3Meta`'s defaults, the `md` of `PyIRRd.St.init` that `parse` / `parseV3` / `tailV3`
      start from: `trace_codes = ''`, `kernel_extensions = {'Binaries': []}` (the list the first kernel-extension block
      extends), `dyld_modules = {}` (empty, so the first dyld block seeds it), `images = {}`, `processes = {}`,
      `v3_header = None`;
    * hence `toPState t = ⟨the tables given (else empty), {}⟩`. -/
theorem kd_init_ir_eq_model (m₀ : V3Meta) (t : Tables) (a b : Bool) :
    ∃ o, PyIRRd.runCtor Gen.PyIRRd.prog.init [a, b] m₀ = .ok o ∧
      o.threadsPids = some (if a then .arg 0 else .fresh) ∧ o.pidsNames = some (if b then .arg 1 else .fresh) ∧
      o.md = {} ∧
      o.toPState t = some ⟨⟨if a then t.threadsPids else [], if b then t.pidsNames else []⟩, {}⟩ := by
  rw [source_is_expected_ir.1]
  cases a <;> cases b <;> exact ⟨_, rfl, rfl, rfl, rfl, rfl⟩

/-- omitted arguments are `None` arguments; a third argument is a `TypeError` -/
theorem kd_init_defaults (m₀ : V3Meta) (a : Bool) :
    PyIRRd.runCtor Gen.PyIRRd.prog.init [] m₀ = PyIRRd.runCtor Gen.PyIRRd.prog.init [false, false] m₀ ∧
    PyIRRd.runCtor Gen.PyIRRd.prog.init [a] m₀ = PyIRRd.runCtor Gen.PyIRRd.prog.init [a, false] m₀ ∧
    ∀ x y z, PyIRRd.runCtor Gen.PyIRRd.prog.init [x, y, z] m₀ = .error .typeError := by
  rw [source_is_expected_ir.1]
  exact ⟨rfl, rfl, fun _ _ _ => rfl⟩

/-- **Request level.**  `PyKdebugParser.kevents` / `os_log_events` build a FRESH parser per request on the object's two
    tables — `KdBufParser(self.threads_pids, self.pids_names).parse(kdebug)`, translated in `Model/PyIRFl`
    (`Stmt.parseStream`; `C12.source_is_expected_ir`, `kevents_ir_eq_model`) —, `__main__` builds `KdBufParser({}, {})`.
    For the object the interpreted constructor builds on the caller's tables `t`, the interpreted `parse` of ANY byte string
    is the hand model `parse` started from `⟨t, {}⟩`: no metadata of an earlier request is visible, and the events and the
    final exception are those of `EndToEnd.freshParser` (`Proofs/EndToEnd.parseV3_prior_irrelevant`). -/
theorem kd_fresh_parser_parse (plist : Bytes → Option PView) (m₀ : V3Meta) (t : Tables) (data : Bytes) :
    ∃ o st, PyIRRd.runCtor Gen.PyIRRd.prog.init [true, true] m₀ = .ok o ∧ o.toPState t = some st ∧ st = ⟨t, {}⟩ ∧
      PyIRRd.parseVia Gen.PyIRRd.prog plist fromKdBuf st data = parse plist fromKdBuf ⟨t, {}⟩ data := by
  obtain ⟨o, h1, _, _, _, h5⟩ := kd_init_ir_eq_model m₀ t true true
  exact ⟨o, ⟨t, {}⟩, h1, h5, rfl, (parse_is_interpreted_source plist ⟨t, {}⟩ data).symm⟩

/-- without arguments (`KdBufParser()`): the state `EndToEnd.freshParser` of the end-to-end model -/
theorem kd_init_no_arguments (m₀ : V3Meta) (t : Tables) :
    ∃ o, PyIRRd.runCtor Gen.PyIRRd.prog.init [] m₀ = .ok o ∧ o.toPState t = some EndToEnd.freshParser := by
  obtain ⟨o, h1, _, _, _, h5⟩ := kd_init_ir_eq_model m₀ t false false
  exact ⟨o, by rw [(kd_init_defaults m₀ false).1]; exact h1, h5⟩

/-- non-vacuity: whatever the attributes "held" (`m₀` with junk in every field), the generated constructor leaves the
    defaults; and the interpreter tells when an initialiser is missing or has the wrong display. -/
example : (PyIRRd.runCtor Gen.PyIRRd.prog.init [true, true]
      ⟨some ([1], [2]), [3], [4], some [5], false, some [6], some [7], some [8]⟩).toOption.map (·.md) = some {} := by
  decide

example : (PyIRRd.runCtor { Gen.PyIRRd.prog.init with sets := Gen.PyIRRd.prog.init.sets.filter (·.1 ≠ .v3Header) }
      [true, true] ⟨some ([1], [2]), [], [], none, true, none, none, none⟩).toOption.map (·.md.header) =
    some (some ([1], [2])) := by decide

/-- `self.kernel_extensions = {}` is not the display the block loop needs (`['Binaries']` of an empty dict: `KeyError`) -/
example : (PyIRRd.runCtor { Gen.PyIRRd.prog.init with sets := [(.md .kernelExtensions, .display .emptyDict)] }
    [true, true] {}).toOption = none := by decide

/-! ### translation tie of the construct DECLARATIONS (`kd_header_v3`, `kd_v3_threadmap`, `kd_v3_additional_data`)

The reader tie above keeps `Aligned(8, kd_header_v3).parse_stream(reader)`, `kd_v3_threadmap.parse_stream(reader)` and
`kd_v3_additional_data.parse_stream(reader)` as primitives.  What these names ARE — the module-level construct
expressions — is translated too (`tools/gen_pyir_cn.py` → `Gen/PyIRCn`) and run by `PyIRCn.Con.parse` over the same
reader monad and the same combinators of `Model/Construct` (see `C02.kd_threadmap_decl_eq_model`,
`C02.kd_header_v2_decl_eq_model` for the version-2 half). -/

/-- **The translated declarations are the ones the lemmas were proved for** (`Spec/PyIRCnExpected`, quoting the Python),
    `BplistAdapter._decode` returns `plistlib.loads(obj)`, and the translator met nothing outside the subset. -/
theorem decl_source_is_expected_ir : Gen.PyIRCn.module = PyIRCn.Expected.module ∧ Gen.PyIRCn.notes = [] :=
  C02.decl_source_is_expected_ir

/-- **`kd_header_v3`, interpreted, is `headerV3Inner`** — for EVERY reader state and whatever `plistlib.loads` does
    (`env.plist`): the declaration bound to `kd_header_v3`, run by `Con.parse` and read as (the twelve integer fields in
    order, the cpu_info payload), gives the same value or the same exception (StreamError of a short field, the
    model's `ValueError` of a payload that does not load) and the same reader (position, read counters).  The
    DECLARATION carries no alignment: `Aligned(8, …)` is applied at the call site in `parse_v3` (translated by the
    reader tie, `Prim.headerV3`); see `header_v3_call_site`. -/
theorem kd_header_v3_decl_eq_model (env : PyIRCn.Env) (ctx : List (String × PyIRCn.CVal)) (r : Reader) :
    PyIRCn.project PyIRCn.CVal.toHeaderV3 ((Gen.PyIRCn.module.decl "kd_header_v3").parse env ctx) r =
      headerV3Inner env.plist r := by
  rw [decl_source_is_expected_ir.1, PyIRCn.decl_kd_header_v3, PyIRCn.project_kd_header_v3]

/-- the call site `Aligned(8, kd_header_v3).parse_stream(reader)`: the model's `headerV3` is `aligned 8` around the
    interpreted declaration. -/
theorem header_v3_call_site (env : PyIRCn.Env) (ctx : List (String × PyIRCn.CVal)) :
    headerV3 env.plist =
      aligned 8 (PyIRCn.project PyIRCn.CVal.toHeaderV3 ((Gen.PyIRCn.module.decl "kd_header_v3").parse env ctx)) := by
  have h : PyIRCn.project PyIRCn.CVal.toHeaderV3 ((Gen.PyIRCn.module.decl "kd_header_v3").parse env ctx) =
      headerV3Inner env.plist := funext (kd_header_v3_decl_eq_model env ctx)
  rw [h]; rfl

/-- **`kd_v3_threadmap`, interpreted, is the thread-map reader of `parseV3`** (`prefixedBytes` then the pure
    `greedyEntries` of the payload: the last two steps of `threadmapV3`) — for EVERY reader state, and for every fuel
    policy that gives a range on a private sub-stream of `n` bytes at least `n / 32 + 1` iterations (both policies used by
    the other declaration theorems do: `n + 1` and `n / 16 + 2`): the `Prefixed(Int64ul, …)` length and payload are read
    with the model's two reads, `GreedyRange(kd_threadmap)` runs on the private sub-stream — so the hand model's PURE
    recursion over 32-byte slices (`greedyEntriesAux`: stop at the first entry that is short, has no NUL or is not UTF-8,
    drop it and everything behind it) is a THEOREM about the interpreted `GreedyRange` / `Struct` / `FixedSized` /
    `CString` (`PyIRCn.greedyRange_threadEntry`), not its definition. -/
theorem kd_v3_threadmap_decl_eq_model (env : PyIRCn.Env) (ctx : List (String × PyIRCn.CVal))
    (hf : ∀ b : Bytes, b.length / 32 + 1 ≤ env.fuel (Reader.ofBytes b)) (r : Reader) :
    PyIRCn.project PyIRCn.CVal.toThreadmapV3 ((Gen.PyIRCn.module.decl "kd_v3_threadmap").parse env ctx) r =
      (prefixedBytes >>= fun payload => pure (greedyEntries payload)) r := by
  rw [decl_source_is_expected_ir.1, PyIRCn.decl_kd_v3_threadmap, PyIRCn.project_kd_v3_threadmap env ctx hf]

/-- the call site in `parse_v3`: the model's `threadmapV3` is the two scans followed by the interpreted declaration. -/
theorem threadmap_v3_call_site (env : PyIRCn.Env) (ctx : List (String × PyIRCn.CVal))
    (hf : ∀ b : Bytes, b.length / 32 + 1 ≤ env.fuel (Reader.ofBytes b)) :
    threadmapV3 = (do
      let _ ← readPlain (8 - Gen.Consts.RAW_VERSION_SIZE)
      seekUntil Gen.Consts.TRACEV3_STACKSHOT_END
      seekUntil Gen.Consts.TRACEV3_THREADMAP_TAG
      PyIRCn.project PyIRCn.CVal.toThreadmapV3 ((Gen.PyIRCn.module.decl "kd_v3_threadmap").parse env ctx)) := by
  have h : PyIRCn.project PyIRCn.CVal.toThreadmapV3 ((Gen.PyIRCn.module.decl "kd_v3_threadmap").parse env ctx) =
      (prefixedBytes >>= fun payload => pure (greedyEntries payload)) :=
    funext (kd_v3_threadmap_decl_eq_model env ctx hf)
  rw [h]; rfl

/-- both fuel policies of the declaration theorems satisfy the hypothesis -/
example (b : Bytes) : b.length / 32 + 1 ≤ (fun r : Reader => r.rest.length + 1) (Reader.ofBytes b) := by
  show b.length / 32 + 1 ≤ (List.drop 0 b).length + 1
  simp only [List.drop_zero]; omega

example (b : Bytes) : b.length / 32 + 1 ≤ (fun r : Reader => r.rest.length / 16 + 2) (Reader.ofBytes b) := by
  show b.length / 32 + 1 ≤ (List.drop 0 b).length / 16 + 2
  simp only [List.drop_zero]; omega

/-- non-vacuity: a 70-byte payload — one good entry, one entry whose name has no NUL, 6 more bytes: one entry is
    delivered, the reader stands behind the WHOLE payload (position 78, two reads) -/
example :
    (match PyIRCn.project PyIRCn.CVal.toThreadmapV3
        ((Gen.PyIRCn.module.decl "kd_v3_threadmap").parse ⟨EndToEnd.noPlist, fun r => r.rest.length / 16 + 2⟩ [])
        (Reader.ofBytes ([70, 0, 0, 0, 0, 0, 0, 0] ++ C02.exEntry 5 9 ([0x61, 0] ++ List.replicate 18 1) ++
          C02.exEntry 6 9 (List.replicate 20 0x41) ++ [1, 2, 3, 4, 5, 6] ++ [0xaa])) with
     | (.ok tm, r) => some (tm, r.pos, r.calls)
     | (.error _, _) => none) = some ([⟨5, 9, [0x61]⟩], 78, 2) := by decide +kernel

/-- **`kd_v3_additional_data`, interpreted, is the greedy range of `blockElem`** — for EVERY reader state: the
    declaration bound to `kd_v3_additional_data` (`GreedyRange(Struct('tag' / Bytes(8), 'data' / Select(Aligned(8,
    Prefixed(Int64ul, GreedyBytes)), Prefixed(Int64ul, GreedyBytes))))`), run by `Con.parse` and read as the list of
    (tag, data) pairs, is `greedyRange blockElem` with the fuel the policy gives at the reader it starts on: the same
    blocks, the same reader (the aligned alternative first, the rewind and the unaligned alternative when its padding
    read is short, the rewind of the whole range behind the last good block).  With the policy of `tailV3`
    (`rest / 16 + 2`) this is literally the term `tailV3` / the reader tie's primitive use. -/
theorem kd_v3_additional_data_decl_eq_model (env : PyIRCn.Env) (ctx : List (String × PyIRCn.CVal)) (r : Reader) :
    PyIRCn.project PyIRCn.CVal.toBlocks ((Gen.PyIRCn.module.decl "kd_v3_additional_data").parse env ctx) r =
      greedyRange blockElem (env.fuel r) r := by
  rw [decl_source_is_expected_ir.1, PyIRCn.decl_kd_v3_additional_data, PyIRCn.project_kd_v3_additional_data]

/-- one element of the range: the interpreted `Struct` is `blockElem` (as a `Container` of `tag` and `data`). -/
theorem block_struct_decl_value (env : PyIRCn.Env) (ctx : List (String × PyIRCn.CVal)) :
    PyIRCn.Expected.blockStruct.parse env ctx = PyIRCn.mapRM PyIRCn.blockToCVal blockElem :=
  PyIRCn.parse_blockStruct env ctx

/-- the fuel policy of the version-3 tie: what `tailV3` gives its range; on a private sub-stream of `n` bytes it is
    `n / 16 + 2 ≥ n / 32 + 1`. -/
def declEnv (plist : Bytes → Option PView) : PyIRCn.Env := ⟨plist, fun r => r.rest.length / 16 + 2⟩

theorem declEnv_fuel (plist : Bytes → Option PView) (b : Bytes) :
    b.length / 32 + 1 ≤ (declEnv plist).fuel (Reader.ofBytes b) := by
  show b.length / 32 + 1 ≤ (List.drop 0 b).length / 16 + 2
  simp only [List.drop_zero]; omega

/-- **`parse_v3` rests on the declarations**: the hand model `parseV3` (= the interpreted `parse_v3`, by
    `parse_is_interpreted_source`) with its three construct primitives replaced by the interpreted declarations —
    `Aligned(8, kd_header_v3)`, `kd_v3_threadmap` behind the two scans, `kd_v3_additional_data` behind
    `reader.seek(-8, 1)`. -/
theorem parse_v3_rests_on_declarations {ε : Type} (plist : Bytes → Option PView) (dec : Bytes → Except PyErr ε)
    (prior : PState) (r : Reader) :
    parseV3 plist dec prior r =
      match aligned 8 (PyIRCn.project PyIRCn.CVal.toHeaderV3
          ((Gen.PyIRCn.module.decl "kd_header_v3").parse (declEnv plist) [])) r with
      | (.error e, r1) => ⟨[], some e, prior.tables, prior.tables, prior.md, r1⟩
      | (.ok h, r1) =>
        match (do
            let _ ← readPlain (8 - Gen.Consts.RAW_VERSION_SIZE)
            seekUntil Gen.Consts.TRACEV3_STACKSHOT_END
            seekUntil Gen.Consts.TRACEV3_THREADMAP_TAG
            PyIRCn.project PyIRCn.CVal.toThreadmapV3
              ((Gen.PyIRCn.module.decl "kd_v3_threadmap").parse (declEnv plist) [])) r1 with
        | (.error e, r2) => ⟨[], some e, prior.tables, prior.tables, { prior.md with header := some h }, r2⟩
        | (.ok tm, r2) =>
          let t := setThreadMap prior.tables tm
          let q := chunkLoop dec (r2.rest.length / 16 + 2) r2
          match q.2.1 with
          | some e => ⟨q.1.map .ev, some e, t, t, { prior.md with header := some h }, q.2.2⟩
          | none =>
            match PyIRCn.project PyIRCn.CVal.toBlocks
                ((Gen.PyIRCn.module.decl "kd_v3_additional_data").parse (declEnv plist) [])
                (q.2.2.seekTo (q.2.2.pos - 8)) with
            | (.error e, r4) => ⟨q.1.map .ev, some e, t, t, { prior.md with header := some h }, r4⟩
            | (.ok blocks, r4) => tailOfBlocks plist q.1 t { prior.md with header := some h } blocks r4 := by
  have h1 := header_v3_call_site (declEnv plist) []
  have h2 := threadmap_v3_call_site (declEnv plist) [] (declEnv_fuel plist)
  have h3 := funext (kd_v3_additional_data_decl_eq_model (declEnv plist) [])
  rw [← h1, ← h2, h3]
  unfold parseV3 tailV3
  dsimp only [declEnv]
  -- the matches of the two sides are different constants; with the parsers opaque, comparing them does not run the parsers
  generalize headerV3 plist = hd, threadmapV3 = tm, chunkLoop dec = cl, greedyRange blockElem = gr
  rfl

/-- non-vacuity: two blocks — the first aligned (5-byte payload + 3 bytes of alignment), the second at the end of the
    stream with no room for its alignment (the `Select` falls back to the unaligned alternative) — then 3 stray bytes:
    both blocks are delivered and the reader is rewound behind the second one (position 42). -/
example :
    (match PyIRCn.project PyIRCn.CVal.toBlocks
        ((Gen.PyIRCn.module.decl "kd_v3_additional_data").parse (declEnv EndToEnd.noPlist) [])
        (Reader.ofBytes ([1, 2, 3, 4, 5, 6, 7, 8] ++ [5, 0, 0, 0, 0, 0, 0, 0] ++ [9, 9, 9, 9, 9] ++ [0, 0, 0] ++
          [8, 7, 6, 5, 4, 3, 2, 1] ++ [2, 0, 0, 0, 0, 0, 0, 0] ++ [0xaa, 0xbb] ++ [1, 2, 3])) with
     | (.ok bs, r) => some (bs, r.pos)
     | (.error _, _) => none) =
    some ([([1, 2, 3, 4, 5, 6, 7, 8], [9, 9, 9, 9, 9]), ([8, 7, 6, 5, 4, 3, 2, 1], [0xaa, 0xbb])], 42) := by
  decide +kernel

/-- twelve fields 1 … 12, a 3-byte payload, then one more byte -/
def exDeclHeaderV3 : Bytes :=
  [1, 0, 0, 0] ++ [2, 0, 0, 0] ++ [3, 0, 0, 0, 0, 0, 0, 0] ++ [4, 0, 0, 0] ++ [5, 0, 0, 0] ++ [6, 0, 0, 0, 0, 0, 0, 0] ++
  [7, 0, 0, 0, 0, 0, 0, 0] ++ [8, 0, 0, 0] ++ [9, 0, 0, 0] ++ [10, 0, 0, 0] ++ [11, 0, 0, 0] ++ [12, 1, 0, 0] ++
  [3, 0, 0, 0, 0, 0, 0, 0] ++ [0x62, 0x70, 0x6c] ++ [0xaa]

/-- non-vacuity: the generated `kd_header_v3`, interpreted, on concrete bytes, with a `plistlib.loads` that accepts
    exactly the payload `bpl`: the twelve integers (the last one 0x10c), the payload, 14 reads, position 71 … -/
example :
    (match PyIRCn.project PyIRCn.CVal.toHeaderV3
        ((Gen.PyIRCn.module.decl "kd_header_v3").parse
          ⟨fun p => if p = [0x62, 0x70, 0x6c] then some ⟨true, [], none, none, none⟩ else none, fun _ => 0⟩ [])
        (Reader.ofBytes exDeclHeaderV3) with
     | (.ok h, r) => some (h, r.pos, r.calls)
     | (.error _, _) => none) =
    some (([1, 2, 3, 4, 5, 6, 7, 8, 9, 10, 11, 0x10c], [0x62, 0x70, 0x6c]), 71, 14) := by decide +kernel

/-- … and when `plistlib.loads` rejects the payload: the model's ValueError, the payload consumed -/
example :
    (match PyIRCn.project PyIRCn.CVal.toHeaderV3
        ((Gen.PyIRCn.module.decl "kd_header_v3").parse ⟨EndToEnd.noPlist, fun _ => 0⟩ []) (Reader.ofBytes exDeclHeaderV3) with
     | (x, r) => (PyIRCn.outcome x, r.pos)) = ((none, some .valueError), 71) := by decide +kernel

end KdVerif.C03
