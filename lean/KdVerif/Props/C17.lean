import KdVerif.Proofs.IR
import KdVerif.Gen.Decoders
import KdVerif.Gen.Codes
import KdVerif.Gen.PyIR
import KdVerif.Proofs.PyIRTpRegistry
import KdVerif.Spec.PyIRTpExpected
/-
  C17 — every registered decoder is reachable; X and X_nocancel decode alike.

  Subject: `Gen.Decoders.decoders` (one entry per key of the seven `handlers` dicts, reflected and
  sorted by name key on every run) and `Gen.Codes.codes` (the bundled trace.codes as parsed by the
  repository's own `default_trace_codes()`).  A name key is the name's bytes read big-endian behind a
  leading 1, so `key (x ++ "_nocancel") = key x * 256^9 + 0x5f6e6f63616e63656c`.
-/
namespace KdVerif.C17
open KdVerif.IR

abbrev decoders := Gen.Decoders.decoders
abbrev codes := Gen.Codes.codes

/-- `"_nocancel"` as a big-endian number. -/
def suffixNat : Nat := 0x5f6e6f63616e63656c

def nocancelLit : List Nat := [95, 110, 111, 99, 97, 110, 99, 101, 108]

/-- The name ends in `_nocancel` (and is longer than that). -/
def hasSuffix (d : Decoder) : Bool := d.key % 256 ^ 9 == suffixNat && d.key / 256 ^ 9 > 1

/-- Linear merge of the decoder keys (ascending) against the code table (sorted by name key): every key
    meets a row with that name key and an id with clear qualifier bits. -/
def covered : Nat → List Nat → List (Nat × Nat) → Bool
  | 0, ks, _ => ks.isEmpty
  | _, [], _ => true
  | _, _ :: _, [] => false
  | fuel + 1, k :: ks, (id, ck) :: cs =>
    if ck == k && id % 4 == 0 then covered fuel ks cs else covered fuel (k :: ks) cs

def strictlyIncreasing : List Nat → Bool
  | a :: b :: rest => decide (a < b) && strictlyIncreasing (b :: rest)
  | _ => true

def twinOK (d : Decoder) : Bool :=
  !hasSuffix d ||
    (match d.twin with
     | some i =>
       match decoders[i]? with
       | some b => b.key == d.key / 256 ^ 9
       | none => false
     | none => false)

/-- The twin is registered with the same handler logic: same constructor arguments except the trailing
    `no_cancel` flag, and the inlined `__str__` pieces differ only in that flag's piece, which sits right
    after the leading name literal. -/
def sameLogic (d : Decoder) : Bool :=
  !(hasSuffix d && d.supported) ||
    (match d.twin with
     | some i =>
       match decoders[i]? with
       | some b =>
         b.supported && d.fields.dropLast == b.fields.dropLast
           && d.fields.getLast? == some (.bool true) && b.fields.getLast? == some (.bool false)
           && (match normalize (subst b.fields b.str), normalize (subst d.fields d.str) with
               | .strLit n :: .ite (.bool false) (.strLit s) (.strLit []) :: r,
                 .strLit n' :: .ite (.bool true) (.strLit s') (.strLit []) :: r' =>
                 n == n' && s == nocancelLit && s' == nocancelLit && r == r'
               | _, _ => false)
       | none => false
     | none => false)

/-- Every registered decoder's name occurs in the bundled code table under an event id whose two
    qualifier bits are clear. -/
theorem handlers_in_codes :
    covered (decoders.length + codes.length + 1) (decoders.map (·.key)) codes = true := by
  -- `codes` is generated as `codes_0 ++ codes_1 ++ …`, nested to the left, so that the kernel would walk through
  -- every enclosing `++` for each row; nested to the right it reaches each row in one step
  unfold codes Gen.Codes.codes
  repeat rw [List.append_assoc]
  decide +kernel

/-- The table is strictly increasing in the name key: no name is claimed twice — neither inside one
    family nor by two families (the table lists every entry of every family's dict). -/
theorem names_unique : strictlyIncreasing (decoders.map (·.key)) = true := by decide +kernel

/-- Whenever `X_nocancel` is registered, `X` is registered too. -/
theorem nocancel_has_base : decoders.all twinOK = true := by decide +kernel

/-- Every `_nocancel` decoder was translated (so the next theorem speaks about all of them; a twin whose
    handler leaves the translatable subset makes this fail). -/
theorem twins_translated : decoders.all (fun d => !hasSuffix d || d.supported) = true := by decide +kernel

/-- … and by the same logic. -/
theorem twins_same_logic : decoders.all sameLogic = true := by decide +kernel

theorem strictlyIncreasing_pairwise : ∀ (l : List Nat), strictlyIncreasing l = true → l.Pairwise (· < ·)
  | [], _ => List.Pairwise.nil
  | [a], _ => List.pairwise_singleton _ _
  | a :: b :: rest, h => by
    simp only [strictlyIncreasing, Bool.and_eq_true, decide_eq_true_eq] at h
    have ih := strictlyIncreasing_pairwise (b :: rest) h.2
    refine List.Pairwise.cons ?_ ih
    intro x hx
    rcases List.mem_cons.mp hx with rfl | hx
    · exact h.1
    · exact Nat.lt_trans h.1 ((List.pairwise_cons.mp ih).1 x hx)

/-- No two entries (of any families) share a name. -/
theorem no_two_families_claim_same_name : (decoders.map (·.key)).Nodup :=
  (strictlyIncreasing_pairwise _ names_unique).imp (fun h => Nat.ne_of_lt h)

theorem covered_spec : ∀ (fuel : Nat) (ks : List Nat) (cs : List (Nat × Nat)), covered fuel ks cs = true →
    ∀ k ∈ ks, ∃ id, (id, k) ∈ cs ∧ id % 4 = 0
  | 0, ks, cs, h => by
    simp only [covered, List.isEmpty_iff] at h
    subst h; simp
  | fuel + 1, [], cs, _ => by simp
  | fuel + 1, k :: ks, [], h => by simp [covered] at h
  | fuel + 1, k :: ks, (id, ck) :: cs, h => by
    simp only [covered] at h
    intro x hx
    split at h
    · rename_i hm
      simp only [Bool.and_eq_true, beq_iff_eq] at hm
      rcases List.mem_cons.mp hx with rfl | hx
      · exact ⟨id, by simp [hm.1], hm.2⟩
      · obtain ⟨i, hi, h4⟩ := covered_spec fuel ks cs h x hx
        exact ⟨i, List.mem_cons_of_mem _ hi, h4⟩
    · obtain ⟨i, hi, h4⟩ := covered_spec fuel (k :: ks) cs h x hx
      exact ⟨i, List.mem_cons_of_mem _ hi, h4⟩

/-- **Reachability**: for every registered decoder there is a row of the bundled code table that carries
    its name under an id with both qualifier bits clear. -/
theorem every_decoder_reachable (d : Decoder) (hd : d ∈ decoders) :
    ∃ id, (id, d.key) ∈ codes ∧ id % 4 = 0 :=
  covered_spec _ _ _ handlers_in_codes d.key (List.mem_map.mpr ⟨d, hd, rfl⟩)

/-- The twin index of an `X_nocancel` entry points at the entry named `X`. -/
theorem twin_of_suffix (d : Decoder) (hd : d ∈ decoders) (hs : hasSuffix d = true) :
    ∃ i b, d.twin = some i ∧ decoders[i]? = some b ∧ b.key = d.key / 256 ^ 9 := by
  have h := List.all_eq_true.mp nocancel_has_base d hd
  simp only [twinOK, hs, Bool.not_true, Bool.false_or] at h
  split at h
  · split at h
    · exact ⟨_, _, ‹_›, ‹_›, beq_iff_eq.mp h⟩
    · cases h
  · cases h

/-- **X_nocancel ⇒ X**: the base call is registered, under the name with the suffix removed. -/
theorem nocancel_base_registered (d : Decoder) (hd : d ∈ decoders) (hs : hasSuffix d = true) :
    ∃ b ∈ decoders, b.key = d.key / 256 ^ 9 ∧ d.key = b.key * 256 ^ 9 + suffixNat := by
  obtain ⟨i, b, _, hb, h⟩ := twin_of_suffix d hd hs
  refine ⟨b, List.mem_of_getElem? hb, h, ?_⟩
  simp only [hasSuffix, Bool.and_eq_true, beq_iff_eq, decide_eq_true_eq] at hs
  have := Nat.div_add_mod d.key (256 ^ 9)
  rw [h]
  omega

theorem evalS_flag (c : Ctx) (b : Bool) (s : List Nat) :
    evalS c (.ite (.bool b) (.strLit s) (.strLit [])) = .ok (if b then litString s else litString []) := by
  cases b <;> rfl

/-- A decoder whose last constructor argument is the constant `b` and whose text is a name, a suffix shown when
    `b` holds, and a remainder `r`: the constant does not matter to the other arguments nor to `r`. -/
theorem render_flagged {d : Decoder} {fs r : List Expr} {b : Bool} {n s : List Nat} {sfx : String}
    (hf : d.fields = fs ++ [.bool b])
    (hn : normalize (subst d.fields d.str) = .strLit n :: .ite (.bool b) (.strLit s) (.strLit []) :: r)
    (hs : (if b then litString s else litString []) = sfx) (h : Host) (t : Tables) (w : Window) :
    render h t d w = ((evalFields { host := h, tables := t, win := w } fs).bind
      fun _ => evalPieces { host := h, tables := t, win := w } r).map fun x => litString n ++ (sfx ++ x) := by
  rw [render_eq_pieces, hn, hf, evalFields_append_const]
  cases evalFields { host := h, tables := t, win := w } fs with
  | error e => rfl
  | ok vs =>
    simp only [Except.map, Except.bind, evalPieces, evalS_strLit, evalS_flag, hs, bind, pure, Except.pure]
    cases evalPieces { host := h, tables := t, win := w } r <;> rfl

/-- **The two renderings are identical except for the `_nocancel` suffix of the call name** — for every
    window, host and context: there is one computation `f` (the shared remainder of the text, or the shared
    exception) such that the base renders `name ++ f` and the twin `name ++ "_nocancel" ++ f`. -/
theorem twin_renderings (d : Decoder) (hd : d ∈ decoders) (hs : hasSuffix d = true) (hsup : d.supported = true) :
    ∃ b ∈ decoders, b.key = d.key / 256 ^ 9 ∧ ∃ name : String, ∀ (h : Host) (t : Tables) (w : Window),
      ∃ f : Except PyErr String,
        render h t b w = f.map (fun r => name ++ r) ∧
        render h t d w = f.map (fun r => name ++ ("_nocancel" ++ r)) := by
  obtain ⟨i, b, ht, hb, h1⟩ := twin_of_suffix d hd hs
  have h2 := List.all_eq_true.mp twins_same_logic d hd
  simp only [sameLogic, hs, hsup, Bool.and_self, Bool.not_true, Bool.false_or, ht, hb, Bool.and_eq_true,
    beq_iff_eq] at h2
  obtain ⟨⟨⟨⟨_, hdrop⟩, hdl⟩, hbl⟩, hnorm⟩ := h2
  obtain ⟨fs, hdf⟩ := List.getLast?_eq_some_iff.mp hdl
  obtain ⟨fs', hbf⟩ := List.getLast?_eq_some_iff.mp hbl
  rw [hdf, hbf, List.dropLast_concat, List.dropLast_concat] at hdrop
  subst hdrop
  split at hnorm
  · next n s r n' s' r' hnb hnd =>
    simp only [Bool.and_eq_true, beq_iff_eq] at hnorm
    obtain ⟨⟨⟨rfl, rfl⟩, rfl⟩, rfl⟩ := hnorm
    refine ⟨b, List.mem_of_getElem? hb, h1, litString n, fun h t w =>
      ⟨_, ?_, render_flagged hdf hnd (by decide) h t w⟩⟩
    rw [render_flagged hbf hnb (sfx := "") (by decide) h t w]
    simp only [String.empty_append]
  · cases hnorm

/-- There are `_nocancel` decoders (e.g. BSC_read_nocancel), they are supported, and their base is BSC_read. -/
example : ∃ d ∈ decoders, d.key = 109681597891974153685437081016214353044844 ∧ hasSuffix d = true ∧
    d.supported = true ∧ d.key / 256 ^ 9 = 23225981780499980644 := by decide +kernel

example : (decoders.filter hasSuffix).length = 30 := by decide +kernel

/-! ### translation tie: the registry `TracesParser.__init__` builds IS this decoder table

  `tools/gen_pyir.py` translates the constructor of `traces_parser.py` (on every run, pure `ast`) into `Gen.PyIR.init`;
  its field `updates` is the ORDERED list of families merged by `self.handlers = {}` followed by
  `self.handlers.update(<family>_handlers)` — each name checked to be bound by
  `from pykdebugparser.trace_handlers.<family> import handlers as <family>_handlers`.  `PyIRTp.merge fam us` is that
  sequence of `dict.update` calls on insertion-ordered dicts (a later family wins on a duplicate name).  The dict of a
  family is its part of the reflected table: `familyDict f` = the decoders with `family = f.idx`, keyed by name key. -/

/-- The generated constructor is the expected one (`Spec/PyIRTpExpected`, quoting the Python): the attribute initialisers
    and, in particular, the seven `update` calls in the order written; the translator met nothing it could not express. -/
theorem source_is_expected_ir : Gen.PyIR.init = PyIRTp.Expected.init ∧ Gen.PyIR.notes = [] := ⟨rfl, rfl⟩

/-- `<family>_handlers` as reflected: the entries of the table that belong to the family, keyed by name key. -/
def familyDict (f : PyIRTp.Family) : PyIR.AList Decoder :=
  (decoders.filter (fun d => d.family == f.idx)).map (fun d => (d.key, d))

/-- `self.handlers` after the interpreted `__init__`. -/
def registry : PyIR.AList Decoder := PyIRTp.merge familyDict Gen.PyIR.init.updates

theorem families_cover : decoders.all (fun d => decide (d.family < 7)) = true := by decide +kernel

theorem mem_familyDict {f : PyIRTp.Family} {k : Nat} {d : Decoder} :
    (k, d) ∈ familyDict f ↔ d ∈ decoders ∧ d.family = f.idx ∧ d.key = k := by
  simp only [familyDict, List.mem_map, List.mem_filter, beq_iff_eq, Prod.mk.injEq]
  constructor
  · rintro ⟨x, ⟨hx, hf⟩, hk, rfl⟩; exact ⟨hx, hf, hk⟩
  · rintro ⟨hd, hf, hk⟩; exact ⟨d, ⟨hd, hf⟩, hk, rfl⟩

theorem eq_of_key_eq : ∀ (l : List Decoder), (l.map (·.key)).Nodup → ∀ a ∈ l, ∀ b ∈ l, a.key = b.key → a = b
  | [], _, a, ha, _, _, _ => by simp at ha
  | x :: r, h, a, ha, b, hb, hk => by
    simp only [List.map_cons, List.nodup_cons, List.mem_map, not_exists, not_and] at h
    rcases List.mem_cons.mp ha with rfl | ha' <;> rcases List.mem_cons.mp hb with rfl | hb'
    · rfl
    · exact absurd hk.symm (h.1 b hb')
    · exact absurd hk (h.1 a ha')
    · exact eq_of_key_eq r h.2 a ha' b hb' hk

/-- **No name has two owners**: an entry of one family's dict and an entry of another's (or the same) under the same name
    are the same entry — from `no_two_families_claim_same_name`. -/
theorem family_entries_unique (f g : PyIRTp.Family) (k : Nat) (v v' : Decoder)
    (h : (k, v) ∈ familyDict f) (h' : (k, v') ∈ familyDict g) : v = v' := by
  obtain ⟨hv, _, hk⟩ := mem_familyDict.mp h
  obtain ⟨hv', _, hk'⟩ := mem_familyDict.mp h'
  exact eq_of_key_eq decoders no_two_families_claim_same_name v hv v' hv' (hk.trans hk'.symm)

theorem family_of_idx : ∀ n < 7, ∃ f ∈ PyIRTp.Family.all, n = f.idx := by decide

/-- a family left out of the merge loses exactly its names: with the updates `us`, a decoder is registered iff its family
    is among them -/
theorem registry_of_some_families (us : List PyIRTp.Family) (k : Nat) (d : Decoder) :
    PyIR.AList.lookup k (PyIRTp.merge familyDict us) = some d ↔
      d ∈ decoders ∧ d.key = k ∧ ∃ f ∈ us, d.family = f.idx := by
  rw [PyIRTp.merge_lookup_iff familyDict family_entries_unique]
  constructor
  · rintro ⟨f, hf, hm⟩
    obtain ⟨hd, hfi, hk⟩ := mem_familyDict.mp hm
    exact ⟨hd, hk, f, hf, hfi⟩
  · rintro ⟨hd, hk, f, hf, hfi⟩
    exact ⟨f, hf, mem_familyDict.mpr ⟨hd, hfi, hk⟩⟩

/-- For ANY sequence of updates `us` that mentions every family (in any order, with repetitions): the merged registry binds
    a name key to a decoder exactly when that decoder is in the table under that key. -/
theorem merged_registry_is_table (us : List PyIRTp.Family) (hall : ∀ f ∈ PyIRTp.Family.all, f ∈ us) (k : Nat)
    (d : Decoder) :
    PyIR.AList.lookup k (PyIRTp.merge familyDict us) = some d ↔ d ∈ decoders ∧ d.key = k := by
  rw [registry_of_some_families]
  constructor
  · rintro ⟨hd, hk, _⟩
    exact ⟨hd, hk⟩
  · rintro ⟨hd, hk⟩
    obtain ⟨f, hf, hfi⟩ := family_of_idx d.family (by simpa using List.all_eq_true.mp families_cover d hd)
    exact ⟨hd, hk, f, hall f hf, hfi⟩

theorem updates_mention_all : ∀ f ∈ PyIRTp.Family.all, f ∈ Gen.PyIR.init.updates := by
  rw [source_is_expected_ir.1]; decide

/-- The registry the interpreted `__init__` merges — `{}` updated with the reflected dicts of
    bsd, dyld, fsystem, mach, perf, trace, turnstile in the order written in the source, a later family winning on a
    duplicate name — IS the decoder table `decoders` that the theorems of C17 (and of C07 / C09 / C10 / C18, which quantify
    over `d ∈ Gen.Decoders.decoders`) are about: a name key is registered iff the table has a decoder under it, and it is
    registered with exactly that decoder — its own family's entry (no other family's function object can win, because no
    other family has the name). -/
theorem registry_ir_eq_model (k : Nat) (d : Decoder) :
    PyIR.AList.lookup k registry = some d ↔ d ∈ decoders ∧ d.key = k :=
  merged_registry_is_table _ updates_mention_all k d

/-- … as a lookup: `self.handlers.get(name)` is the table entry under that name key, if any. -/
theorem registry_lookup_eq_find (k : Nat) :
    PyIR.AList.lookup k registry = decoders.find? (fun d => d.key == k) := by
  apply Option.ext
  intro d
  rw [registry_ir_eq_model]
  constructor
  · rintro ⟨hd, hk⟩
    cases hf : decoders.find? (fun d => d.key == k) with
    | none =>
      have := List.find?_eq_none.mp hf d hd
      simp [hk] at this
    | some d' =>
      have hk' : d'.key = k := by simpa using List.find?_some hf
      rw [eq_of_key_eq decoders no_two_families_claim_same_name d' (List.mem_of_find?_eq_some hf) d hd (hk'.trans hk.symm)]
  · intro hf
    exact ⟨List.mem_of_find?_eq_some hf, by simpa using List.find?_some hf⟩

/-- every registered decoder is in the registry under its own name, and only there -/
theorem registry_mem (d : Decoder) : d ∈ decoders ↔ PyIR.AList.lookup d.key registry = some d := by
  rw [registry_ir_eq_model]; simp

/-- The merge order as written + family-disjointness ⇒ the registry does not depend on the
    order: ANY permutation of the seven `update` calls of the source builds a registry with the same bindings. -/
theorem registry_order_independent (us : List PyIRTp.Family) (hp : us.Perm Gen.PyIR.init.updates) (k : Nat) :
    PyIR.AList.lookup k (PyIRTp.merge familyDict us) = PyIR.AList.lookup k registry :=
  PyIRTp.merge_order_independent familyDict family_entries_unique us Gen.PyIR.init.updates (fun _ => hp.mem_iff) k

/-- … and so does any sequence that mentions every family at least once. -/
theorem registry_any_complete_order (us : List PyIRTp.Family) (hall : ∀ f ∈ PyIRTp.Family.all, f ∈ us) (k : Nat) :
    PyIR.AList.lookup k (PyIRTp.merge familyDict us) = PyIR.AList.lookup k registry := by
  apply Option.ext
  intro d
  rw [merged_registry_is_table us hall, registry_ir_eq_model]

theorem read_is_bsd : ∃ d ∈ decoders, d.key = 23225981780499980644 ∧ d.family = 0 := by decide +kernel

/-- BSC_read is registered by the interpreted constructor, with the bsd family's entry … -/
example : ∃ d, PyIR.AList.lookup 23225981780499980644 registry = some d ∧ d.family = PyIRTp.Family.bsd.idx := by
  obtain ⟨d, hd, hk, hf⟩ := read_is_bsd
  exact ⟨d, (registry_ir_eq_model _ d).mpr ⟨hd, hk⟩, hf⟩

/-- … and without `self.handlers.update(bsd_handlers)` it would not be. -/
example : PyIR.AList.lookup 23225981780499980644
    (PyIRTp.merge familyDict [.dyld, .fsystem, .mach, .perf, .trace, .turnstile]) = none := by
  apply Option.ext
  intro d
  rw [registry_of_some_families]
  constructor
  · rintro ⟨hd, hk, f, hf, hfi⟩
    obtain ⟨d', hd', hk', hf'⟩ := read_is_bsd
    cases eq_of_key_eq decoders no_two_families_claim_same_name d hd d' hd' (hk.trans hk'.symm)
    rw [hf'] at hfi
    exfalso
    revert f
    decide
  · nofun

/-- The hypothesis of the order-independence matters, and the interpreter can tell: over two toy families that share a
    name, the order of the updates decides which entry wins. -/
example :
    let fam : PyIRTp.Family → PyIR.AList Nat := fun f => match f with | .bsd => [(1, 10), (2, 20)] | .dyld => [(2, 21)] | _ => []
    PyIR.AList.lookup 2 (PyIRTp.merge fam [.bsd, .dyld]) = some 21 ∧
    PyIR.AList.lookup 2 (PyIRTp.merge fam [.dyld, .bsd]) = some 20 ∧
    PyIRTp.merge fam [.bsd, .dyld] = [(1, 10), (2, 21)] ∧ PyIRTp.merge fam [.dyld, .bsd] = [(2, 20), (1, 10)] := by decide

end KdVerif.C17
