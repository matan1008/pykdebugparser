import KdVerif.Gen.Flags
import KdVerif.Proofs.Flags
/-
  C11 — flag words and packed fields decode to exactly the names of the bits set; the ioctl split is
  the exact inverse of Darwin's `_IOC` packing.

  Subjects (all instantiated with the tables the translator reflects from the current source):
    * `Gen.Flags.sites`  – every `[m for m in <enum> if m.value & word]` of bsd/mach/perf/dyld
      (`to_vm_prot`, `to_ast_reasons`, `to_thread_state`, `to_sampler_action`, `to_kperf_ti_state`,
      `to_callstack_flags`, `to_rtld_flags`, `serialize_access_flags`, the inline comprehensions of
      recvfrom / chflags / fchflags / flock) with `CompSite.eval` as its meaning;
    * `openFlags`  – `serialize_open_flags`;   `statFlags` – `serialize_stat_flags`;
    * `splitIoctl'` – the word split of `BscIoctl.__str__`.
  Reference: `Spec/Darwin.lean` (hand-written from Darwin's headers).
  All theorems are for every natural word `v` (no bound).
-/
namespace KdVerif
open Spec

/-- `serialize_open_flags(v)` -/
def openFlags (v : Nat) : List EnumMember :=
  serializeOpenFlags Gen.Flags.openAcc Gen.Flags.openAccElse Gen.Flags.openShown v

/-- `serialize_stat_flags(v)` -/
def statFlags (v : Nat) : List EnumMember :=
  serializeStatFlags Gen.Flags.statIter Gen.Flags.statTypeMask Gen.Flags.statFieldMask v

/-- `BscIoctl.__str__`'s split of the request word. -/
def splitIoctl' (w : Nat) : Except PyErr IoctlParts := splitIoctl Gen.Flags.iocParams Gen.Flags.iocLayout w

/-- The shown-flags loop of `serialize_open_flags` as a comprehension site over the open flags
    outside the access-mode field. -/
def openSite : CompSite :=
  ⟨"bsd.serialize_open_flags", Gen.Flags.openEnum.outside Darwin.O_ACCMODE, .cls, Gen.Flags.openShown, .none⟩

/-- The non-file-type branch of `serialize_stat_flags` as a comprehension site over the mode bits
    outside `S_IFMT`. -/
def statSite : CompSite :=
  ⟨"bsd.serialize_stat_flags", Gen.Flags.statEnum.outside Darwin.S_IFMT, Gen.Flags.statSrc,
   Gen.Flags.statIter.filter (EnumMember.outsideB Darwin.S_IFMT), .none⟩

/-- The enum classes of the property's families and their Darwin reference tables. -/
def familyRefs : List (EnumDef × Darwin.Table) := [
  (Gen.Enums.BscOpenFlags, Darwin.openFlags), (Gen.Enums.StatFlags, Darwin.statModes),
  (Gen.Enums.BscAccessFlags, Darwin.accessModes), (Gen.Enums.SocketMsgFlags, Darwin.msgFlags),
  (Gen.Enums.FlockOperation, Darwin.lockOps), (Gen.Enums.BscChangeableFlags, Darwin.fileFlags),
  (Gen.Enums.VmProtection, Darwin.vmProt), (Gen.Enums.AsynchronousSystemTrapsReason, Darwin.astReasons),
  (Gen.Enums.ThreadState, Darwin.threadState), (Gen.Enums.SamplerAction, Darwin.samplerActions),
  (Gen.Enums.KperfTiState, Darwin.kperfTiState), (Gen.Enums.CallstackFlag, Darwin.callstackFlags),
  (Gen.Enums.RtldFlag, Darwin.rtldFlags)]

/-- The flag families the property names that are decoded by a plain comprehension. -/
def requiredFamilies : List String :=
  ["SocketMsgFlags", "FlockOperation", "BscChangeableFlags", "BscAccessFlags", "VmProtection",
   "AsynchronousSystemTrapsReason", "ThreadState", "SamplerAction", "KperfTiState", "CallstackFlag", "RtldFlag"]

def matchesRefB (p : EnumDef × Darwin.Table) : Bool :=
  p.1.members.all fun m => match p.2.lookup m.name with
    | some v => m.value == (v : Int)
    | none => true

/-- A family that declares a zero member handles it by one of the two zero cases; a family
    without one has no zero case. -/
def zeroHandledB (s : CompSite) : Bool :=
  match s.enum.ofValue 0 with
  | some z => s.zero == .wordZero z || s.zero == .emptyResult z
  | none => s.zero == .none

namespace C11

/-- Every shape of the current source was understood by the translator (nothing is modelled by a
    placeholder). -/
theorem translator_supported : Gen.Flags.unsupported = [] := rfl

theorem sites_okB : (Gen.Flags.sites.all CompSite.okB) = true := by decide +kernel
theorem openSite_okB : openSite.okB = true := by decide +kernel
theorem statSite_okB : statSite.okB = true := by decide +kernel

theorem sites_ok {s : CompSite} (h : s ∈ Gen.Flags.sites) : s.OK :=
  CompSite.okB_spec (List.all_eq_true.mp sites_okB s h)

/-- Every family the property names is decoded somewhere (the quantifier `∀ s ∈ sites` below is
    not vacuous for any of them), and open/stat flags are the classes the reference is about. -/
theorem families_covered :
    (∀ f ∈ requiredFamilies, ∃ s ∈ Gen.Flags.sites, s.enum.name = f) ∧
    Gen.Flags.openEnum.name = "BscOpenFlags" ∧ Gen.Flags.statEnum.name = "StatFlags" ∧
    (∀ s ∈ Gen.Flags.sites, ∃ p ∈ familyRefs, p.1.name = s.enum.name) := by decide +kernel

/-- Members of each flag family are single bits below 2^64 or zero; open flags are single bits
    outside the access-mode field or values of that field; mode members are single bits below the
    file-type field or one of Darwin's seven file types. -/
theorem singlebit_tables :
    (∀ s ∈ Gen.Flags.sites, ∀ m ∈ s.enum.members, m.value = 0 ∨ ∃ k, k < 64 ∧ m.IsBit k) ∧
    (∀ m ∈ Gen.Flags.openEnum.members,
        (0 ≤ m.value ∧ m.value ≤ 3) ∨ ∃ k, 2 ≤ k ∧ k < 64 ∧ m.IsBit k) ∧
    (∀ m ∈ Gen.Flags.statEnum.members,
        (m.name, m.value.toNat) ∈ Darwin.fileTypes ∨ ∃ k, k < 12 ∧ m.IsBit k) := by
  have ho : ∀ m ∈ Gen.Flags.openEnum.members,
      (0 ≤ m.value ∧ m.value ≤ 3) ∨ ∃ k, k < 64 ∧ 2 ≤ k ∧ m.value = ((2 ^ k : Nat) : Int) := by decide +kernel
  have hs : ∀ m ∈ Gen.Flags.statEnum.members,
      (∃ k, k < 12 ∧ m.value = ((2 ^ k : Nat) : Int)) ∨ (m.name, m.value.toNat) ∈ Darwin.fileTypes := by
    decide +kernel
  exact ⟨fun s hs => (sites_ok hs).memberBits,
    fun m hm => (ho m hm).imp id fun ⟨k, hk, h2, hv⟩ => ⟨k, h2, hk, hv⟩, fun m hm => (hs m hm).symm⟩

/-- The names carry Darwin's numeric values: every declared member of every family that is present
    in the reference table has the reference value; the masks used for the file-type field are
    Darwin's `S_IFMT`; the ioctl direction table maps Darwin's four directions to their names. -/
theorem values_match_darwin :
    (∀ p ∈ familyRefs, ∀ m ∈ p.1.members, ∀ val, p.2.lookup m.name = some val → m.value = (val : Int)) ∧
    Gen.Flags.S_IFMT = Darwin.S_IFMT ∧ Gen.Flags.statTypeMask = Darwin.S_IFMT ∧
    Gen.Flags.statFieldMask = Darwin.S_IFMT ∧
    (∀ d ∈ Darwin.directions, Gen.Flags.iocParams.lookup d.1 = some d.2) := by
  refine ⟨?_, by decide +kernel⟩
  have h : ∀ p ∈ familyRefs, matchesRefB p = true := by decide +kernel
  intro p hp m hm val hv
  have := List.all_eq_true.mp (h p hp) m hm
  rw [hv] at this
  exact beq_iff_eq.mp this

/-- Every name shown stands for a bit that is set in the word: a shown member with a non-zero value
    is the single bit `k` (`m.value = 2^k`) and bit `k` of `v` is set.  (Zero-valued members:
    `zero_cases`.) -/
theorem shown_sound : ∀ s ∈ Gen.Flags.sites, ∀ (v : Nat) (m : EnumMember), m ∈ s.eval v → m.value ≠ 0 →
    ∃ k, k < 64 ∧ m.IsBit k ∧ v.testBit k = true :=
  fun _ hs _ _ hm hnz => CompSite.sound (sites_ok hs) hm hnz

/-- Every set bit that has a declared name is shown under that name (`E(2^k)`, the first declared
    member with that value). -/
theorem shown_complete : ∀ s ∈ Gen.Flags.sites, ∀ (v k : Nat) (m : EnumMember),
    s.enum.ofValue ((2 ^ k : Nat) : Int) = some m → v.testBit k = true → m ∈ s.eval v :=
  fun _ hs _ _ _ hd hb => CompSite.complete (sites_ok hs) hd hb

/-- Only declared names are shown. -/
theorem shown_declared : ∀ s ∈ Gen.Flags.sites, ∀ (v : Nat) (m : EnumMember), m ∈ s.eval v →
    m ∈ s.enum.members := by
  intro s hs v m hm
  have ok := sites_ok hs
  rcases s.eval_sub v m hm with h | ⟨hz, _⟩ | ⟨hz, _⟩
  · exact ok.declared m (mem_flagsIn.mp h).1
  · exact (ok.zeroVal m (.inl hz)).2
  · exact (ok.zeroVal m (.inr hz)).2

/-- When a zero-valued member (AST_NONE, VM_PROT_NONE, F_OK) is shown: never by a site without a
    zero case; by an `if not flags` site exactly for the zero word; by the `if not result` site
    (access modes) exactly when no declared bit is set. -/
theorem zero_cases : ∀ s ∈ Gen.Flags.sites, ∀ (v : Nat) (m : EnumMember), m.value = 0 →
    (m ∈ s.eval v ↔ (s.zero = .wordZero m ∧ v = 0) ∨ (s.zero = .emptyResult m ∧ s.NoDeclaredBit v)) :=
  fun _ hs v m hz => CompSite.zero_iff (sites_ok hs) v m hz

/-- Which sites have which zero case: AST reasons and VM protections test the word, access modes test
    the result; every family that declares a zero member handles it, the others have no zero case. -/
theorem zero_members : ∀ s ∈ Gen.Flags.sites,
    (s.enum.name = "AsynchronousSystemTrapsReason" → s.zero = .wordZero ⟨"AST_NONE", 0⟩) ∧
    (s.enum.name = "VmProtection" → s.zero = .wordZero ⟨"VM_PROT_NONE", 0⟩) ∧
    (s.enum.name = "BscAccessFlags" → s.zero = .emptyResult ⟨"F_OK", 0⟩) ∧ zeroHandledB s = true := by
  decide +kernel

/-- The zero word shows exactly the family's zero member if it declares one, and nothing otherwise. -/
theorem zero_word : ∀ s ∈ Gen.Flags.sites,
    s.eval 0 = (match s.enum.ofValue 0 with | some z => [z] | none => []) := by
  intro s hs
  have h := (zero_members s hs).2.2.2
  unfold zeroHandledB at h
  cases hz : s.enum.ofValue 0 <;> simp only [hz, Bool.or_eq_true, beq_iff_eq] at h
  · simp [CompSite.eval, h, flagsIn_zero]
  · rcases h with h | h <;> simp [CompSite.eval, h, flagsIn_zero]

/-- For a non-zero word the zero member of a word-tested family (AST_NONE, VM_PROT_NONE) is not shown. -/
theorem zero_member_only_for_zero_word : ∀ s ∈ Gen.Flags.sites, ∀ (v : Nat) (z : EnumMember),
    s.zero = .wordZero z → v ≠ 0 → z ∉ s.eval v := by
  intro s hs v z hz hv hm
  have ok := sites_ok hs
  have := (CompSite.zero_iff ok v z (ok.zeroVal z (.inl hz)).1).mp hm
  rcases this with ⟨_, h0⟩ | ⟨h, _⟩
  · exact hv h0
  · rw [hz] at h; cases h

theorem openFlags_tail (v : Nat) : (openFlags v).tail = openSite.eval v := rfl

/-- The access-mode field (`v &&& O_ACCMODE`) is shown by the single name of its value:
    0 → O_RDONLY, 1 → O_WRONLY, 2 → O_RDWR.  Value 3 is the mask `O_ACCMODE`, not a mode; the code
    tests O_RDWR first, so it shows O_RDWR. -/
theorem accmode_name (v : Nat) :
    (openFlags v).head? = some (match v &&& Darwin.O_ACCMODE with
      | 0 => ⟨"O_RDONLY", 0⟩
      | 1 => ⟨"O_WRONLY", 1⟩
      | _ => ⟨"O_RDWR", 2⟩) := by
  -- both candidates lie inside the field, so only its four values have to be looked at
  have hf : flagsIn Gen.Flags.openAcc (v &&& Darwin.O_ACCMODE) = flagsIn Gen.Flags.openAcc v :=
    flagsIn_and_mask (by decide +kernel) v
  have hlt : v &&& Darwin.O_ACCMODE < 2 ^ 2 := Nat.and_lt_two_pow v (by decide)
  unfold openFlags serializeOpenFlags
  rw [List.head?_cons, ← hf]
  generalize v &&& Darwin.O_ACCMODE = f at hlt
  have : f = 0 ∨ f = 1 ∨ f = 2 ∨ f = 3 := by omega
  rcases this with rfl | rfl | rfl | rfl <;> decide +kernel

/-- Open flags outside the access-mode field: every name shown after the access mode is a single
    bit `k ≥ 2` that is set in the word. -/
theorem shown_sound_open (v : Nat) (m : EnumMember) (hm : m ∈ (openFlags v).tail) :
    ∃ k, 2 ≤ k ∧ k < 64 ∧ m.IsBit k ∧ v.testBit k = true := by
  have ok := CompSite.okB_spec openSite_okB
  rw [openFlags_tail] at hm
  have hmem : m ∈ Gen.Flags.openShown := (mem_flagsIn.mp hm).1
  have hout : m ∈ (Gen.Flags.openEnum.outside Darwin.O_ACCMODE).members := ok.declared m hmem
  have hnz : m.value ≠ 0 := by
    intro h0; exact not_mem_flagsIn_zero h0 hm
  obtain ⟨k, hk, hb, ht⟩ := CompSite.sound ok hm hnz
  refine ⟨k, ?_, hk, hb, ht⟩
  -- the member lies outside the access-mode field, so its bit is not bit 0 or 1
  have ho : EnumMember.outsideB Darwin.O_ACCMODE m = true := (List.mem_filter.mp hout).2
  simp only [EnumMember.outsideB, decide_eq_true_eq, hb.toNat] at ho
  have := (two_pow_and_eq_zero k Darwin.O_ACCMODE).mp ho
  apply Classical.byContradiction
  intro hlt
  have : k = 0 ∨ k = 1 := by omega
  rcases this with rfl | rfl
  · exact absurd this (by decide)
  · exact absurd this (by decide)

/-- Every set bit `k ≥ 2` for which `BscOpenFlags` declares a name is shown under that name. -/
theorem shown_complete_open (v k : Nat) (m : EnumMember)
    (hd : Gen.Flags.openEnum.ofValue ((2 ^ k : Nat) : Int) = some m) (hk : 2 ≤ k)
    (hb : v.testBit k = true) : m ∈ (openFlags v).tail := by
  have ok := CompSite.okB_spec openSite_okB
  rw [openFlags_tail]
  apply CompSite.complete ok (k := k) _ hb
  show (Gen.Flags.openEnum.outside Darwin.O_ACCMODE).ofValue _ = some m
  rw [EnumDef.outside_ofValue _ _ _ (Nat.testBit_lt_two_pow _), hd]
  calc Darwin.O_ACCMODE < 2 ^ 2 := by decide +kernel
    _ ≤ 2 ^ k := Nat.pow_le_pow_right (by decide) hk

theorem statFlags_outside (v : Nat) :
    (statFlags v).filter (EnumMember.outsideB Darwin.S_IFMT) = statSite.eval v :=
  serializeStatFlags_outside _ _ _ _

/-- Permission and special bits: every shown member outside the file-type field is a single bit
    that is set in the word. -/
theorem shown_sound_stat (v : Nat) (m : EnumMember) (hm : m ∈ statFlags v)
    (ho : m.value.toNat &&& Darwin.S_IFMT = 0) : ∃ k, k < 12 ∧ m.IsBit k ∧ v.testBit k = true := by
  have ok := CompSite.okB_spec statSite_okB
  have hm' : m ∈ statSite.eval v := by
    rw [← statFlags_outside]; exact List.mem_filter.mpr ⟨hm, by simpa [EnumMember.outsideB] using ho⟩
  have hnz : m.value ≠ 0 := fun h0 => not_mem_flagsIn_zero h0 hm'
  obtain ⟨k, _, hb, ht⟩ := CompSite.sound ok hm' hnz
  have hdecl : m ∈ Gen.Flags.statEnum.members :=
    (List.mem_filter.mp (ok.declared m (mem_flagsIn.mp hm').1)).1
  rcases singlebit_tables.2.2 m hdecl with hft | ⟨j, hj, hbj⟩
  · -- a file type is not outside S_IFMT
    exfalso
    have : ∀ t ∈ Darwin.fileTypes, t.2 &&& Darwin.S_IFMT ≠ 0 := by decide +kernel
    exact this _ hft ho
  · exact ⟨k, hb.unique hbj ▸ hj, hb, ht⟩

/-- Every set permission / special bit for which `StatFlags` declares a name is shown under it. -/
theorem shown_complete_stat (v k : Nat) (m : EnumMember)
    (hd : Gen.Flags.statEnum.ofValue ((2 ^ k : Nat) : Int) = some m)
    (hk : Darwin.S_IFMT.testBit k = false) (hb : v.testBit k = true) : m ∈ statFlags v := by
  have ok := CompSite.okB_spec statSite_okB
  have : m ∈ statSite.eval v := by
    apply CompSite.complete ok (k := k) _ hb
    show (Gen.Flags.statEnum.outside Darwin.S_IFMT).ofValue _ = some m
    rw [EnumDef.outside_ofValue _ _ _ hk, hd]
  rw [← statFlags_outside] at this
  exact (List.mem_filter.mp this).1

/-- The file-type names shown for the word `v`. -/
def typeNames (v : Nat) : List EnumMember :=
  (statFlags v).filter fun m => !(EnumMember.outsideB Darwin.S_IFMT m)

/-- The file-type names are those of Darwin's file types whose value equals the field. -/
theorem typeNames_eq (v : Nat) :
    typeNames v = (Darwin.fileTypes.map fun t => (⟨t.1, t.2⟩ : EnumMember)).filter
      (fun m => decide (((v &&& Darwin.S_IFMT : Nat) : Int) = m.value ∧ 0 ≤ m.value)) := by
  have h : Gen.Flags.statIter.filter (fun m => !(EnumMember.outsideB Darwin.S_IFMT m)) =
      Darwin.fileTypes.map fun t => ⟨t.1, t.2⟩ := by decide +kernel
  rw [← h]
  exact serializeStatFlags_inside _ _ _ _

/-- The file-type field (`v &&& S_IFMT`): when it holds one of Darwin's seven file types, exactly one
    file-type name is shown and it is that type's; any other field value shows no file-type name. -/
theorem filetype_name (v : Nat) :
    (∀ t ∈ Darwin.fileTypes, v &&& Darwin.S_IFMT = t.2 → typeNames v = [⟨t.1, t.2⟩]) ∧
    ((∀ t ∈ Darwin.fileTypes, v &&& Darwin.S_IFMT ≠ t.2) → typeNames v = []) := by
  rw [typeNames_eq]
  generalize v &&& Darwin.S_IFMT = f
  constructor
  · intro t ht hf
    subst hf
    revert t
    decide +kernel
  · intro h
    apply List.filter_eq_nil_iff.mpr
    intro m hm
    obtain ⟨t, ht, rfl⟩ := List.mem_map.mp hm
    intro hp
    exact h t ht (Int.ofNat_inj.mp (of_decide_eq_true hp).1)

/-- The split of a word whose direction field is a key of the name table, with the shifts and masks
    of the source read as division and remainder. -/
theorem splitIoctl'_ok {w : Nat} {nm : String}
    (h : Gen.Flags.iocParams.lookup (w &&& Darwin.IOC_DIRMASK) = some nm) :
    splitIoctl' w = .ok ⟨nm, w / 2 ^ 8 % 2 ^ 8, w % 2 ^ 8, w / 2 ^ 16 % 2 ^ 13⟩ := by
  rw [splitIoctl', splitIoctl_ok (L := Gen.Flags.iocLayout) h]
  show Except.ok (IoctlParts.mk nm ((w >>> 8) &&& (2 ^ 8 - 1)) ((w >>> 0) &&& (2 ^ 8 - 1))
    ((w >>> 16) &&& (2 ^ 13 - 1))) = _
  rw [shr_and_mask, shr_and_mask, shr_and_mask, Nat.pow_zero, Nat.div_one]

/-- The split is the exact inverse of Darwin's `_IOC` packing: for each of the four directions,
    every group and number below 256 and every parameter length below 8192 (IOCPARM_MASK + 1),
    the word `_IOC(dir, group, num, len)` is shown as that direction's name, group, number, length. -/
theorem ioc_inverse (d : Nat) (nm : String) (hd : (d, nm) ∈ Darwin.directions) (g n l : Nat)
    (hg : g < 256) (hn : n < 256) (hl : l < 8192) :
    splitIoctl' (Darwin._IOC d g n l) = .ok ⟨nm, g, n, l⟩ := by
  have hdm : ∀ p ∈ Darwin.directions, p.1 &&& Darwin.IOC_DIRMASK = p.1 := by decide +kernel
  obtain ⟨fd, fg, fn, fl⟩ := ioc_fields d g n l (hdm _ hd) hg hn hl
  rw [splitIoctl'_ok (nm := nm) (by rw [fd]; exact values_match_darwin.2.2.2.2 _ hd), fg, fn, fl]

/-- Total on the defined directions: a word whose direction field is one of Darwin's four directions
    never raises, and is shown as that direction's name and the three fields of the word. -/
theorem ioc_total_on_defined_directions (w : Nat) (d : Nat) (nm : String)
    (hd : (d, nm) ∈ Darwin.directions) (hw : w &&& Darwin.IOC_DIRMASK = d) :
    splitIoctl' w = .ok ⟨nm, w / 2 ^ 8 % 2 ^ 8, w % 2 ^ 8, w / 2 ^ 16 % 2 ^ 13⟩ :=
  splitIoctl'_ok (by rw [hw]; exact values_match_darwin.2.2.2.2 _ hd)

/-- Exactly the words whose direction field is none of the table's keys raise `KeyError`:
    direction bits 000, 011 (VOID|OUT) and 101 (VOID|IN), which no Darwin macro produces. -/
theorem ioc_keyerror_iff (w : Nat) :
    splitIoctl' w = .error .keyError ↔ w / 2 ^ 29 % 8 ∈ [0, 3, 5] := by
  have h : ∀ j < 8, Gen.Flags.iocParams.lookup (j * 2 ^ 29) = none ↔ j ∈ [0, 3, 5] := by decide +kernel
  rw [splitIoctl', splitIoctl_keyError_iff]
  show Gen.Flags.iocParams.lookup (w &&& 0xe0000000) = none ↔ _
  rw [and_dirmask]
  exact h _ (Nat.mod_lt _ (by decide))

/-- Re-packing what is shown gives back the (32-bit) request word. -/
theorem ioc_repack (w : Nat) (hw : w < 2 ^ 32) :
    Darwin._IOC (w &&& Darwin.IOC_DIRMASK) (w / 2 ^ 8 % 2 ^ 8) (w % 2 ^ 8) (w / 2 ^ 16 % 2 ^ 13) = w := by
  have h2 : ∀ k, 0 < 2 ^ k := Nat.two_pow_pos
  rw [show Darwin.IOC_DIRMASK = 0xe0000000 from rfl, and_dirmask,
    Nat.mod_eq_of_lt (Nat.div_lt_of_lt_mul (show w < 2 ^ 29 * 8 from hw)),
    ioc_eq_pack _ _ _ _ (Nat.mod_lt _ (h2 8)) (Nat.mod_lt _ (h2 8)) (Nat.mod_lt _ (h2 13))]
  exact unpack_fields w 8 8 13

/-- No name is shown twice (the result is a sublist of a duplicate-free iteration, or the single
    zero member; the access-mode name is not one of the flags shown after it). -/
theorem shown_nodup :
    (∀ s ∈ Gen.Flags.sites, ∀ v : Nat, (s.eval v).Nodup) ∧ (∀ v : Nat, (openFlags v).Nodup) ∧
    (∀ v : Nat, (statFlags v).Nodup) := by
  -- iterated members are told apart by their values, which are cheaper to compare than their names
  have hs : ∀ s ∈ Gen.Flags.sites, (s.iter.map (·.value)).Nodup := by decide +kernel
  have ho : (Gen.Flags.openShown.map (·.value)).Nodup ∧
      ∀ a ∈ Gen.Flags.openAccElse :: Gen.Flags.openAcc, a.value ∉ Gen.Flags.openShown.map (·.value) := by
    decide +kernel
  have hst : (Gen.Flags.statIter.map (·.value)).Nodup := by decide +kernel
  exact ⟨fun s h => CompSite.eval_nodup (nodup_of_values (hs s h)),
    serializeOpenFlags_nodup (nodup_of_values ho.1) fun a ha h => ho.2 a ha (List.mem_map_of_mem h),
    fun _ => (nodup_of_values hst).sublist List.filter_sublist⟩

/-! Concrete words, so that the hypotheses above are seen to be satisfiable. -/

example : (openFlags 0x1000a43).map (·.name) = ["O_RDWR", "O_CREAT", "O_EXCL", "O_ASYNC", "O_CLOEXEC"] := by decide +kernel
example : (statFlags 0o120755).map (·.name) =
    ["S_IXOTH", "S_IROTH", "S_IXGRP", "S_IRGRP", "S_IXUSR", "S_IWUSR", "S_IRUSR", "S_IFLNK"] := by decide +kernel
example : typeNames 0o060644 = [⟨"S_IFBLK", 0o060000⟩] :=
  (filetype_name _).1 ("S_IFBLK", 0o060000) (by decide) (by decide)
example : typeNames 0o050644 = [] := (filetype_name _).2 (by decide)
example : splitIoctl' 0x40087468 = .ok ⟨"IOC_OUT", 0x74, 104, 8⟩ := by rfl
example : splitIoctl' (Darwin._IOC Darwin.IOC_INOUT 0x69 17 4100) = .ok ⟨"IOC_IN | IOC_OUT", 0x69, 17, 4100⟩ :=
  ioc_inverse _ _ (by decide) _ _ _ (by decide) (by decide) (by decide)
example : splitIoctl' 0x00007401 = .error .keyError := (ioc_keyerror_iff _).mpr (by decide)
example : ∃ s ∈ Gen.Flags.sites, s.func = "mach.to_vm_prot" ∧
    (s.eval 0).map (·.name) = ["VM_PROT_NONE"] ∧ (s.eval 0x13).map (·.name) = ["VM_PROT_READ", "VM_PROT_WRITE", "VM_PROT_COPY"]
    ∧ s.eval 0x100 = [] := by decide +kernel
example : ∃ s ∈ Gen.Flags.sites, s.func = "bsd.serialize_access_flags" ∧
    (s.eval 0).map (·.name) = ["F_OK"] ∧ (s.eval 8).map (·.name) = ["F_OK"] ∧ (s.eval 6).map (·.name) = ["W_OK", "R_OK"] := by
  decide +kernel

end C11
end KdVerif
