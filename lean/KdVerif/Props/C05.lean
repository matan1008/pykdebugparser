import KdVerif.Proofs.Projection
import KdVerif.Proofs.TraceProjection
import KdVerif.Proofs.TraceNoExc
import KdVerif.Gen.Decoders
import KdVerif.Gen.Host
import KdVerif.Gen.Codes
import KdVerif.Proofs.PyIRTr
import KdVerif.Gen.PyIRTr
/-
  C05 — per-thread results are invariant under interleaving of threads.

  FIRST PART (window level): the sequence of event windows delivered for a thread (their order and their
  event lists) depends only on that thread's own event sequence.
  SECOND PART (below, over the whole-`TracesParser` model `Model/Trace.lean`): rendered text of the decoders
  that read no cross-thread table (`projection_traces`), and the process names learned from a thread's own
  new-thread/exec record pairs (`learned_names_per_thread`, defect F2; `interleaving_invariant_names`).

  Subject: `Model/Pairing.step/run` (= `TracesParser.feed` / `feed_generator` up to `parse_event_list`);
  `domOf` (which codes use the trace-string/data table) is an arbitrary parameter.  A window "belongs to
  thread t" when its first event has thread id `t` (`ofThread`); by `window_single_thread` every event of a
  delivered window has the same thread id, so any other choice of representative gives the same notion.
-/
namespace KdVerif.C05
open KdVerif.Pairing

variable (domOf : Nat → Bool)

/-- FRAME.  Feeding an event of thread `e.tid` changes no table entry of any other thread, and (the tables
    holding, per key, events of the key's thread only — an invariant of every reachable state,
    `reachable_tidInv`) everything it delivers consists of events of thread `e.tid`. -/
theorem step_other_thread_frame (s : PState) (e : Kevent) :
    (∀ k, k.tid ≠ e.tid → (step domOf s e).1 k = s k) ∧
    (TidInv s → ∀ w, (step domOf s e).2 = some w → ∀ x ∈ w, x.tid = e.tid) :=
  Pairing.step_other_thread_frame domOf s e

/-- The invariant used by the frame lemma holds after every history. -/
theorem reachable_tidInv (h : List Kevent) : TidInv (stateAfter domOf h) :=
  stateAfter_inv domOf tidInv_empty (step_tidInv domOf) h

/-- A step of an event of thread `t` reads and writes entries of thread `t` only: from two table pairs
    that coincide on thread `t` it delivers the same window and leads to tables that still coincide on `t`. -/
theorem step_reads_own_thread_only (t : Nat) (s₁ s₂ : PState) (e : Kevent) (he : e.tid = t)
    (ha : Agree t s₁ s₂) :
    Agree t (step domOf s₁ e).1 (step domOf s₂ e).1 ∧ (step domOf s₁ e).2 = (step domOf s₂ e).2 :=
  step_agree domOf t s₁ s₂ e he ha

/-- Every event of a delivered window has the same thread id (and the window is not empty). -/
theorem window_single_thread (m : List Kevent) (w : List Kevent) (hw : w ∈ run domOf m) :
    w ≠ [] ∧ ∃ t, ∀ x ∈ w, x.tid = t :=
  run_window_tid domOf m w hw

/-- PROJECTION.  For every history `m` and thread `t`: the windows of thread `t` delivered while parsing `m`
    (in order, with their exact event lists) are the windows delivered when parsing `t`'s own events alone. -/
theorem projection_windows (m : List Kevent) (t : Nat) :
    (run domOf m).filter (ofThread t) = run domOf (m.filter fun e => e.tid == t) :=
  Pairing.projection_windows domOf m t

/-- INTERLEAVING INVARIANCE.  Two histories with the same per-thread subsequences (any two merges of the
    same per-thread programs, e.g. per-CPU buffers merged in different orders) deliver, for every thread,
    the same sequence of windows. -/
theorem interleaving_invariant_windows (m₁ m₂ : List Kevent)
    (hm : ∀ t, m₁.filter (fun e => e.tid == t) = m₂.filter (fun e => e.tid == t)) (t : Nat) :
    (run domOf m₁).filter (ofThread t) = (run domOf m₂).filter (ofThread t) := by
  rw [projection_windows, projection_windows, hm t]

/-- The same for the handler invocations (after the decodability gate of `parse_event_list`). -/
theorem interleaving_invariant_traces (dec : Nat → Bool) (m₁ m₂ : List Kevent)
    (hm : ∀ t, m₁.filter (fun e => e.tid == t) = m₂.filter (fun e => e.tid == t)) (t : Nat) :
    ((run domOf m₁).filter fun w => match w with | x :: _ => dec x.eventid | [] => false).filter (ofThread t)
      = ((run domOf m₂).filter fun w => match w with | x :: _ => dec x.eventid | [] => false).filter
          (ofThread t) := by
  have hc : ∀ (q : List Kevent → Bool) (l : List (List Kevent)),
      (l.filter q).filter (ofThread t) = (l.filter (ofThread t)).filter q := by
    intro q l; simp only [List.filter_filter, Bool.and_comm]
  rw [hc, hc, interleaving_invariant_windows domOf m₁ m₂ hm t]

/-! ### non-vacuity: two different merges of the same two per-thread programs -/

def ev (ts tid eid q : Nat) : Kevent :=
  { timestamp := ts, data := [], values := [], tid := tid, debugid := eid + q, eventid := eid, qual := q }

def progA : List Kevent := [ev 100 1 4 1, ev 101 1 12 0, ev 102 1 4 2, ev 103 1 4 2]
def progB : List Kevent := [ev 200 2 4 1, ev 201 2 4 1, ev 202 2 8 3, ev 203 2 4 2]
def sequential : List Kevent := progA ++ progB
def roundRobin : List Kevent :=
  [ev 200 2 4 1, ev 100 1 4 1, ev 201 2 4 1, ev 101 1 12 0, ev 202 2 8 3, ev 102 1 4 2, ev 203 2 4 2,
   ev 103 1 4 2]

example : ∀ t, sequential.filter (fun e => e.tid == t) = roundRobin.filter (fun e => e.tid == t) := by
  intro t
  by_cases h1 : t = 1
  · subst h1; decide
  · by_cases h2 : t = 2
    · subst h2; decide
    · have h1' : (1 == t) = false := by simp; omega
      have h2' : (2 == t) = false := by simp; omega
      simp [sequential, roundRobin, progA, progB, ev, h1', h2']

example : sequential ≠ roundRobin ∧
    ((run (fun _ => false) roundRobin).filter (ofThread 1)).map (List.map (·.timestamp))
      = [[101], [100, 101, 102]] ∧
    ((run (fun _ => false) sequential).filter (ofThread 1)).map (List.map (·.timestamp))
      = [[101], [100, 101, 102]] ∧
    ((run (fun _ => false) roundRobin).filter (ofThread 2)).map (List.map (·.timestamp))
      = [[202], [201, 202, 203]] := by decide

end KdVerif.C05

/-! ## Second part: traces with text, and the names a thread teaches (whole `TracesParser`, Model/Trace.lean)

  Subject: `Trace.run` (= `TracesParser.feed_generator`: pairing, the fifteen hand-written handlers, the 454
  generated decoders, the six context tables).  A run starts from empty pairing tables and ARBITRARY context
  tables `T` (`PyKdebugParser.traces` hands the parser the tables the thread map filled).  `feed_generator` stops at
  the first exception, so every statement is about runs that raise none (`NoExc`); the statements compare the
  merged run with the run of thread `t`'s own subsequence and assume that neither raises.  The second assumption
  follows from the first (`noexc_own`, `per_thread_of_merged_run`) for every decoder table whose constructor arguments
  raise independently of the cross-thread tables (`ErrFreeDecoders`) — which the regenerated table is
  (`all_fields_errFree`, kernel-checked on every run).

  THE PROPERTY'S OWN EXCLUSION, exactly (`Trace.excluded`): the text — nothing else — of
  * `TRACE_DATA_THREAD_TERMINATE` (`handle_trace_data_thread_terminate` reads `threads_pids` and `tids_names`, which
    other threads write), and
  * the generated decoders that read `global_strings` / `threads_pids` / `tids_names`: for the current tree exactly
    `DBG_DYLD_TIMING_DLSYM`, `_DLOPEN`, `_MAP_IMAGE`, `_DLOPEN_PREFLIGHT` (`excluded_generated_exact`, re-checked by
    the kernel against the regenerated table on every run).
  All other handlers — every BSD / Mach / turnstile / perf decoder, the lookups, the trace strings, the sampler,
  the page-fault and launch composites — are compared WITH their text.
-/
namespace KdVerif.C05
open KdVerif.Trace

/-- A fresh `TracesParser` over context tables `T`. -/
def start (T : Tabs) : Trace.PState := { pairing := Pairing.PState.empty, tabs := T }

def own (t : Nat) (m : List Kevent) : List Kevent := m.filter fun e => e.tid == t

/-- `feed_generator` over `m` raises no exception. -/
def NoExc (env : Env) (T : Tabs) (m : List Kevent) : Prop := (Trace.run env (start T) m).2.1 = none

instance (env : Env) (T : Tabs) (m : List Kevent) : Decidable (NoExc env T m) := by
  unfold NoExc; infer_instance

theorem sim_start (t : Nat) (T : Tabs) : Sim t (start T) (start T) :=
  ⟨Pairing.tidInv_empty, fun _ _ => rfl, AgreeT.refl _ _⟩

/-- The tables a handler call returns are the tables it was given with exactly the
    assignments `handleWrites` lists applied, in order. -/
theorem handler_writes_sound (env : Env) (hbn : BenignNested env) (T T' : Tabs) (name : String) (events : List Kevent)
    (r : Option TraceOut) (h : handle env T name events = .ok (r, T')) :
    T' = applyWrites T (handleWrites env T name events) :=
  handle_tabs env hbn T name events r T' h

/-- `tableWrites` IS what a run does to the six context tables: the tables after the
    run are the tables before it with the listed assignments applied in order. -/
theorem table_writes_sound (env : Env) (hbn : BenignNested env) (s : Trace.PState) (m : List Kevent) :
    (Trace.run env s m).2.2.tabs = applyWrites s.tabs ((tableWrites env s m).map (·.2)) :=
  run_tabs env hbn s m

/-- For every history `m` and thread `t`: the sequence of ALL context-table
    assignments (to `threads_pids`, `pids_names`, `tids_names`, `global_strings`, the pending records) caused by
    thread `t`'s events is the sequence performed when `t`'s own events are parsed alone. -/
theorem thread_writes_per_thread (env : Env) (hbn : BenignNested env) (T : Tabs) (m : List Kevent) (t : Nat)
    (h₁ : NoExc env T m) (h₂ : NoExc env T (own t m)) :
    (tableWrites env (start T) m).filter (fun p => p.1 == t) = tableWrites env (start T) (own t m) :=
  (projection_run env hbn t m _ _ (sim_start t T) h₁ h₂).2

/-- For every history `m` and thread `t`: the sequence of `(pid, name)`
    assignments to `pids_names` caused by thread `t`'s events is a function of `m.filter (·.tid = t)` alone (the
    right-hand side mentions nothing else): the pending new-thread / exec record a name string consults is the
    one written by the same thread.  (Defect F2: false when the pending record is one parser-wide slot — the last
    `example` of the non-vacuity block below.) -/
theorem learned_names_per_thread (env : Env) (hbn : BenignNested env) (T : Tabs) (m : List Kevent) (t : Nat)
    (h₁ : NoExc env T m) (h₂ : NoExc env T (own t m)) :
    namesTaughtBy t (tableWrites env (start T) m) = namesTaughtBy t (tableWrites env (start T) (own t m)) := by
  unfold namesTaughtBy
  rw [taught_filter, taught_filter, thread_writes_per_thread env hbn T m t h₁ h₂]
  congr 2
  have : ∀ p ∈ tableWrites env (start T) (own t m), (p.1 == t) = true := by
    have := thread_writes_per_thread env hbn T m t h₁ h₂
    intro p hp
    rw [← this] at hp
    exact (List.mem_filter.1 hp).2
  exact (List.filter_eq_self.2 this).symm

/-- For every history `m` and thread `t`: the traces attributed to thread `t`
    (`ktraces[0].tid = t`) in the merged run — handler names, event lists, composite payloads, and the rendered
    text (or the exception `str()` raises) of every handler outside the exclusion — are, in order, the traces of
    `t`'s own subsequence parsed alone. -/
theorem projection_traces (env : Env) (hbn : BenignNested env) (T : Tabs) (m : List Kevent) (t : Nat)
    (h₁ : NoExc env T m) (h₂ : NoExc env T (own t m)) :
    (((Trace.run env (start T) m).1.filter fun o => o.tid == t).map (TraceOut.masked env)
      = (Trace.run env (start T) (own t m)).1.map (TraceOut.masked env)) :=
  (projection_run env hbn t m _ _ (sim_start t T) h₁ h₂).1

theorem masked_inj (env : Env) (o o' : TraceOut) (h : o.masked env = o'.masked env)
    (hx : excluded env o.name = false) : o = o' := by
  rcases o with ⟨n, ev, tx, ex, ob⟩
  rcases o' with ⟨n', ev', tx', ex', ob'⟩
  simp only [TraceOut.masked, Prod.mk.injEq] at h
  obtain ⟨rfl, rfl, h3, rfl⟩ := h
  simp only at hx
  simp only [hx, Bool.false_eq_true, if_false, Option.some.injEq, Prod.mk.injEq] at h3
  rw [h3.1, h3.2]

/-- When none of thread `t`'s traces comes from an excluded handler, the two trace
    lists are equal outright, texts included. -/
theorem projection_traces_exact (env : Env) (hbn : BenignNested env) (T : Tabs) (m : List Kevent) (t : Nat)
    (h₁ : NoExc env T m) (h₂ : NoExc env T (own t m))
    (hx : ∀ o ∈ (Trace.run env (start T) m).1, o.tid = t → excluded env o.name = false) :
    ((Trace.run env (start T) m).1.filter fun o => o.tid == t) = (Trace.run env (start T) (own t m)).1 := by
  have h := projection_traces env hbn T m t h₁ h₂
  have hx' : ∀ o ∈ (Trace.run env (start T) m).1.filter (fun o => o.tid == t), excluded env o.name = false := by
    intro o ho
    obtain ⟨h1, h2⟩ := List.mem_filter.1 ho
    exact hx o h1 (by simpa using h2)
  generalize (Trace.run env (start T) m).1.filter (fun o => o.tid == t) = l₁ at h hx'
  generalize (Trace.run env (start T) (own t m)).1 = l₂ at h
  induction l₁ generalizing l₂ with
  | nil => cases l₂ with
    | nil => rfl
    | cons y ys => simp at h
  | cons x xs ih => cases l₂ with
    | nil => simp at h
    | cons y ys =>
      simp only [List.map_cons, List.cons.injEq] at h
      rw [masked_inj env x y h.1 (hx' x (by simp)), ih (fun o ho => hx' o (List.mem_cons_of_mem _ ho)) ys h.2]

/-- No pid is taught by two different threads: the hypothesis of clause (3) of `interleaving_invariant_names`. -/
def DisjointTeachers (L : List (Nat × Nat × String)) : Prop :=
  ∀ p ∈ L, ∀ q ∈ L, p.2.1 = q.2.1 → p.1 = q.1

/-- Any two merges `m₁`, `m₂` of the same per-thread programs (equal
    per-thread subsequences) (1) teach, per thread, the same sequence of `(pid, name)` pairs, hence (2) the same
    multiset of `(thread, pid, name)` assignments overall, and (3) when different threads teach different pids,
    the final `pids_names` lookups agree for every pid. -/
theorem interleaving_invariant_names (env : Env) (hbn : BenignNested env) (T : Tabs) (m₁ m₂ : List Kevent)
    (hm : ∀ t, own t m₁ = own t m₂)
    (h₁ : NoExc env T m₁) (h₂ : NoExc env T m₂) (hown : ∀ t, NoExc env T (own t m₁)) :
    (∀ t, namesTaughtBy t (tableWrites env (start T) m₁) = namesTaughtBy t (tableWrites env (start T) m₂)) ∧
    (taught (tableWrites env (start T) m₁)).Perm (taught (tableWrites env (start T) m₂)) ∧
    (DisjointTeachers (taught (tableWrites env (start T) m₁)) →
      ∀ pid, (Trace.run env (start T) m₁).2.2.tabs.pidsNames.get pid
           = (Trace.run env (start T) m₂).2.2.tabs.pidsNames.get pid) := by
  have hfil : ∀ t, (taught (tableWrites env (start T) m₁)).filter (fun p => p.1 == t)
      = (taught (tableWrites env (start T) m₂)).filter (fun p => p.1 == t) := by
    intro t
    rw [taught_filter, taught_filter, thread_writes_per_thread env hbn T m₁ t h₁ (hown t),
      thread_writes_per_thread env hbn T m₂ t h₂ (hm t ▸ hown t), hm t]
  have hperm := perm_of_filter_eq _ _ hfil
  refine ⟨fun t => by simp only [namesTaughtBy, hfil t], hperm, ?_⟩
  intro hdis pid
  rw [table_writes_sound env hbn, table_writes_sound env hbn, applyWrites_pidsNames, applyWrites_pidsNames,
    ← taught_map_snd, ← taught_map_snd]
  simp only [Dict.get, lookup_reverse_append]
  congr 2
  generalize taught (tableWrites env (start T) m₁) = L₁ at hfil hdis hperm
  generalize taught (tableWrites env (start T) m₂) = L₂ at hfil hperm
  -- all assignments to `pid` come from one thread (from no thread at all, if `pid` is never taught)
  obtain ⟨t, s1⟩ : ∃ t, ∀ q ∈ L₁, q.2.1 = pid → q.1 = t := by
    by_cases hex : ∃ p ∈ L₁, p.2.1 = pid
    · obtain ⟨p, hp, hpk⟩ := hex
      exact ⟨p.1, fun q hq hqk => hdis q hq p hp (hqk.trans hpk.symm)⟩
    · exact ⟨0, fun q hq hqk => absurd ⟨q, hq, hqk⟩ hex⟩
  have s2 : ∀ q ∈ L₂, q.2.1 = pid → q.1 = t := fun q hq hqk => s1 q (hperm.mem_iff.2 hq) hqk
  rw [filter_key_of_single_teacher L₁ pid t s1, filter_key_of_single_teacher L₂ pid t s2, hfil t]

/-- Any two merges of the same per-thread programs deliver, for every
    thread, the same traces with the same text (up to the exclusion). -/
theorem interleaving_invariant_traces_text (env : Env) (hbn : BenignNested env) (T : Tabs) (m₁ m₂ : List Kevent)
    (hm : ∀ t, own t m₁ = own t m₂)
    (h₁ : NoExc env T m₁) (h₂ : NoExc env T m₂) (hown : ∀ t, NoExc env T (own t m₁)) (t : Nat) :
    ((Trace.run env (start T) m₁).1.filter fun o => o.tid == t).map (TraceOut.masked env)
      = ((Trace.run env (start T) m₂).1.filter fun o => o.tid == t).map (TraceOut.masked env) := by
  rw [projection_traces env hbn T m₁ t h₁ (hown t), projection_traces env hbn T m₂ t h₂ (hm t ▸ hown t), hm t]

/-- The generated decoders inside the exclusion are exactly the four dyld string readers (kernel-checked
    against the table regenerated from the repository on every run). -/
theorem excluded_generated_exact :
    (Gen.Decoders.decoders.filter fun d => !ownOnly d).map (·.name)
      = ["DBG_DYLD_TIMING_DLSYM", "DBG_DYLD_TIMING_DLOPEN", "DBG_DYLD_TIMING_MAP_IMAGE",
         "DBG_DYLD_TIMING_DLOPEN_PREFLIGHT"] := by decide +kernel

/-- Every constructor argument of every generated decoder raises, or not, independently of the cross-thread tables
    (the four dyld string readers use `dict.get` with a default); kernel-checked against the regenerated table. -/
theorem all_fields_errFree : Gen.Decoders.decoders.all (fun d => d.fields.all errFree) = true := by decide +kernel

theorem errFreeDecoders_of_generated (env : Env) (h : env.decoders = Gen.Decoders.decoders) : ErrFreeDecoders env := by
  intro d hd
  rw [h] at hd
  exact List.all_eq_true.1 all_fields_errFree d hd

/-- With a decoder table whose constructor arguments are `errFree` (the regenerated table is:
    `errFreeDecoders_of_generated`): if the merged history is parsed without exception, so is every thread's own
    subsequence — the second hypothesis of the theorems above follows from the first. -/
theorem noexc_own (env : Env) (hbn : BenignNested env) (hdec : ErrFreeDecoders env) (T : Tabs) (m : List Kevent) (t : Nat)
    (h₁ : NoExc env T m) : NoExc env T (own t m) :=
  Trace.noexc_own env hbn hdec t m _ _ (sim_start t T) h₁

/-- `learned_names_per_thread` and `projection_traces` from the merged run alone. -/
theorem per_thread_of_merged_run (env : Env) (hbn : BenignNested env) (hdec : ErrFreeDecoders env) (T : Tabs)
    (m : List Kevent) (t : Nat) (h₁ : NoExc env T m) :
    namesTaughtBy t (tableWrites env (start T) m) = namesTaughtBy t (tableWrites env (start T) (own t m)) ∧
    (((Trace.run env (start T) m).1.filter fun o => o.tid == t).map (TraceOut.masked env)
      = (Trace.run env (start T) (own t m)).1.map (TraceOut.masked env)) :=
  ⟨learned_names_per_thread env hbn T m t h₁ (noexc_own env hbn hdec T m t h₁),
   projection_traces env hbn T m t h₁ (noexc_own env hbn hdec T m t h₁)⟩

/-- A code table that names nothing in the range of the page-fault sub-records is benign. -/
theorem benign_of_unnamed_range (env : Env) (h : ∀ eid, vmfaultRange eid = true → env.codes eid = none) :
    BenignNested env := by
  intro eid n hr hc
  rw [h eid hr] at hc; cases hc

/-- The rows of the BUNDLED code table in the range of the page-fault sub-records: `RealFaultAddressInternal`
    (0x1320008), `…Purgeable` (0x132000c, no handler), `…External` (0x1320010), `…SharedCache` (0x1320014) — by their
    name keys; none is a table-writing or an excluded handler.  Kernel-checked against the regenerated table. -/
theorem bundled_nested_rows :
    (Gen.Codes.codes.filter fun p => vmfaultRange p.1).map (·.1) = [0x1320010, 0x1320008, 0x132000c, 0x1320014] := by
  -- the table is a left-nested `++` of chunks: filter chunk by chunk, or every `++` walks the whole prefix again
  unfold Gen.Codes.codes
  simp only [List.filter_append, List.map_append]
  decide +kernel

/-! ### non-vacuity: the adversarial schedule `A-data, B-data, A-string, B-string` -/

/-- Two new-thread codes, the real hand-written handlers, ASCII as `bytes.decode`. -/
def exEnv : Env :=
  { codes := fun k => [(0x7000004, "TRACE_DATA_NEWTHREAD"), (0x7010004, "TRACE_STRING_NEWTHREAD")].lookup k,
    host := Gen.Host.host, tables := Gen.Decoders.tables, decoders := [],
    dec := fun bs => .ok (String.ofList (bs.map Char.ofNat)) }

def dataRec (ts tid newTid pid : Nat) : Kevent :=
  { timestamp := ts, data := [], values := [newTid, pid, 0, 0], tid := tid, debugid := 0x7000004,
    eventid := 0x7000004, qual := 0 }

def strRec (ts tid : Nat) (name : List Nat) : Kevent :=
  { timestamp := ts, data := name ++ [0, 0], values := [], tid := tid, debugid := 0x7010004, eventid := 0x7010004,
    qual := 0 }

/-- Thread 1 announces pid 11 named "pA", thread 2 announces pid 22 named "pB". -/
def adversarial : List Kevent := [dataRec 1 1 101 11, dataRec 2 2 102 22, strRec 3 1 [112, 65], strRec 4 2 [112, 66]]
def sequentialN : List Kevent := [dataRec 1 1 101 11, strRec 3 1 [112, 65], dataRec 2 2 102 22, strRec 4 2 [112, 66]]

theorem exEnv_benign : BenignNested exEnv := by
  apply benign_of_unnamed_range
  intro eid hr
  simp only [vmfaultRange, decide_eq_true_eq] at hr
  have h1 : (eid == 0x7000004) = false := by rw [beq_eq_false_iff_ne]; omega
  have h2 : (eid == 0x7010004) = false := by rw [beq_eq_false_iff_ne]; omega
  simp [exEnv, List.lookup, h1, h2]

example : NoExc exEnv {} adversarial ∧ NoExc exEnv {} sequentialN ∧ NoExc exEnv {} (own 1 adversarial) ∧
    NoExc exEnv {} (own 2 adversarial) ∧ own 1 adversarial = own 1 sequentialN ∧ adversarial ≠ sequentialN := by
  decide +kernel

example :
    namesTaughtBy 1 (tableWrites exEnv (start {}) adversarial) = [(11, "pA")] ∧
    namesTaughtBy 2 (tableWrites exEnv (start {}) adversarial) = [(22, "pB")] ∧
    namesTaughtBy 1 (tableWrites exEnv (start {}) (own 1 adversarial)) = [(11, "pA")] ∧
    (Trace.run exEnv (start {}) adversarial).2.2.tabs.pidsNames.get 11 = some "pA" ∧
    (Trace.run exEnv (start {}) adversarial).2.2.tabs.pidsNames.get 22 = some "pB" ∧
    (Trace.run exEnv (start {}) sequentialN).2.2.tabs.pidsNames.get 11 = some "pA" ∧
    ((Trace.run exEnv (start {}) adversarial).1.filter fun o => o.tid == 1).map (·.text.toOption)
      = [some "New thread 101 of parent: 11", some "New thread of parent: pA"] := by
  decide +kernel

/-- Shape of defect F2 (one parser-wide pending slot): under the adversarial schedule thread 1's string would
    consult thread 2's record and teach `(22, "pA")`; the per-thread tables above teach `(11, "pA")`. -/
example : (taught (tableWrites exEnv (start {}) adversarial)) = [(1, 11, "pA"), (2, 22, "pB")] := by decide +kernel

/-! ### Translation tie: the source text of the ten context-table handlers of trace_handlers/trace.py

  `tools/gen_pyir_tr.py` translates `trace_handlers/trace.py` (pure `ast`; the two `DgbFuncQual` values reflected from
  kevent.py) into the Python-subset IR of `Model/PyIRTr` on every run (`Gen/PyIRTr.lean`): the ten `handle_trace_*`
  functions as statements, the `__str__` methods of their dataclasses as f-string pieces, the `handlers` dict as a list.
  `PyIRTr.runHandler` is a big-step interpreter over the model's `Tabs`; `bytes.decode()` stays the parameter `env.dec`.
  The hand-written `Trace.hDataNewthread` … `Trace.hStringThreadname` — what `handler_writes_sound`,
  `learned_names_per_thread`, `projection_traces` above (and C07 / C08 / C14) rest on — are proved to BE that interpreted
  source on every non-empty window of four-word records (`Words4`: what `from_kd_buf` produces; `parse_event_list` never
  passes an empty window on), and `Trace.run` to be the run with the ten handlers taken from the source. -/

/-- **The translated source is the program the refinement lemmas are proved for** (`Spec/PyIRTrExpected`, quoting the
    Python): every handler body, every `__str__`, the `handlers` dict — and the translator met nothing outside the
    subset. -/
theorem source_is_expected_ir : Gen.PyIRTr.prog = PyIRTr.Expected.prog ∧ Gen.PyIRTr.notes = [] := ⟨rfl, rfl⟩

section ir
open PyIRTr
variable (env : Env) (t : Tabs) (e : Kevent) (rest : List Kevent)

/-- **`handle_trace_data_newthread`, interpreted, is `hDataNewthread`**: the text `New thread <tid> of parent: <pid>`,
    `last_data_newthread` keyed by the FEEDING thread (`events[0].tid`), `threads_pids[new tid] = pid`. -/
theorem handle_trace_data_newthread_ir_eq_model (h4 : e.values.length = 4) :
    runHandler Gen.PyIRTr.prog env "TRACE_DATA_NEWTHREAD" t (e :: rest) = hDataNewthread env t (e :: rest) := by
  rw [source_is_expected_ir.1]; exact run_dataNewthread env t e rest h4

/-- **`handle_trace_data_exec`, interpreted, is `hDataExec`**: `last_data_exec` keyed by the feeding thread. -/
theorem handle_trace_data_exec_ir_eq_model (h4 : e.values.length = 4) :
    runHandler Gen.PyIRTr.prog env "TRACE_DATA_EXEC" t (e :: rest) = hDataExec env t (e :: rest) := by
  rw [source_is_expected_ir.1]; exact run_dataExec env t e rest h4

/-- **`handle_trace_data_thread_terminate`, interpreted, is `hDataThreadTerminate`**: no table is written; the text has
    `, pid: …` exactly when `threads_pids` knows the thread and `, name: …` exactly when `tids_names` holds a non-empty
    name (the conditional `rep +=` of `TraceDataThreadTerminate.__str__`). -/
theorem handle_trace_data_thread_terminate_ir_eq_model (h4 : e.values.length = 4) :
    runHandler Gen.PyIRTr.prog env "TRACE_DATA_THREAD_TERMINATE" t (e :: rest) =
      hDataThreadTerminate env t (e :: rest) := by
  rw [source_is_expected_ir.1]; exact run_dataThreadTerminate env t e rest h4

/-- **`handle_trace_data_thread_terminate_pid`, interpreted, is `hDataThreadTerminatePid`**. -/
theorem handle_trace_data_thread_terminate_pid_ir_eq_model (h4 : e.values.length = 4) :
    runHandler Gen.PyIRTr.prog env "TRACE_DATA_THREAD_TERMINATE_PID" t (e :: rest) =
      hDataThreadTerminatePid env t (e :: rest) := by
  rw [source_is_expected_ir.1]; exact run_dataThreadTerminatePid env t e rest h4

/-- **`handle_trace_string_global`, interpreted, is `hStringGlobal`**: a fragment (no START bit) returns None; the loop
    is `globalLoop` (records of another code skipped, 16 bytes dropped from a START record, stop at the first END
    record); the reassembled text is stored under its id unless empty; `ktraces` are the string's own records. -/
theorem handle_trace_string_global_ir_eq_model (hw : Words4 (e :: rest)) :
    runHandler Gen.PyIRTr.prog env "TRACE_STRING_GLOBAL" t (e :: rest) = hStringGlobal env t (e :: rest) := by
  rw [source_is_expected_ir.1]; exact run_stringGlobal env t e rest hw

/-- **`handle_trace_string_newthread`, interpreted, is `hStringNewthread`**: the name goes to `pids_names` under the pid
    of the FEEDING thread's pending new-thread record, if there is one (defect F2); a `decode` failure is raised. -/
theorem handle_trace_string_newthread_ir_eq_model :
    runHandler Gen.PyIRTr.prog env "TRACE_STRING_NEWTHREAD" t (e :: rest) = hStringNewthread env t (e :: rest) := by
  rw [source_is_expected_ir.1]; exact run_stringNewthread env t e rest

/-- **`handle_trace_string_exec`, interpreted, is `hStringExec`**. -/
theorem handle_trace_string_exec_ir_eq_model :
    runHandler Gen.PyIRTr.prog env "TRACE_STRING_EXEC" t (e :: rest) = hStringExec env t (e :: rest) := by
  rw [source_is_expected_ir.1]; exact run_stringExec env t e rest

/-- **`handle_trace_string_proc_exit`, interpreted, is `hStringProcExit`**. -/
theorem handle_trace_string_proc_exit_ir_eq_model :
    runHandler Gen.PyIRTr.prog env "TRACE_STRING_PROC_EXIT" t (e :: rest) = hStringProcExit env t (e :: rest) := by
  rw [source_is_expected_ir.1]; exact run_stringProcExit env t e rest

/-- **`handle_trace_string_threadname`, interpreted, is `hStringThreadname`**: a fragment returns None; the payloads of
    the window's records of the first record's code are joined (`joinData`), decoded once, stored in `tids_names`
    under the feeding thread. -/
theorem handle_trace_string_threadname_ir_eq_model :
    runHandler Gen.PyIRTr.prog env "TRACE_STRING_THREADNAME" t (e :: rest) =
      hStringThreadname "TRACE_STRING_THREADNAME" "New thread name: " env t (e :: rest) := by
  rw [source_is_expected_ir.1]; exact run_stringThreadname env t e rest body_stringThreadname cls_stringThreadname

/-- **`handle_trace_string_threadname_prev`, interpreted, is `hStringThreadname`** with the other key and label. -/
theorem handle_trace_string_threadname_prev_ir_eq_model :
    runHandler Gen.PyIRTr.prog env "TRACE_STRING_THREADNAME_PREV" t (e :: rest) =
      hStringThreadname "TRACE_STRING_THREADNAME_PREV" "Thread terminated name: " env t (e :: rest) := by
  rw [source_is_expected_ir.1]; exact run_stringThreadname env t e rest body_stringThreadnamePrev cls_stringThreadnamePrev

/-- **The `handlers` dict of the source, interpreted, is the hand model's handler table on the ten names**: whatever
    the nested `parse_event_list` means. -/
theorem handlers_ir_eq_model (nested : Tabs → List Kevent → Except PyErr (Option TraceOut × Tabs)) (name : String)
    (h : traceDomainNames.contains name = true) (hw : Words4 (e :: rest)) :
    runHandler Gen.PyIRTr.prog env name t (e :: rest) = handleWith nested env t name (e :: rest) := by
  rw [source_is_expected_ir.1]; exact runHandler_eq_handleWith nested env t name e rest h hw

/-- On the EMPTY window each of the ten handlers raises IndexError (`events[0]`) — as `parse_event_list` does before it
    calls one (`Trace.parseEventListWith`); the hand-model functions are not meant for it. -/
theorem handlers_ir_empty_window (name : String) (h : traceDomainNames.contains name = true) :
    runHandler Gen.PyIRTr.prog env name t [] = .error .indexError := by
  rw [source_is_expected_ir.1]; exact run_empty env t name h

/-- **The subject of the text / names theorems above is the interpreted source**: `Trace.run` (what
    `projection_traces`, `learned_names_per_thread`, `interleaving_invariant_names`, `table_writes_sound` speak about)
    equals the run in which the ten `trace.py` handlers are the translated ones run by the interpreter (nested
    `parse_event_list` calls included) — same traces, same exception, same final state — from every state whose open
    windows hold four-word records, on every stream of four-word records. -/
theorem run_ir_eq_model (s : PState) (es : List Kevent)
    (hs : PInv (fun x => x.values.length = 4) s.pairing) (hw : Words4 es) :
    runVia Gen.PyIRTr.prog env s es = Trace.run env s es := by
  rw [source_is_expected_ir.1]; exact runVia_eq (fun n env t => runHandler_eq_handleWith n env t) env es s hs hw

end ir

/-! #### non-vacuity: generated handlers on concrete records -/

/-- a new-thread string record of thread `tid` WITH its four words -/
def strRec4 (ts tid : Nat) (name : List Nat) : Kevent := { strRec ts tid name with values := [0, 0, 0, 0] }

/-- the generated `handle_trace_data_newthread` on the record "thread 7 announces thread 101 of process 11" -/
example :
    (PyIRTr.runHandler Gen.PyIRTr.prog exEnv "TRACE_DATA_NEWTHREAD" {} [dataRec 1 7 101 11]).toOption.map
        (fun r => (r.1.map (·.text.toOption), r.2.pendingNewthread, r.2.threadsPids)) =
      some (some (some "New thread 101 of parent: 11"), [(7, 11)], [(101, 11)]) := by decide +kernel

/-- … then the generated `handle_trace_string_newthread` on thread 7's name record teaches `(11, "pA")`; on thread 8's
    it teaches nothing. -/
example :
    ((PyIRTr.runHandler Gen.PyIRTr.prog exEnv "TRACE_STRING_NEWTHREAD" { pendingNewthread := [(7, 11)] }
        [strRec4 3 7 [112, 65]]).toOption.map fun r => (r.1.map (·.text.toOption), r.2.pidsNames)) =
      some (some (some "New thread of parent: pA"), [(11, "pA")]) ∧
    ((PyIRTr.runHandler Gen.PyIRTr.prog exEnv "TRACE_STRING_NEWTHREAD" { pendingNewthread := [(7, 11)] }
        [strRec4 3 8 [112, 65]]).toOption.map fun r => r.2.pidsNames) = some [] := by decide +kernel

/-- a global string in two records (START: two words + "ab", END: "cd") with a foreign record between them: the generated
    `handle_trace_string_global` reassembles "abcd" under id 5 and reports the string's own two records. -/
example :
    let r1 : Kevent := { timestamp := 1, data := [9, 0, 0, 0, 0, 0, 0, 0, 5, 0, 0, 0, 0, 0, 0, 0, 97, 98], values := [9, 5, 0, 0],
                         tid := 7, debugid := 0x7020001, eventid := 0x7020000, qual := 1 }
    let r2 : Kevent := { timestamp := 2, data := [120], values := [0, 0, 0, 0], tid := 7, debugid := 0x7000004,
                         eventid := 0x7000004, qual := 0 }
    let r3 : Kevent := { timestamp := 3, data := [99, 100, 0, 0], values := [0, 0, 0, 0], tid := 7, debugid := 0x7020002,
                         eventid := 0x7020000, qual := 2 }
    PyIRTr.Words4 [r1, r2, r3] ∧
    ((PyIRTr.runHandler Gen.PyIRTr.prog exEnv "TRACE_STRING_GLOBAL" {} [r1, r2, r3]).toOption.map fun r =>
        (r.1.map (·.text.toOption), r.1.map (·.events.map (·.timestamp)), r.2.globalStrings)) =
      some (some (some "New global string: \"abcd\", id: 5"), some [1, 3], [(5, "abcd")]) ∧
    ((PyIRTr.runHandler Gen.PyIRTr.prog exEnv "TRACE_STRING_GLOBAL" {} [r3]).toOption.map fun r => r.1.isNone) =
      some true := by decide +kernel

/-- the whole parser with the generated handlers on the adversarial schedule (four-word records): the hypotheses of
    `run_ir_eq_model` hold, and the run teaches `pA` to pid 11 and `pB` to pid 22. -/
example :
    let es := [dataRec 1 1 101 11, dataRec 2 2 102 22, strRec4 3 1 [112, 65], strRec4 4 2 [112, 66]]
    PyIRTr.Words4 es ∧
    ((PyIRTr.runVia Gen.PyIRTr.prog exEnv (start {}) es).1.map (·.text.toOption)) =
      [some "New thread 101 of parent: 11", some "New thread 102 of parent: 22", some "New thread of parent: pA",
       some "New thread of parent: pB"] ∧
    (PyIRTr.runVia Gen.PyIRTr.prog exEnv (start {}) es).2.2.tabs.pidsNames = [(22, "pB"), (11, "pA")] := by
  decide +kernel

example : PInv (fun x => x.values.length = 4) (start {}).pairing := PInv_empty _

end KdVerif.C05
