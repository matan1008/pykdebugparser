import KdVerif.Proofs.ReassemblyPaths
import KdVerif.Proofs.PyIRVn
import KdVerif.Gen.Decoders
import KdVerif.Gen.PyIRVn
/-
  C08 — paths and strings split over several records are reassembled exactly, once.

  Specification (`Spec/Reassembly`): the KERNEL-side encoders `encodeLookup`, `encodeGlobalString`,
  `encodeThreadName` (8/16/0-byte header, 32-byte NUL-padded payloads, START on the first record, END on the
  last, both on a single one, NONE in between) and the records they become (`lookupEvents` …) for an arbitrary
  thread, code id and timestamps.  Subject: `Model/Trace` — `vnodeGen` (= `TracesParser.vnode_generator`),
  `parseVnodes`, `mkWindow`, `hVfsLookup`, `globalLoop`/`hStringGlobal`, `hStringThreadname`, `feed`, `run`
  (tied to the real `TracesParser` by the correspondence sections `reassembly`, `syscall-paths`, `pipeline` of
  `tools/kdv/props/C08.py`);
  `vnodeGen`, `parseVnodes`, `parseVnode` are moreover tied to the SOURCE TEXT of `vnode_generator`, `parse_vnodes`,
  `parse_vnode` by translation (last section: `source_is_expected_ir`, `vnode_generator_ir_eq_model`, …).
  `bytes.decode()` is the parameter `dec`/`env.dec`: every theorem is about BYTES and holds for any decoder.

  All texts are arbitrary NUL-free byte strings of ANY length — 184 (the kernel's limit) plays no role.
-/
namespace KdVerif.C08
open KdVerif.Trace KdVerif.IR KdVerif.Reassembly

/-- The payloads behind any header of at most 32 bytes: at least one; every payload is a full 32-byte argument area;
    the first begins with the header; the rest of the first payload followed by all later payloads, NULs stripped,
    is exactly the text — for every NUL-free text of any length. -/
theorem chunks_join_header (hdr s : Bytes) (hh : hdr.length ≤ 32) (hs : NulFree s) :
    ∃ c cs, splitChunks hdr s = c :: cs ∧ (∀ x ∈ c :: cs, x.length = 32) ∧ c.take hdr.length = hdr ∧
      stripNul (c.drop hdr.length ++ cs.flatten) = s := by
  obtain ⟨c, cs, h1, h2, h3⟩ := chunks_join_nulFree hdr s hh hs
  exact ⟨c, cs, h1, h1 ▸ splitChunks_length hdr s hh, h2, h3⟩

/-- The payloads of a lookup: the header is the 8-byte little-endian vnode id, the text the path. -/
theorem chunks_join (vnode : Nat) (p : Bytes) (hp : NulFree p) :
    ∃ c cs, encodeLookup vnode p = c :: cs ∧ (∀ x ∈ c :: cs, x.length = 32) ∧ c.take 8 = toLE 8 vnode ∧
      stripNul (c.drop 8 ++ cs.flatten) = p := by
  have h := chunks_join_header (toLE 8 vnode) p (by simp [toLE_length]) hp
  rwa [toLE_length] at h

/-- `stripNul (p ++ zeros) = p` for NUL-free `p` (the padding of the last record disappears, nothing else). -/
theorem stripNul_padding (p : Bytes) (n : Nat) (hp : NulFree p) : stripNul (p ++ List.replicate n 0) = p := by
  rw [stripNul_append, stripNul_replicate_zero, List.append_nil, stripNul_of_nulFree p hp]

/-- Same for strings behind the 16-byte header and for thread names (no header). -/
theorem chunks_join_string (debugid strId : Nat) (s : Bytes) (hs : NulFree s) :
    ∃ c cs, encodeGlobalString debugid strId s = c :: cs ∧ (∀ x ∈ c :: cs, x.length = 32) ∧
      c.take 16 = toLE 8 debugid ++ toLE 8 strId ∧ stripNul (c.drop 16 ++ cs.flatten) = s := by
  have h := chunks_join_header (toLE 8 debugid ++ toLE 8 strId) s (by simp [toLE_length]) hs
  rwa [List.length_append, toLE_length, toLE_length] at h

theorem chunks_join_name (s : Bytes) (hs : NulFree s) :
    (∀ x ∈ encodeThreadName s, x.length = 32) ∧ stripNul (encodeThreadName s).flatten = s := by
  obtain ⟨c, cs, h1, h2, _, h3⟩ := chunks_join_header [] s (by simp) hs
  rw [encodeThreadName, h1]
  exact ⟨h2, h3⟩

/-- `vnode_generator` on the records of one kernel-encoded lookup yields exactly one `Vnode`: its `ktraces` are
    exactly those records, its vnode id is the id in the FIRST record, its path is `dec` of exactly the original
    bytes (if `dec` raises, `vnode_generator` raises the same).  Every NUL-free path, any length. -/
theorem vnodeGen_encode (dec : Bytes → Except PyErr String) (tid eid : Nat) (ts : Nat → Nat) (vnode : Nat)
    (p : Bytes) (hv : vnode < 2 ^ 64) (hp : NulFree p) :
    vnodeGen dec (lookupEvents tid eid ts vnode p) [] 0 [] =
      (dec p).map fun s => [⟨lookupEvents tid eid ts vnode p, vnode, s⟩] := by
  have := vnodeGen_lookupEvents dec tid eid ts vnode p hv hp []
  rw [List.append_nil] at this
  rw [this]
  cases dec p <;> rfl

/-- Several lookups one after the other come out one `Vnode` each, in order. -/
theorem vnodeGen_encode_many (dec : Bytes → Except PyErr String) (tid eid : Nat) (ls : List LookupSpec)
    (ss : List String) (hg : GoodSpecs ls) (hd : Decoded dec ls ss) :
    vnodeGen dec (encodeLookups tid eid ls) [] 0 [] = .ok (vnodesOf tid eid ls ss) :=
  vnodeGen_encodeLookups dec tid eid ls ss hg hd

/-- The `TRACE_STRING_GLOBAL` loop (which skips records whose code differs from the window's first record) on
    ANY window `w` whose records of code `eid` are the records of one kernel-encoded string — records of other
    codes may sit anywhere in between —: debug id and string id of the FIRST record, exactly the string's records
    collected, and the collected bytes strip to exactly the original text. -/
theorem globalLoop_encode (tid eid : Nat) (ts : Nat → Nat) (debugid strId : Nat) (s : Bytes)
    (hd : debugid < 2 ^ 64) (hi : strId < 2 ^ 64) (hs : NulFree s) (w : List Kevent)
    (hw : w.filter (fun e => e.eventid == eid) = globalStringEvents tid eid ts debugid strId s) :
    ∃ vstr, globalLoop eid w 0 0 [] [] =
        (debugid, strId, vstr, globalStringEvents tid eid ts debugid strId s) ∧ stripNul vstr = s := by
  obtain ⟨vstr, h1, h2⟩ := globalLoop_globalStringEvents tid eid ts debugid strId s hd hi []
  rw [List.append_nil] at h1
  exact ⟨vstr, by rw [globalLoop_filter, hw, h1], by rw [h2, stripNul_of_nulFree s hs]⟩

/-- The whole handler on such a window (it begins with a record of code `eid`; unrelated records of OTHER codes
    in between are ignored and are not among the trace's `ktraces`): one trace with exactly `dec s`, the string id
    of the first record; `global_strings[id]` is set to it (unless empty). -/
theorem global_string_encode (env : Env) (tabs : Tabs) (t eid : Nat) (ts : Nat → Nat) (debugid strId : Nat)
    (s : Bytes) (hd : debugid < 2 ^ 64) (hi : strId < 2 ^ 64) (hs : NulFree s) (str : String)
    (hdec : env.dec s = .ok str) (w : List Kevent) (hne : w ≠ []) (hfirst : (firstOf w).eventid = eid)
    (hw : w.filter (fun e => e.eventid == eid) = globalStringEvents t eid ts debugid strId s) :
    hStringGlobal env tabs w =
      .ok (some (mk "TRACE_STRING_GLOBAL" (globalStringEvents t eid ts debugid strId s)
              s!"New global string: \"{str}\", id: {strId}"),
           if str ≠ "" then { tabs with globalStrings := tabs.globalStrings.set strId str } else tabs) :=
  hStringGlobal_encoded env tabs t eid ts debugid strId s hd hi hs str hdec w hne hfirst hw

/-- Thread names (`TRACE_STRING_THREADNAME` and `_PREV`) on such a window: the joined payloads of the records
    of the window's own code strip to exactly the name; the handler yields one trace (its `ktraces` are the whole
    window) with `dec` of it and records it for the thread. -/
theorem thread_name_encode (env : Env) (tabs : Tabs) (key label : String) (t eid : Nat) (ts : Nat → Nat)
    (s : Bytes) (hs : NulFree s) (str : String) (hdec : env.dec s = .ok str)
    (w : List Kevent) (hne : w ≠ []) (hfirst : (firstOf w).eventid = eid)
    (hw : w.filter (fun e => e.eventid == eid) = threadNameEvents t eid ts s) :
    stripNul (joinData w) = s ∧
    hStringThreadname key label env tabs w =
      .ok (some (mk key w (label ++ str)), { tabs with tidsNames := tabs.tidsNames.set t str }) :=
  ⟨by rw [joinData_threadNameEvents t eid ts s w hfirst hw, stripNul_of_nulFree s hs],
   hStringThreadname_encoded env tabs key label t eid ts s hs str hdec w hne hfirst hw⟩

/-- Invariant of the pairing tables assumed of the starting state: every stored list is non-empty, begins with
    a record of its key's code, holds records of its key's thread and domain only.  The empty tables satisfy
    it and every `feed` keeps it (`wf_reachable`), so every reachable state does. -/
abbrev WF (env : Env) (s : Trace.PState) : Prop := Reassembly.WF env.domOf s.pairing

theorem wf_start (env : Env) (tabs : Tabs) : WF env { pairing := Pairing.PState.empty, tabs := tabs } :=
  wf_empty env.domOf

theorem wf_reachable (env : Env) (s : Trace.PState) (stream : List Kevent) (h : WF env s) :
    WF env (run env s stream).2.2 := by
  induction stream generalizing s with
  | nil => exact h
  | cons x xs ih =>
    rw [run_cons]
    cases hf : feed env s x with
    | error err => exact h
    | ok v =>
      obtain ⟨r, s'⟩ := v
      exact ih s' (by unfold WF; rw [feed_pairing env s s' x r hf]; exact wf_step _ _ _ h)

def lookupOf (env : Env) (t : Nat) (x : Kevent) : Bool := x.tid == t && isLookup env x

/-- The traces that begin with a `VFS_LOOKUP` record of thread `t`; a trace for a continuation record would be
    one of them. -/
def lookupTraceOf (env : Env) (t : Nat) (o : TraceOut) : Bool := lookupOf env t (firstOf o.events)

/-- Let the records of ONE kernel-encoded lookup (any NUL-free path of any length, any
    vnode id < 2^64, any timestamps) arrive on thread `t`, anywhere inside a stream `stream` whose OTHER records
    are arbitrary except that none of them is a `VFS_LOOKUP` record of thread `t`
    (`stream.filter (lookupOf env t) = the records of the lookup`): records of other threads — including their
    own lookups, STARTs, ENDs —, same-thread records of any other code (enclosing syscall START/END, nested
    operations, trace-domain records, undecodable codes) may be interleaved at will, before, between and after
    the records.  From ANY well-formed state (in particular the empty one; an older unfinished lookup of `t`
    is simply replaced), if the stream raises no exception, the output contains EXACTLY ONE trace that begins
    with a lookup record of thread `t`; it is named `VFS_LOOKUP`, its text is `lookup("<dec p>"), vnode id: <v>`,
    and the lookup records among its `ktraces` are exactly the records of this lookup.  In particular NO
    continuation record produced a trace.
    (Not allowed in between, and a legitimate reason for a different outcome: another `VFS_LOOKUP` record of
    the same thread, e.g. a second lookup's START — see `nested_lookup_start_breaks`.) -/
theorem lookup_one_trace (env : Env) (t eid : Nat) (hcode : env.codes eid = some "VFS_LOOKUP")
    (ts : Nat → Nat) (vnode : Nat) (p : Bytes) (hv : vnode < 2 ^ 64) (hp : NulFree p)
    (str : String) (hdec : env.dec p = .ok str)
    (s : Trace.PState) (hwf : WF env s) (stream : List Kevent)
    (hstream : stream.filter (lookupOf env t) = lookupEvents t eid ts vnode p)
    (herr : (run env s stream).2.1 = none) :
    ∃ tr, (run env s stream).1.filter (lookupTraceOf env t) = [tr] ∧
      tr.name = "VFS_LOOKUP" ∧ tr.text = .ok s!"lookup(\"{str}\"), vnode id: {vnode}" ∧
      tr.events.filter (isLookup env) = lookupEvents t eid ts vnode p :=
  (reasm_lookup env t eid hcode ts vnode p hv hp str hdec).run_text rfl rfl stream s hstream hwf herr

def sameCodeOf (t eid : Nat) (x : Kevent) : Bool := x.tid == t && x.eventid == eid

def sameCodeTraceOf (t eid : Nat) (o : TraceOut) : Bool := sameCodeOf t eid (firstOf o.events)

/-- The records of one kernel-encoded global string (code `eid`) on thread `t`,
    inside a stream whose other records are arbitrary EXCEPT that none of them is a record of thread `t` with the
    same event id `eid` (`stream.filter (sameCodeOf t eid) = the string's records`).  Allowed in between, before
    and after: anything of other threads; same-thread records of every other code — in particular other
    trace-domain records of the same thread (`TRACE_DATA_*`, `TRACE_STRING_PROC_EXIT`, a whole thread name, a
    START…END pair of another trace-domain code, nested or enclosing), which do land in the string's window but
    are skipped by the handler.  Not allowed (and a legitimate reason for a different outcome, see
    `same_code_string_in_between_breaks`): another record of the SAME code on the same thread, e.g. a second
    global string started in between — its START re-opens the key.
    Then, from any well-formed state, if the stream raises no exception: exactly one trace begins with a record
    of code `eid` of thread `t`; it is `New global string: "<dec s>", id: <id of the first record>` and its
    `ktraces` are exactly the string's records; no continuation record produced a trace. -/
theorem global_string_one_trace (env : Env) (t eid : Nat) (hcode : env.codes eid = some "TRACE_STRING_GLOBAL")
    (ts : Nat → Nat) (debugid strId : Nat) (sb : Bytes) (hd : debugid < 2 ^ 64) (hi : strId < 2 ^ 64)
    (hs : NulFree sb) (str : String) (hdec : env.dec sb = .ok str)
    (s : Trace.PState) (hwf : WF env s) (stream : List Kevent)
    (hstream : stream.filter (sameCodeOf t eid) = globalStringEvents t eid ts debugid strId sb)
    (herr : (run env s stream).2.1 = none) :
    ∃ tr, (run env s stream).1.filter (sameCodeTraceOf t eid) = [tr] ∧
      tr.name = "TRACE_STRING_GLOBAL" ∧ tr.text = .ok s!"New global string: \"{str}\", id: {strId}" ∧
      tr.events = globalStringEvents t eid ts debugid strId sb :=
  (reasm_globalString env t eid hcode ts debugid strId sb hd hi hs str hdec).run_text rfl rfl stream s hstream hwf herr

/-- The same for `TRACE_STRING_THREADNAME` (`prev = false`) and `…_PREV` (`prev = true`), with the same
    side condition (no other record of thread `t` with the name's own event id); the trace's `ktraces` are the
    whole window, of which the records of code `eid` are exactly the name's records. -/
theorem thread_name_one_trace (env : Env) (t eid : Nat) (prev : Bool)
    (hcode : env.codes eid = some (if prev then "TRACE_STRING_THREADNAME_PREV" else "TRACE_STRING_THREADNAME"))
    (ts : Nat → Nat) (sb : Bytes) (hs : NulFree sb) (str : String) (hdec : env.dec sb = .ok str)
    (s : Trace.PState) (hwf : WF env s) (stream : List Kevent)
    (hstream : stream.filter (sameCodeOf t eid) = threadNameEvents t eid ts sb)
    (herr : (run env s stream).2.1 = none) :
    ∃ tr, (run env s stream).1.filter (sameCodeTraceOf t eid) = [tr] ∧
      tr.name = (if prev then "TRACE_STRING_THREADNAME_PREV" else "TRACE_STRING_THREADNAME") ∧
      tr.text = .ok ((if prev then "Thread terminated name: " else "New thread name: ") ++ str) ∧
      tr.events.filter (fun e => e.eventid == eid) = threadNameEvents t eid ts sb :=
  (reasm_threadName env t eid prev hcode ts sb hs str hdec).run_text rfl rfl stream s hstream hwf herr

/-- A window (START of the syscall, …, END of the syscall — in fact ANY event list)
    whose `VFS_LOOKUP` records are the records of the kernel-encoded lookups `ls`, one lookup after the other,
    with any records of other codes anywhere in between: the decoders see `lookups = [(dec p₁, v₁), …,
    (dec pₙ, vₙ)]` in lookup order, and the second-phase lookup of `link`/`rename`/… (`restFirst`) is
    `lookups[1]`, PROVIDED no record of a later lookup is VALUE-equal to a record of the first.

    What is missing for the full statement: that proviso.  `[e for e in events if e not in old.ktraces]`
    compares records by value, so a later lookup whose records are byte-identical to the first's (same path,
    same vnode, same timestamps) is removed with it: finding K5, `k5_identical_lookups` below. -/
theorem syscall_paths_partial (env : Env) (tabs : Tabs) (events : List Kevent) (tid eid : Nat)
    (ls : List LookupSpec) (ss : List String) (hg : GoodSpecs ls) (hd : Decoded env.dec ls ss)
    (hev : events.filter (isLookup env) = encodeLookups tid eid ls)
    (hk5 : ∀ l rest, ls = l :: rest →
      ∀ e ∈ encodeLookups tid eid rest, e ∉ lookupEvents tid eid l.ts l.vnode l.path) :
    ∃ W, mkWindow env tabs events = .ok W ∧ W.lookups = lookupsOf ls ss ∧
      W.restFirst = (lookupsOf ls ss)[1]? ∧
      W.startArgs = (firstOf events).values ∧ W.endArgs = (lastOf events).values ∧
      W.startTid = (firstOf events).tid ∧ W.startData = (firstOf events).data :=
  mkWindow_encoded env tabs events tid eid ls ss hg hd hev hk5

/-- The proviso holds whenever the records carry distinct timestamps (as records of one CPU's buffer do):
    here, when every timestamp of a later lookup differs from every timestamp of the first. -/
theorem k5_proviso_of_timestamps (tid eid : Nat) (l : LookupSpec) (rest : List LookupSpec)
    (h : ∀ e ∈ encodeLookups tid eid rest, ∀ e' ∈ lookupEvents tid eid l.ts l.vnode l.path,
      e.timestamp ≠ e'.timestamp) :
    ∀ e ∈ encodeLookups tid eid rest, e ∉ lookupEvents tid eid l.ts l.vnode l.path :=
  fun e he hin => h e he e hin rfl

def asciiDec (b : Bytes) : Except PyErr String := .ok (String.ofList (b.map Char.ofNat))
def demoHost : Host :=
  { errno := fun _ => none, signals := fun _ => none, addressFamily := fun _ => none, socketKind := fun _ => none,
    solSocket := 0 }
def demoTables : Tables :=
  { enums := [], dicts := [], openAcc := [], openDefault := ⟨"", 0⟩, openShown := [], statMembers := [], sIFMT := 0 }
/-- code 4 = VFS_LOOKUP, 8 = BSC_rename (no decoder loaded), 12 = TRACE_STRING_GLOBAL, 16 = TRACE_STRING_THREADNAME -/
def demoCodes : Nat → Option String := fun k =>
  if k = 4 then some "VFS_LOOKUP" else if k = 8 then some "BSC_rename" else if k = 12 then some "TRACE_STRING_GLOBAL"
  else if k = 16 then some "TRACE_STRING_THREADNAME" else none
def demoEnv : Env := { codes := demoCodes, host := demoHost, tables := demoTables, decoders := [], dec := asciiDec }
def zeros32 : Bytes := List.replicate 32 0
/-- "/tmp/" ++ 30 × 'a' : 35 bytes = 24 + 11 → two records -/
def path35 : Bytes := [47, 116, 109, 112, 47] ++ List.replicate 30 97
/-- 24 + 32 + 32 bytes exactly: three records, the last one without any padding -/
def path88 : Bytes := List.replicate 88 98
def tsFrom (n : Nat) : Nat → Nat := fun i => n + i

/-- K5 (negative witness, in the model): `rename("/a", "/a")` whose two lookups are byte-identical (same
    vnode, same timestamps): both are reassembled, but the second-phase lookup finds nothing — the second path
    argument is shown empty. -/
theorem k5_identical_lookups :
    let evs := mkEvent 1 7 8 1 zeros32 :: lookupEvents 7 4 (tsFrom 10) 5 [47, 97] ++
      lookupEvents 7 4 (tsFrom 10) 5 [47, 97] ++ [mkEvent 30 7 8 2 zeros32]
    ((mkWindow demoEnv {} evs).toOption.map fun W => (W.lookups, W.restFirst)) =
      some ([⟨"/a", 5⟩, ⟨"/a", 5⟩], none) := by decide +kernel

/-- … with distinct timestamps the same window is fine. -/
example :
    let evs := mkEvent 1 7 8 1 zeros32 :: lookupEvents 7 4 (tsFrom 10) 5 [47, 97] ++
      lookupEvents 7 4 (tsFrom 20) 5 [47, 97] ++ [mkEvent 30 7 8 2 zeros32]
    ((mkWindow demoEnv {} evs).toOption.map fun W => (W.lookups, W.restFirst)) =
      some ([⟨"/a", 5⟩, ⟨"/a", 5⟩], some ⟨"/a", 5⟩) := by decide +kernel

/-- Non-vacuity of `vnodeGen_encode`: 35-byte and 88-byte paths are NUL-free, encode to 2 and 3 records
    with qualifiers START, END / START, NONE, END; a 24-byte path to ONE record qualified START|END. -/
example : ((lookupEvents 7 4 (tsFrom 10) 0x1122334455667788 path35).map (·.qual)) = [1, 2] ∧
    ((lookupEvents 7 4 (tsFrom 10) 9 path88).map (·.qual)) = [1, 0, 2] ∧
    ((lookupEvents 7 4 (tsFrom 10) 9 (List.replicate 24 99)).map (·.qual)) = [3] ∧
    ((lookupEvents 7 4 (tsFrom 10) 9 (List.replicate 25 99)).map (·.qual)) = [1, 2] ∧
    ((lookupEvents 7 4 (tsFrom 10) 9 []).map (·.data)) = [toLE 8 9 ++ List.replicate 24 0] := by decide +kernel

example : NulFree path35 ∧ NulFree path88 := by
  unfold NulFree; decide +kernel

/-- Non-vacuity of `lookup_one_trace`: thread 7's 3-record lookup with, in between, a lookup of thread 9
    (its START, its END), an enclosing `BSC_rename` START/END of thread 7, an undecodable same-thread record and
    a trace-domain record of thread 7; from the empty state; no exception; exactly one lookup trace of thread 7
    (and one of thread 9). -/
def demoStream : List Kevent :=
  match lookupEvents 7 4 (tsFrom 10) 77 path88, lookupEvents 9 4 (tsFrom 40) 99 path35 with
  | [a, b, c], [x, y] =>
    [mkEvent 1 7 8 1 zeros32, a, x, mkEvent 2 7 20 0 zeros32, b, y, mkEvent 3 7 16 3 zeros32, c, mkEvent 4 7 8 2 zeros32]
  | _, _ => []

example : demoStream.filter (lookupOf demoEnv 7) = lookupEvents 7 4 (tsFrom 10) 77 path88 ∧
    (run demoEnv { pairing := Pairing.PState.empty, tabs := {} } demoStream).2.1 = none ∧
    ((run demoEnv { pairing := Pairing.PState.empty, tabs := {} } demoStream).1.map
        fun o => (o.name, o.events.map (·.timestamp), o.text.toOption)) =
      [("VFS_LOOKUP", [40, 41], some ("lookup(\"/tmp/" ++ String.ofList (List.replicate 30 'a') ++ "\"), vnode id: 99")),
       ("TRACE_STRING_THREADNAME", [3], some "New thread name: "),
       ("VFS_LOOKUP", [10, 2, 11, 12], some ("lookup(\"" ++ String.ofList (List.replicate 88 'b') ++ "\"), vnode id: 77"))] := by
  decide +kernel

/-- A second lookup's START on the same thread between the records legitimately breaks it (the kernel never
    does this: a thread's lookups are sequential): the first lookup is never reported. -/
theorem nested_lookup_start_breaks :
    let s := match lookupEvents 7 4 (tsFrom 10) 77 path35, lookupEvents 7 4 (tsFrom 40) 99 [47, 98] with
      | [a, b], [x] => [a, { x with qual := 1 }, b]
      | _, _ => []
    ((run demoEnv { pairing := Pairing.PState.empty, tabs := {} } s).1.map fun o => o.events.map (·.timestamp)) =
      [[40, 11]] := by decide +kernel

/-- 40 × 'A': with the 16-byte header two records; 40 × 'n' as a thread name: two records. -/
def text40 (b : Nat) : Bytes := List.replicate 40 b

/-- code 24 = TRACE_DATA_THREAD_TERMINATE, 28 = TRACE_STRING_PROC_EXIT (both trace-domain), 32 = a START/END
    trace-domain code (TRACE_DATA_EXEC used as a pair) -/
def demoCodes2 : Nat → Option String := fun k =>
  if k = 12 then some "TRACE_STRING_GLOBAL" else if k = 16 then some "TRACE_STRING_THREADNAME"
  else if k = 24 then some "TRACE_DATA_THREAD_TERMINATE" else if k = 28 then some "TRACE_STRING_PROC_EXIT"
  else if k = 32 then some "TRACE_DATA_EXEC" else none
def demoEnv2 : Env := { demoEnv with codes := demoCodes2 }

/-- Non-vacuity of `global_string_one_trace` / `thread_name_one_trace`: between the two records
    of a global string of thread 7 fall, on the SAME thread, a `TRACE_DATA_THREAD_TERMINATE` whose argument bytes
    are "DCBA", a `TRACE_STRING_PROC_EXIT`, a START…END pair of another trace-domain code and a WHOLE two-record
    thread name; the string and the name both come out exact, the string's ktraces are its two records only. -/
def demoStream2 : List Kevent :=
  match globalStringEvents 7 12 (tsFrom 10) 0 5 (text40 65), threadNameEvents 7 16 (tsFrom 40) (text40 110) with
  | [a, b], [x, y] =>
    [a, mkEvent 1 7 24 0 (toLE 8 0x41424344 ++ List.replicate 24 0), mkEvent 2 7 28 0 (text40 120 |>.take 32),
     mkEvent 3 7 32 1 zeros32, x, mkEvent 4 7 32 2 zeros32, y, b]
  | _, _ => []

example : demoStream2.filter (sameCodeOf 7 12) = globalStringEvents 7 12 (tsFrom 10) 0 5 (text40 65) ∧
    demoStream2.filter (sameCodeOf 7 16) = threadNameEvents 7 16 (tsFrom 40) (text40 110) ∧
    (run demoEnv2 { pairing := Pairing.PState.empty, tabs := {} } demoStream2).2.1 = none ∧
    (((run demoEnv2 { pairing := Pairing.PState.empty, tabs := {} } demoStream2).1.filter
        fun o => sameCodeTraceOf 7 12 o || sameCodeTraceOf 7 16 o).map
        fun o => (o.name, o.events.map (·.timestamp), o.text.toOption)) =
      [("TRACE_STRING_THREADNAME", [40, 4, 41], some ("New thread name: " ++ String.ofList (List.replicate 40 'n'))),
       ("TRACE_STRING_GLOBAL", [10, 11],
        some ("New global string: \"" ++ String.ofList (List.replicate 40 'A') ++ "\", id: 5"))] := by
  decide +kernel

/-- Another string of the SAME code started on the same thread between the records legitimately breaks it (its
    START re-opens the key): the first string is never reported, the second swallows the first's last record. -/
theorem same_code_string_in_between_breaks :
    let s := match globalStringEvents 7 12 (tsFrom 10) 0 5 (text40 65), globalStringEvents 7 12 (tsFrom 40) 0 6 (text40 66) with
      | [a, b], [x, y] => [a, x, b, y]
      | _, _ => []
    ((run demoEnv2 { pairing := Pairing.PState.empty, tabs := {} } s).1.map
        fun o => (o.events.map (·.timestamp), o.text.toOption)) =
      [([40, 11], some ("New global string: \"" ++ String.ofList (List.replicate 16 'B' ++ List.replicate 24 'A') ++
          "\", id: 6"))] := by decide +kernel

/-! ## Which decoder shows which lookup at which parameter position

  Vocabulary (`Proofs/ReassemblyPaths`): `PathSrc` = how a decoder picks the path of a parameter —
  `first` (`parse_vnode(events).path`: lookup 0, '' when there is none), `second` (the second-phase lookup
  `parse_vnode([e for e in events if e not in first.ktraces]).path`: lookup 1 under the K5 proviso),
  `nth i n` (`nodes[i].path if len(nodes) > n else ''`), `last` (`nodes[-1].path if nodes else ''`), `spawn`
  (`vnodes[3].path if len(vnodes) >= 6 else (vnodes[0].path if vnodes else '')`); `src.toExpr` its IR expression,
  `src.shown lookups restFirst` the path it denotes, `quoted e` = `"{e}"`; `pathParams d` = the parameters of `d`
  (position, condition, expression with the constructor arguments inlined) that read lookups in any way;
  `lockstep ds tbl`: the decoders of `ds` that have such a parameter are, in order, the rows of `tbl`. -/

/-- THE TABLE: decoder key ↦ [(parameter position, which lookup it shows)], in the order of the generated
    decoder table.  E.g. `rename(old, new)` shows lookup 0 at position 0 and the second-phase lookup (lookup 1)
    at position 1; `renameat(fd, old, fd2, new)` shows lookup 0 at position 1 (when there is one) and lookup 1 at
    position 3 (when there are two); `symlinkat(target, fd, linkpath)` shows lookup 0 at position 0 only when there
    are two lookups and the LAST lookup at position 2; `posix_spawn(pid, path, …)` shows lookup 3 when there are
    ≥ 6 lookups (the first three being stdin/stdout/stderr), else lookup 0. -/
def pathTableA : List (Nat × List (Nat × PathSrc)) := [
  (23225981780214637428, [(0, .first)]),  -- BSC_acct
  (23225981780399582827, [(0, .first), (1, .second)]),  -- BSC_link
  (23225981780450370926, [(0, .first)]),  -- BSC_open
  (5945851335743621065074, [(0, .first)]),  -- BSC_chdir
  (5945851335743621656420, [(0, .first)]),  -- BSC_chmod
  (5945851335743621789550, [(0, .first)]),  -- BSC_chown
  (5945851335756690453612, [(0, .first)]),  -- BSC_fsctl
  (5945851335760751650408, [(0, .first)]),  -- BSC_getfh
  (5945851335786621069682, [(0, .first)]),  -- BSC_mkdir
  (5945851335786621726564, [(0, .first)]),  -- BSC_mknod
  (5945851335786689293940, [(0, .first), (1, .second)]),  -- BSC_mount
  (5945851335808129460594, [(0, .first)]),  -- BSC_rmdir
  (1522137941948146477527923, [(0, .first)]),  -- BSC_access
  (1522137941950367227932532, [(0, .first)]),  -- BSC_chroot
  (1522137941960241189975918, [(0, .first)]),  -- BSC_lchown
  (1522137941960267060175220, [(1, .nth 0 0), (3, .nth 1 1)]),  -- BSC_linkat
  (1522137941961375027390063, [(0, .first)]),  -- BSC_mkfifo
  (1522137941963595509031284, [(1, .first)]),  -- BSC_openat
  (1522137941966846949420389, [(0, .first), (1, .second)]),  -- BSC_rename
  (1522137941966847084555109, [(0, .first)]),  -- BSC_revoke
  (1522137941968010668684852, [(0, .first)]),  -- BSC_stat64
  (1522137941968010668697203, [(0, .first)]),  -- BSC_statfs
  (1522137941970184105979499, [(0, .first)]),  -- BSC_unlink
  (1522137941970209825711475, [(0, .first)]),  -- BSC_utimes
  (389667313139293958759868275, [(0, .first)]),  -- BSC_chflags
  (389667313140150538264142196, [(1, .first)]),  -- BSC_fstatat
  (389667313141839388124395060, [(0, .first)]),  -- BSC_lstat64
  (389667313142111998422704500, [(1, .first)]),  -- BSC_mkdirat
  (389667313143816280150208107, [(1, .first)]),  -- BSC_symlink
  (389667313144367135526841972, [(0, .first)]),  -- BSC_unmount
  (99754832163874021053309411700, [(1, .first)]),  -- BSC_fchmodat
  (99754832163874021062034219380, [(1, .first)]),  -- BSC_fchownat
  (99754832163946654838451106930, [(0, .first)])  -- BSC_getxattr
]

def pathTableB : List (Nat × List (Nat × PathSrc)) := [
  (99754832164594047216199364198, [(0, .first)]),  -- BSC_pathconf
  (99754832164671728863718634604, [(0, .first)]),  -- BSC_quotactl
  (99754832164739267396431867499, [(0, .first)]),  -- BSC_readlink
  (99754832164739281677214638452, [(1, .nth 0 0), (3, .nth 1 1)]),  -- BSC_renameat
  (99754832164811325050448275059, [(0, .first)]),  -- BSC_searchfs
  (99754832164811345966906242162, [(0, .first)]),  -- BSC_setxattr
  (99754832164815547183739909684, [(0, .first)]),  -- BSC_statfs64
  (99754832164887063792235672677, [(0, .first)]),  -- BSC_truncate
  (99754832164957976756165637221, [(0, .first)]),  -- BSC_undelete
  (99754832164957985569472471412, [(1, .first)]),  -- BSC_unlinkat
  (25537237033951603856046436868468, [(1, .first)]),  -- BSC_faccessat
  (25537237033952905675678822970932, [(1, .first)]),  -- BSC_fstatat64
  (25537237034062865303613625103474, [(0, .first)]),  -- BSC_listxattr
  (25537237034193143735924038525300, [(0, .nth 0 1), (2, .last)]),  -- BSC_symlinkat
  (6537532680738983198417567167246196, [(0, .nth 0 0), (1, .nth 1 1)]),  -- BSC_pivot_root
  (6537532680748352628092558868439412, [(1, .first)]),  -- BSC_readlinkat
  (1673608366253477701035875047699734900, [(1, .first), (3, .second)]),  -- BSC_clonefileat
  (1673608366257137240275009620991831924, [(2, .nth 0 0), (3, .nth 1 1)]),  -- BSC_fs_snapshot
  (1673608366258280439050162679405179764, [(0, .first)]),  -- BSC_getattrlist
  (1673608366269207977222342531547756398, [(1, .spawn)]),  -- BSC_posix_spawn
  (1673608366271578494948067883756057714, [(0, .first)]),  -- BSC_removexattr
  (1673608366272787548885538229501653876, [(0, .first)]),  -- BSC_setattrlist
  (428443741761523711815297838215235466337, [(0, .first), (1, .second)]),  -- BSC_exchangedata
  (428443741761807852014267044779570585972, [(2, .first)]),  -- BSC_fclonefileat
  (428443741765524099170168900525823585904, [(1, .nth 0 0), (3, .nth 1 1)]),  -- BSC_renameatx_np
  (109681597891102666853591461357497861038452, [(1, .first)]),  -- BSC_getattrlistat
  (109681597891739878415929266086402844747116, [(0, .first)]),  -- BSC_open_nocancel
  (109681597892053404803762633408620388442484, [(1, .first)]),  -- BSC_setattrlistat
  (7188093199391627393377371926391657489240125040, [(0, .first)]),  -- BSC_guarded_open_np
  (7188093199433064671868786273725280211238610284, [(1, .first)]),  -- BSC_openat_nocancel
  (120596192235019603541869923768397803315353182128795248, [(0, .first)]),  -- BSC_open_dprotected_np
  (2224607094410461501218490030761352009856422655469783644549483054816521840, [(0, .first)])  -- BSC_guarded_open_dprotected_np
]

def pathTable : List (Nat × List (Nat × PathSrc)) := pathTableA ++ pathTableB

abbrev decoders := Gen.Decoders.decoders

/-- REFLECTIVE (re-checked by the kernel against the regenerated decoders on every run).  Only a decoder some of
    whose constructor arguments read lookups (`usesLookups`, so that `runGenerated` reassembles them) can show one:
    the table is exact for those; the name part of such a decoder reads no lookup, and the only one whose tail
    (result part) reads a lookup is `BSC_fsgetpath` (the RESULT path, shown as ` path: "<first lookup>"` when
    non-empty); every other decoder reads no lookup anywhere in its call shape (inlining its constructor arguments
    cannot change that: `within_subst`), and no translated decoder without a call shape reads lookups at all. -/
theorem path_table_checked :
    lockstep (decoders.filter usesLookups) pathTable = true ∧
    decoders.all (fun d =>
      match d.shape with
      | some s =>
        if usesLookups d then
          !readsLookups (subst d.fields s.head) &&
          (!readsLookups (subst d.fields s.tail) || d.key == 25537237033952902020902422672488)
        else
          within noLookupSel s.head && within noLookupSel s.tail &&
          s.params.all fun x => within noLookupSel x.2 && x.1.all (within noLookupSel)
      | none => !(d.supported && usesLookups d)) = true := by decide +kernel

/-- A decoder none of whose constructor arguments reads a lookup has no lookup-reading parameter: its parameters read
    none before the inlining (checked above), hence none after it (`within_subst`). -/
theorem pathParams_of_not_uses {d : Decoder} (hd : d ∈ decoders) (hu : usesLookups d = false) :
    pathParams d = [] := by
  have hsub := within_subst noLookupSel rfl d.fields (by simpa [usesLookups] using hu)
  have h := List.all_eq_true.1 path_table_checked.2 d hd
  cases hs : d.shape with
  | none => simp only [pathParams, hs]
  | some s =>
    simp only [hs, hu, Bool.false_eq_true, if_false, Bool.and_eq_true, List.all_eq_true] at h
    simp only [pathParams, hs, List.map_eq_nil_iff, List.filter_eq_nil_iff]
    intro x hx
    obtain ⟨hp, hc⟩ := h.2 x.1 (List.mem_of_getElem? (List.mem_zipIdx_iff_getElem?.1 hx))
    cases hx1 : x.1.1 with
    | none => simp [condReads, readsLookups, hsub, hp]
    | some c =>
      rw [hx1, Option.all_some] at hc
      simp [condReads, readsLookups, hsub, hp, hc]

theorem path_table_exact : lockstep decoders pathTable = true := by
  rw [← lockstep_filter usesLookups decoders pathTable fun d => pathParams_of_not_uses]
  exact path_table_checked.1

/-- … its rows are well formed (`nth i n` has `i ≤ n`: the guard protects the index) and its keys distinct. -/
theorem path_table_wellFormed :
    pathTable.all (fun r => r.2.all fun x => x.2.wellFormed) = true ∧ (pathTable.map (·.1)).Nodup :=
  ⟨by decide +kernel, by decide +kernel⟩

/-- What a table entry MEANS, in any window whatsoever: the quoted parameter evaluates, without exception, to
    `"<path>"` where `<path>` is the path of the lookup the source names (`PathSrc.shown`; '' when absent). -/
theorem path_source_text (c : Ctx) (src : PathSrc) (hwf : src.wellFormed = true) :
    evalS c (quoted src.toExpr) = .ok ("\"" ++ src.shown c.win.lookups c.win.restFirst ++ "\"") :=
  evalS_quoted c src hwf

/-- EVERY parameter of EVERY generated decoder that reads a lookup at all (directly or in its condition) is
    listed in `pathTable` under the decoder's key at its position, is unconditional, and its text in ANY window
    is `"<the path its source denotes>"` — never an exception; and `runGenerated` reassembles the lookups for that
    decoder. -/
theorem every_path_param_listed (d : Decoder) (hd : d ∈ decoders) (s : Shape) (hs : d.shape = some s)
    (i : Nat) (c : Option Expr) (p : Expr) (hp : s.params[i]? = some (c, p))
    (hr : (readsLookups (subst d.fields p) || condReads d.fields c) = true) :
    ∃ l src, (d.key, l) ∈ pathTable ∧ (i, src) ∈ l ∧ c = none ∧ usesLookups d = true ∧
      ∀ (h : Host) (t : Tables) (w : Window),
        evalS (ctx h t w) (subst d.fields p) = .ok ("\"" ++ src.shown w.lookups w.restFirst ++ "\"") := by
  have hmem := (mem_pathParams hs i _ _).2 ⟨c, p, hp, hr, rfl, rfl⟩
  have huse : usesLookups d = true := by
    cases hu : usesLookups d with
    | true => rfl
    | false => rw [pathParams_of_not_uses hd hu] at hmem; cases hmem
  obtain ⟨l, hl, hrow⟩ := lockstep_row_of_decoder path_table_exact hd hmem
  rw [hrow, rowExprs, List.mem_map] at hmem
  obtain ⟨⟨i', src⟩, hx, heq⟩ := hmem
  simp only [Prod.mk.injEq] at heq
  obtain ⟨rfl, hc, hpe⟩ := heq
  refine ⟨l, src, hl, hx, Option.map_eq_none_iff.1 hc.symm, huse, fun h t w => ?_⟩
  rw [← hpe]
  exact evalS_quoted (ctx h t w) src
    (List.all_eq_true.1 (List.all_eq_true.1 path_table_wellFormed.1 _ hl) _ hx)

/-- Conversely every row of the table belongs to a decoder of the generated table (no stale rows), and each
    of its entries is a parameter of that decoder at that position. -/
theorem every_row_is_a_decoder (r : Nat × List (Nat × PathSrc)) (hr : r ∈ pathTable) :
    ∃ d ∈ decoders, d.key = r.1 ∧ ∃ s, d.shape = some s ∧
      ∀ x ∈ r.2, ∃ p, s.params[x.1]? = some (none, p) ∧ subst d.fields p = quoted x.2.toExpr := by
  obtain ⟨d, hd, hne, hk, hpp⟩ := lockstep_decoder_of_row path_table_exact hr
  cases hs : d.shape with
  | none => simp [pathParams, hs] at hne
  | some s =>
    refine ⟨d, hd, hk, s, hs, fun x hx => ?_⟩
    obtain ⟨c, p, hget, -, hc, hpe⟩ :=
      (mem_pathParams hs x.1 none _).1 (by rw [hpp]; exact List.mem_map.2 ⟨x, hx, rfl⟩)
    rw [Option.map_eq_none_iff.1 hc.symm] at hget
    exact ⟨p, hget, hpe.symm⟩

/-- `runGenerated` (the pipeline's use of a generated decoder) is `IR.render` on `mkWindow` of the window; for
    the decoders of the table the lookups are reassembled (`usesLookups d`, `path_table_checked`). -/
theorem runGenerated_is_render (env : Env) (tabs : Tabs) (d : Decoder) (events : List Kevent) (text : String)
    (h : runGenerated env tabs d events = .ok (.ok text)) :
    ∃ W, mkWindow env tabs events (usesLookups d) = .ok W ∧ IR.render env.host env.tables d W = .ok text := by
  unfold runGenerated runGeneratedObj at h
  cases hw : mkWindow env tabs events (usesLookups d) with
  | error e => rw [hw] at h; cases h
  | ok W =>
    simp only [hw, bind, Except.bind] at h
    refine ⟨W, rfl, ?_⟩
    rw [render_eq]
    cases hf : evalFields { host := env.host, tables := env.tables, win := W } d.fields with
    | error e => rw [hf] at h; cases h
    | ok fs => rw [hf] at h; exact Except.ok.inj h

/-- `syscall_paths_partial` and `every_path_param_listed` together.  In a syscall window whose lookup records
    are the kernel-encoded lookups `ls` (K5 proviso as in `syscall_paths_partial`), every lookup-reading
    parameter of every generated decoder renders as `"<dec pⱼ>"` for the lookup index `j` that `pathTable`
    lists for that decoder and position (`first` ↦ 0, `second` ↦ 1, `nth i n` ↦ i when there are more than `n`
    lookups, `last` ↦ the last, `spawn` ↦ 3 when there are ≥ 6 lookups, else 0; `""` when that lookup does not
    exist). -/
theorem syscall_shows_looked_up_paths_partial (env : Env) (tabs : Tabs) (events : List Kevent) (tid eid : Nat)
    (ls : List LookupSpec) (ss : List String) (hg : GoodSpecs ls) (hdc : Decoded env.dec ls ss)
    (hev : events.filter (isLookup env) = encodeLookups tid eid ls)
    (hk5 : ∀ l rest, ls = l :: rest →
      ∀ e ∈ encodeLookups tid eid rest, e ∉ lookupEvents tid eid l.ts l.vnode l.path)
    (d : Decoder) (hd : d ∈ decoders) (s : Shape) (hs : d.shape = some s)
    (i : Nat) (c : Option Expr) (p : Expr) (hp : s.params[i]? = some (c, p))
    (hr : (readsLookups (subst d.fields p) || condReads d.fields c) = true) :
    ∃ W l src, mkWindow env tabs events (usesLookups d) = .ok W ∧ (d.key, l) ∈ pathTable ∧ (i, src) ∈ l ∧
      evalS (ctx env.host env.tables W) (subst d.fields p) =
        .ok ("\"" ++ src.shown (lookupsOf ls ss) (lookupsOf ls ss)[1]? ++ "\"") := by
  obtain ⟨W, hW, hl, hrest, _⟩ := mkWindow_encoded env tabs events tid eid ls ss hg hdc hev hk5
  obtain ⟨l, src, hrow, hx, _, huse, hev'⟩ := every_path_param_listed d hd s hs i c p hp hr
  refine ⟨W, l, src, by rw [huse]; exact hW, hrow, hx, ?_⟩
  rw [hev' env.host env.tables W, hl, hrest]

/-- Non-vacuity: `BSC_rename` is in the decoder table; its parameters 0 and 1 read lookups; the table lists
    lookup 0 and the second-phase lookup for them. -/
example : ∃ d ∈ decoders, d.key = 1522137941966846949420389 ∧ d.name = "BSC_rename" ∧
    pathParams d = rowExprs [(0, .first), (1, .second)] ∧
    pathTable.lookup d.key = some [(0, .first), (1, .second)] := by decide +kernel

example : PathSrc.shown (.nth 1 1) [⟨"/a", 1⟩, ⟨"/b", 2⟩] none = "/b" ∧
    PathSrc.shown .spawn [⟨"0", 1⟩, ⟨"1", 2⟩, ⟨"2", 2⟩, ⟨"/bin/ls", 2⟩, ⟨"4", 2⟩, ⟨"5", 2⟩] none = "/bin/ls" ∧
    PathSrc.shown .spawn [⟨"/bin/ls", 1⟩] none = "/bin/ls" ∧ PathSrc.shown .last [⟨"/a", 1⟩, ⟨"/b", 2⟩] none = "/b" ∧
    PathSrc.shown (.nth 0 1) [⟨"/a", 1⟩] none = "" := by decide +kernel

/-! ## Translation tie: the source text of `vnode_generator`, `parse_vnodes`, `parse_vnode`, interpreted, is the model

  `tools/gen_pyir_vn.py` translates the three methods of `pykdebugparser/traces_parser.py` into the Python-subset IR of
  `Model/PyIRVn` (`Gen/PyIRVn.lean`, on every run: pure `ast`, the values of `DgbFuncQual` reflected);
  `PyIRVn.runGenerator` / `runParseVnodes` / `runParseVnode` interpret them (a generator big-step: the vnodes it yields
  and the exception that ends it; `bytes.decode()` and `self.trace_codes` are parameters, as in `Model/Trace`).  So the
  theorems above about `vnodeGen` / `parseVnodes` (`vnodeGen_encode`, `lookup_one_trace`, `syscall_paths_partial`, …)
  are theorems about the translated source.

  Side condition `PyIRVn.HasWords events`: every record carries its argument words (`event.values[0]` exists) — what
  `from_kd_buf` always produces (four words) and what the encoders of `Spec/Reassembly` produce; the model type `Kevent`
  also has inhabitants with an empty `values`, where Python would raise IndexError and `vnodeGen` reads 0. -/

/-- The program generated from the source text is, node for node, the one the theorems below are proved for
    (`Spec/PyIRVnExpected`, quoting the Python), and the translator had nothing to report outside the method bodies. -/
theorem source_is_expected_ir :
    Gen.PyIRVn.vnodeGenerator = PyIRVn.Expected.vnodeGenerator ∧
    Gen.PyIRVn.parseVnodes = PyIRVn.Expected.parseVnodes ∧
    Gen.PyIRVn.parseVnode = PyIRVn.Expected.parseVnode ∧
    Gen.PyIRVn.notes = [] := ⟨rfl, rfl, rfl, rfl⟩

theorem generated_prog_is_expected : Gen.PyIRVn.prog = PyIRVn.Expected.prog := by
  simp only [Gen.PyIRVn.prog, PyIRVn.Expected.prog, source_is_expected_ir.1, source_is_expected_ir.2.1,
    source_is_expected_ir.2.2.1]

/-- `list(TracesParser.vnode_generator(events))` of the SOURCE, interpreted on ANY list of records (with their
    argument words), for ANY `dec` (and whatever the code table): exactly `Trace.vnodeGen dec events` — the same vnodes
    (the same records in `ktraces`, the same vnode id, the same path) in the same order, or the same exception. -/
theorem vnode_generator_ir_eq_model (dec : Bytes → Except PyErr String) (codes : Nat → Option String)
    (events : List Kevent) (hw : PyIRVn.HasWords events) :
    PyIRVn.collect (PyIRVn.runGenerator Gen.PyIRVn.prog dec codes events) = vnodeGen dec events [] 0 [] := by
  rw [generated_prog_is_expected, PyIRVn.run_generator dec codes events hw, PyIRVn.collect_vnodeYields]

/-- … and as a GENERATOR (consumed lazily, `for v in vnode_generator(events)`): the vnodes yielded before the first
    exception of `dec`, then that exception — `PyIRVn.vnodeYields`, of which `vnodeGen` is the `list(…)`
    (`PyIRVn.collect_vnodeYields`). -/
theorem vnode_generator_ir_yields (dec : Bytes → Except PyErr String) (codes : Nat → Option String)
    (events : List Kevent) (hw : PyIRVn.HasWords events) :
    PyIRVn.runGenerator Gen.PyIRVn.prog dec codes events = PyIRVn.vnodeYields dec events [] 0 [] ∧
    PyIRVn.collect (PyIRVn.vnodeYields dec events [] 0 []) = vnodeGen dec events [] 0 [] := by
  rw [generated_prog_is_expected]
  exact ⟨PyIRVn.run_generator dec codes events hw, PyIRVn.collect_vnodeYields dec events [] 0 []⟩

/-- `parser.parse_vnodes(events)` of the source, interpreted in ANY environment on ANY window, is `Trace.parseVnodes`:
    the comprehension keeps exactly the records whose code the table names `VFS_LOOKUP`, the generator runs on them. -/
theorem parse_vnodes_ir_eq_model (env : Env) (events : List Kevent) (hw : PyIRVn.HasWords events) :
    PyIRVn.runParseVnodes Gen.PyIRVn.prog env.dec env.codes events = parseVnodes env events := by
  rw [generated_prog_is_expected]; exact PyIRVn.run_parseVnodes env events hw

/-- `parser.parse_vnode(events)` of the source is `Trace.parseVnode`: the first vnode; `Vnode([], 0, '')` when there is
    none — or when the `try` body raised an IndexError of its own (only an artificial `dec` can). -/
theorem parse_vnode_ir_eq_model (env : Env) (events : List Kevent) (hw : PyIRVn.HasWords events) :
    PyIRVn.runParseVnode Gen.PyIRVn.prog env.dec env.codes events = parseVnode env events := by
  rw [generated_prog_is_expected]; exact PyIRVn.run_parseVnode env events hw

/-- The `VFS_LOOKUP` handler of the model (`handle_vfs_lookup`: `parser.parse_vnode(events)` → `lookup("<path>"), vnode
    id: <id>`) written with `parseVnode`, for every `dec` that never raises IndexError (`bytes.decode()` raises
    UnicodeDecodeError only). -/
theorem vfs_lookup_is_parse_vnode (env : Env) (t : Tabs) (events : List Kevent)
    (hdec : ∀ b, env.dec b ≠ .error .indexError) :
    hVfsLookup env t events =
      if !hasStart (firstOf events) then .ok (none, t)
      else (parseVnode env events).map fun v =>
        (some (mk "VFS_LOOKUP" events s!"lookup(\"{v.path}\"), vnode id: {v.vnodeId}"), t) := by
  unfold hVfsLookup parseVnode
  split
  · rfl
  · cases hp : parseVnodes env events with
    | ok l => cases l <;> rfl
    | error x =>
      cases x
      case indexError =>
        obtain ⟨b, hb⟩ := PyIRVn.vnodeGen_error_from_dec env.dec _ _ _ _ _ hp
        exact absurd hb (hdec b)
      all_goals rfl

theorem hasWords_lookupEvents (tid eid : Nat) (ts : Nat → Nat) (vnode : Nat) (p : Bytes) :
    PyIRVn.HasWords (lookupEvents tid eid ts vnode p) := by
  intro e he
  obtain ⟨j, q, c, rfl⟩ := mem_tagFrom he
  exact List.cons_ne_nil _ _

/-- `vnodeGen_encode` read on the source: the translated `vnode_generator`, interpreted on the records of one
    kernel-encoded lookup (any NUL-free path of any length), yields exactly one vnode — those records, the vnode id of the
    first record, `dec` of exactly the path bytes — or raises what `dec` raises. -/
theorem source_vnode_generator_encode (dec : Bytes → Except PyErr String) (codes : Nat → Option String)
    (tid eid : Nat) (ts : Nat → Nat) (vnode : Nat) (p : Bytes) (hv : vnode < 2 ^ 64) (hp : NulFree p) :
    PyIRVn.collect (PyIRVn.runGenerator Gen.PyIRVn.prog dec codes (lookupEvents tid eid ts vnode p)) =
      (dec p).map fun s => [⟨lookupEvents tid eid ts vnode p, vnode, s⟩] := by
  rw [vnode_generator_ir_eq_model dec codes _ (hasWords_lookupEvents tid eid ts vnode p)]
  exact vnodeGen_encode dec tid eid ts vnode p hv hp

private instance exceptDecEq {ε α : Type} [DecidableEq ε] [DecidableEq α] : DecidableEq (Except ε α)
  | .ok a, .ok b => if h : a = b then isTrue (by rw [h]) else isFalse (by intro e; cases e; exact h rfl)
  | .error a, .error b => if h : a = b then isTrue (by rw [h]) else isFalse (by intro e; cases e; exact h rfl)
  | .ok _, .error _ => isFalse (by intro e; cases e)
  | .error _, .ok _ => isFalse (by intro e; cases e)

/-- a `dec` that rejects the byte 0xff (so that the exception path is exercised) -/
def pickyDec (b : Bytes) : Except PyErr String := if b.contains 255 then .error .unicodeError else asciiDec b

/-- Non-vacuity of `source_is_expected_ir` / `vnode_generator_ir_*`: the GENERATED generator on concrete records — a
    35-byte lookup (two records), a stray continuation record, a lookup whose path holds 0xff, a 24-byte lookup that is
    never reached — yields the first vnode (both records, vnode id, path) and ends with the decoder's exception;
    `list(…)` of it is the exception alone; the records carry their words. -/
example :
    let evs := lookupEvents 7 4 (tsFrom 10) 0x1122334455667788 path35 ++
      lookupEvents 7 4 (tsFrom 20) 6 [47, 255] ++ lookupEvents 7 4 (tsFrom 30) 9 (List.replicate 24 99)
    PyIRVn.HasWords evs ∧
    PyIRVn.runGenerator Gen.PyIRVn.prog pickyDec demoCodes evs =
      ([⟨lookupEvents 7 4 (tsFrom 10) 0x1122334455667788 path35, 0x1122334455667788,
          "/tmp/" ++ String.ofList (List.replicate 30 'a')⟩], some .unicodeError) ∧
    vnodeGen pickyDec evs [] 0 [] = .error .unicodeError := by decide +kernel

/-- … and without the bad lookup: two vnodes, no exception; a record without END at the end yields nothing more. -/
example :
    let evs := lookupEvents 7 4 (tsFrom 10) 5 path35 ++ lookupEvents 7 4 (tsFrom 30) 9 (List.replicate 24 99) ++
      [mkEvent 40 7 4 1 (toLE 8 3 ++ List.replicate 24 100)]
    ((PyIRVn.runGenerator Gen.PyIRVn.prog asciiDec demoCodes evs).1.map fun v => (v.ktraces.map (·.timestamp), v.vnodeId, v.path),
     (PyIRVn.runGenerator Gen.PyIRVn.prog asciiDec demoCodes evs).2) =
      ([([10, 11], 5, "/tmp/" ++ String.ofList (List.replicate 30 'a')), ([30], 9, String.ofList (List.replicate 24 'c'))],
       none) := by decide +kernel

/-- Non-vacuity of `parse_vnodes_ir_eq_model` / `parse_vnode_ir_eq_model`: a `BSC_rename` window (code 8) with two
    lookups (code 4) and an unrelated record in between, through the GENERATED `parse_vnodes` / `parse_vnode`: the
    non-lookup records are dropped, two vnodes, the first one; a window without lookups gives `Vnode([], 0, '')`. -/
example :
    let evs := mkEvent 1 7 8 1 zeros32 :: lookupEvents 7 4 (tsFrom 10) 5 path35 ++ [mkEvent 15 7 20 0 zeros32] ++
      lookupEvents 7 4 (tsFrom 20) 6 [47, 98] ++ [mkEvent 30 7 8 2 zeros32]
    PyIRVn.HasWords evs ∧
    (PyIRVn.runParseVnodes Gen.PyIRVn.prog demoEnv.dec demoEnv.codes evs).map
        (·.map fun v => (v.ktraces.map (·.timestamp), v.vnodeId, v.path)) =
      .ok [([10, 11], 5, "/tmp/" ++ String.ofList (List.replicate 30 'a')), ([20], 6, "/b")] ∧
    (PyIRVn.runParseVnode Gen.PyIRVn.prog demoEnv.dec demoEnv.codes evs).map
        (fun v => (v.ktraces.map (·.timestamp), v.vnodeId, v.path)) =
      .ok ([10, 11], 5, "/tmp/" ++ String.ofList (List.replicate 30 'a')) ∧
    PyIRVn.runParseVnode Gen.PyIRVn.prog demoEnv.dec demoEnv.codes [mkEvent 1 7 8 1 zeros32, mkEvent 30 7 8 2 zeros32] =
      .ok ⟨[], 0, ""⟩ := by decide +kernel

end KdVerif.C08
