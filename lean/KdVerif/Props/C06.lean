import KdVerif.Model.Pipeline
import KdVerif.Props.C01
import KdVerif.Proofs.Trunc
import KdVerif.Proofs.Final
import KdVerif.Proofs.EndToEnd
import KdVerif.Proofs.PyIRRdKd
import KdVerif.Gen.PyIRCli
import KdVerif.Proofs.PyIRCli
/-
  C06 — truncated dumps: parsing terminates and reports a prefix of the full result.

  Subject: `parse plist fromKdBuf prior data` for EVERY byte string `data` (well-formed or not) and its
  cuts `data.take k`.  Termination: every model function is total; the three `while True` loops
  and the two `GreedyRange`s carry fuel derived from the unread length, and `never_hangs` proves the
  fuel is never exhausted — which is exactly the statement that each iteration makes progress.
  `seek_until` is structural recursion on the unread suffix; that is faithful only because the
  loop raises `EOFError` on an empty read (`seekUntil_fuel_hang_old`: the loop without that exit, F1).
-/
namespace KdVerif.C06
open KdVerif Reader

/-- **Prefix, any container.**  For every byte string, every cut offset, every prior parser state
    (also different ones on the two sides): the events delivered for the cut dump are a prefix of
    those delivered for the whole dump. -/
theorem truncation_prefix (plist : Bytes → Option PView) (prior prior' : PState) (f : Bytes) (k : Nat) :
    (parse plist fromKdBuf prior' (f.take k)).events <+: (parse plist fromKdBuf prior f).events :=
  parse_trunc plist fromKdBuf PyIRRd.kd_rejectsShort prior prior' f k

/-- **v2**: `f` is any byte string behind the v2 magic. -/
theorem v2_truncation_prefix (plist : Bytes → Option PView) (prior : PState) (body : Bytes) (k : Nat) :
    (parse plist fromKdBuf prior ((Gen.Consts.RAW_VERSION2_BYTES ++ body).take k)).events <+:
      (parse plist fromKdBuf prior (Gen.Consts.RAW_VERSION2_BYTES ++ body)).events :=
  truncation_prefix plist prior prior _ k

/-- **v3**: `f` is any byte string behind the v3 magic (the claim is on events; metadata and logs
    exist only once the sections behind the events have been read). -/
theorem v3_truncation_prefix (plist : Bytes → Option PView) (prior : PState) (body : Bytes) (k : Nat) :
    (parse plist fromKdBuf prior ((Gen.Consts.RAW_VERSION3_BYTES ++ body).take k)).events <+:
      (parse plist fromKdBuf prior (Gen.Consts.RAW_VERSION3_BYTES ++ body)).events :=
  truncation_prefix plist prior prior _ k

/-- **Nothing is fabricated.**  For every byte string (well-formed or not) the delivered events are,
    in order, decodings of 64-byte windows `data[p : p+64]` that lie entirely inside the input, are
    pairwise disjoint and ascending (`Slices`: each next window starts at or behind the end of the
    previous one) — the positions being those of the record loops (behind the v2 header and padding;
    behind each v3 chunk header).  No event comes from a partial record or from bytes outside the file. -/
theorem no_fabrication (plist : Bytes → Option PView) (prior : PState) (data : Bytes) :
    Slices fromKdBuf data 0 data.length (parse plist fromKdBuf prior data).events :=
  (parse_final plist fromKdBuf PyIRRd.kd_rejectsShort PyIRRd.kd_noHang prior data).2.1

/-- … in particular every event is the decoding of 64 consecutive input bytes, i.e. (C01) the
    little-endian reading of that window. -/
theorem no_fabrication_mem (plist : Bytes → Option PView) (prior : PState) (data : Bytes) (hb : IsBytes data)
    (e : Kevent) (he : e ∈ (parse plist fromKdBuf prior data).events) :
    ∃ p, p + 64 ≤ data.length ∧ e = specDecode ((data.drop p).take 64) := by
  obtain ⟨p, h2, h3⟩ := (no_fabrication plist prior data).mem he
  refine ⟨p, h2, ?_⟩
  have hl : ((data.drop p).take 64).length = 64 := by simp; omega
  rw [C01.decode_eq_spec _ hl ((hb.drop p).take 64)] at h3
  simpa using h3.symm

/-- **Termination.**  The model's loops carry fuel (`unread length / minimal progress + 2`); for
    every byte string the fuel is never exhausted: each iteration of the record loop consumes 64 bytes,
    of the chunk loop at least 24, of the zero skipper 1, of the additional-data range at least 16. -/
theorem never_hangs (plist : Bytes → Option PView) (prior : PState) (data : Bytes) :
    (parse plist fromKdBuf prior data).err ≠ some .hang :=
  (parse_final plist fromKdBuf PyIRRd.kd_rejectsShort PyIRRd.kd_noHang prior data).2.2

/-- **Linear reading.**  For every byte string: the work done on the reader — number of `read` calls
    plus number of bytes returned (bytes are re-read only behind a `Select`/`GreedyRange` fallback and
    the `seek(-8, 1)`) — is at most `5·len + 67`.  In particular the v3 chunk loop, which runs
    `size // 64` times with `size` taken from the file, stops at the first short record, and
    `seek_until` consumes a byte per iteration and raises at end of file.
    (Bytes REQUESTED are not bounded by the length: `Prefixed(Int64ul, …)` asks for whatever the file's
    length field says, up to 2^64−1, in a single `read`.) -/
theorem reads_linear (plist : Bytes → Option PView) (prior : PState) (data : Bytes) :
    (parse plist fromKdBuf prior data).rd.calls + (parse plist fromKdBuf prior data).rd.got ≤ 5 * data.length + 67 :=
  (parse_final plist fromKdBuf PyIRRd.kd_rejectsShort PyIRRd.kd_noHang prior data).1

/-- whenever the cut dump delivers an event at all, the tables the formatter sees while events are
    delivered (the thread map) are the same for the cut and the whole dump. -/
theorem trunc_same_threadmap (plist : Bytes → Option PView) (prior : PState) (f : Bytes) (k : Nat)
    (hne : (parse plist fromKdBuf prior (f.take k)).events ≠ []) :
    (parse plist fromKdBuf prior (f.take k)).tmTables = (parse plist fromKdBuf prior f).tmTables :=
  parse_trunc_tables plist fromKdBuf prior prior f k hne

theorem filterMap_prefix {α β : Type} (g : α → Option β) {l₁ l₂ : List α} (h : l₁ <+: l₂) :
    l₁.filterMap g <+: l₂.filterMap g :=
  h.filterMap g

/-- **Causality of the formatted event stream.**  The stages between the container parser and the
    printed lines (`not isinstance(e, OsLogEvent)`, thread filter, class filter, `_format_kevent`)
    are per-item, so the lines for a cut dump are a prefix of the lines for the whole dump — for any
    filter settings and any formatter (the formatter reads the shared tables as they are while the
    events are delivered, i.e. the thread map; `trunc_same_threadmap` shows it is the same
    table on both sides whenever the cut dump delivers an event at all). -/
theorem pipeline_causal {τ : Type} (plist : Bytes → Option PView) (prior : PState) (f : Bytes) (k : Nat)
    (fmt : Kevent → τ) (tidOk classOk : Kevent → Bool) :
    formattedKevents fmt tidOk classOk (parse plist fromKdBuf prior (f.take k)).outs <+:
      formattedKevents fmt tidOk classOk (parse plist fromKdBuf prior f).outs :=
  (((truncation_prefix plist prior prior f k).filter _).filter _).map _

/-- a `feed_generator` stage (the trace parser, the callstack parser) is causal as well: what it has
    delivered after a prefix of its input is a prefix of what it delivers for the whole input. -/
theorem feedGen_prefix {σ ε τ : Type} (feed : σ → ε → Except PyErr (σ × Option τ)) (s : σ) (h₁ h₂ : List ε) :
    (feedGen feed s h₁).1 <+: (feedGen feed s (h₁ ++ h₂)).1 := by
  induction h₁ generalizing s with
  | nil => exact List.nil_prefix
  | cons e es ih =>
    simp only [List.cons_append, feedGen]
    cases feed s e with
    | error err => exact List.prefix_refl _
    | ok p =>
      obtain ⟨s', o⟩ := p
      cases o with
      | none => exact ih s'
      | some t => simp only [List.cons_prefix_cons, true_and]; exact ih s'

/-- hence traces / formatted traces for a cut dump are a prefix of those for the whole dump. -/
theorem traces_causal {σ τ : Type} (plist : Bytes → Option PView) (prior : PState) (f : Bytes) (k : Nat)
    (feed : σ → Kevent → Except PyErr (σ × Option τ)) (s : σ) (tidOk classOk : Kevent → Bool) :
    (feedGen feed s (kevents tidOk classOk (parse plist fromKdBuf prior (f.take k)).outs)).1 <+:
      (feedGen feed s (kevents tidOk classOk (parse plist fromKdBuf prior f).outs)).1 := by
  obtain ⟨t, ht⟩ := ((truncation_prefix plist prior prior f k).filter tidOk).filter classOk
  unfold kevents
  simp only [Run3.events] at ht
  rw [← ht]
  exact feedGen_prefix feed s _ _

theorem printWithCountAux_eq {α : Type} (count : Int) (i : Int) (l : List α) (hi : i ≤ count) :
    printWithCountAux count i l = l.take (count - i).toNat := by
  induction l generalizing i with
  | nil => simp [printWithCountAux]
  | cons a l ih =>
    simp only [printWithCountAux]
    by_cases h : i = count
    · subst h; simp
    · have hlt : i < count := by omega
      have : (count - i).toNat = (count - (i + 1)).toNat + 1 := by omega
      rw [if_neg h, this, List.take_succ_cons, ih (i + 1) (by omega)]

theorem printWithCountAux_neg {α : Type} (count : Int) (i : Int) (l : List α) (hi : count < i) :
    printWithCountAux count i l = l := by
  induction l generalizing i with
  | nil => rfl
  | cons a l ih =>
    have : ¬ i = count := by omega
    simp only [printWithCountAux, this, if_false, ih (i + 1) (by omega)]

/-- **Limiting the output count never changes the lines that are printed.**  `print_with_count`,
    modelled literally: for `n ≥ 0` exactly the first `n` lines, for `n = −1` (the default, and
    likewise every negative `n`) all lines. -/
theorem count_prefix {α : Type} (lines : List α) (n : Int) :
    (0 ≤ n → printWithCount lines n = lines.take n.toNat) ∧
    (n < 0 → printWithCount lines n = lines) ∧
    printWithCount lines (-1) = lines ∧
    printWithCount lines n <+: lines := by
  have h1 : 0 ≤ n → printWithCount lines n = lines.take n.toNat := fun h => by
    unfold printWithCount; rw [printWithCountAux_eq n 0 lines h]; simp
  have h2 : n < 0 → printWithCount lines n = lines := fun h => printWithCountAux_neg n 0 lines h
  refine ⟨h1, h2, printWithCountAux_neg (-1) 0 lines (by omega), ?_⟩
  by_cases h : 0 ≤ n
  · rw [h1 h]; exact List.take_prefix _ _
  · rw [h2 (by omega)]; exact List.prefix_refl _

/-- **Regression witness for F1.**  The loop without the end-of-file exit
    (`found = found[1:] + reader.read(1)` and nothing else): at end of file, for a window that is not the
    tag and is no longer than it, NO amount of fuel terminates it. -/
theorem seekUntil_fuel_hang_old (tag found : Bytes) (hlen : found.length ≤ tag.length) (hne : found ≠ tag)
    (htag : tag ≠ []) : ∀ fuel, seekAuxOld tag fuel [] found = .error .hang := by
  intro fuel
  induction fuel generalizing found with
  | zero => rfl
  | succ fuel ih =>
    have hd : found.drop 1 ≠ tag := by
      intro e
      have : (found.drop 1).length = tag.length := by rw [e]
      rw [List.length_drop] at this
      have : tag.length = 0 := by omega
      exact htag (List.eq_nil_of_length_eq_zero this)
    simp only [seekAuxOld, hne, if_false]
    rw [ih (found.drop 1) (by rw [List.length_drop]; omega) hd]
    rfl

example : printWithCount [10, 20, 30] 2 = [10, 20] ∧ printWithCount [10, 20, 30] 0 = [] ∧
    printWithCount [10, 20, 30] (-1) = [10, 20, 30] ∧ printWithCount [10, 20, 30] (-7) = [10, 20, 30] ∧
    printWithCount [10, 20, 30] 5 = [10, 20, 30] := by decide

/-- a v2 dump of two records cut inside the second one: one event, then `struct.error` — a strict prefix. -/
example :
    let f := Gen.Consts.RAW_VERSION2_BYTES ++ List.replicate 284 0 ++ List.replicate 64 1 ++ List.replicate 64 2
    (parse (fun _ => none) fromKdBuf ⟨Tables.empty, {}⟩ f).events.length = 2 ∧
    (parse (fun _ => none) fromKdBuf ⟨Tables.empty, {}⟩ (f.take 400)).events.length = 1 ∧
    (parse (fun _ => none) fromKdBuf ⟨Tables.empty, {}⟩ (f.take 400)).err = some .structError ∧
    (parse (fun _ => none) fromKdBuf ⟨Tables.empty, {}⟩ (f.take 100)).err = some .streamError := by
  decide +kernel

/-- a v3 prefix that ends inside the stackshot: the scan stops with EOFError (and does not spin). -/
example :
    (parse (fun _ => some ⟨false, [], none, none, none⟩) fromKdBuf ⟨Tables.empty, {}⟩
      (Gen.Consts.RAW_VERSION3_BYTES ++ List.replicate 60 0 ++ [0, 0, 0, 0, 0, 0, 0, 0] ++ List.replicate 40 7)).err
      = some .eof := by
  decide +kernel

/-- **The cut dump as the trace layer sees it.**  For every byte string and every cut: when the container reader gets
    through the header of the cut dump at all (version 2: `kd_header_v2`; version 3: the header, both scans and the
    thread-map chunk), it gets through the header of the whole dump, hands the trace layer the SAME thread map, and the
    events of the cut dump are a prefix of the events of the whole dump.  (Version 2: the greedy zero skipper `_pad` looks
    one byte ahead: a cut inside the padding — or inside leading zero bytes of the first record — ends the padding earlier
    than in the whole dump; but then the cut dump ends there too and delivers no event.  Version 3: every read of the
    header part is exact or a scan that raises at end of file; the chunk loop is `chunkLoop_trunc`.)  `plist` is
    `plistlib.loads` as far as the container parser looks at the result; the version-2 branch ignores it. -/
theorem e2e_truncated_dump (plist : Bytes → Option PView) (file : Bytes) (k : Nat) (d' : TracePipeline.Dump)
    (c' : Option PyErr) (h : EndToEnd.dumpOf plist (file.take k) = .ok (d', c')) :
    ∃ d c, EndToEnd.dumpOf plist file = .ok (d, c) ∧ d'.threadMap = d.threadMap ∧ d'.events <+: d.events :=
  EndToEnd.dumpOf_trunc plist file k d' c' h

/-- The container step of the composition is the container parser the theorems above are about: the same events and
    the same final exception as `KdBufParser.parse` on the same bytes (whatever the parser object held before), and the
    shared tables while the events are delivered are `set_thread_map` of the thread map the trace layer receives — so
    `no_fabrication`, `never_hangs`, `reads_linear` speak about the events `formattedTraces` is computed from. -/
theorem e2e_dump_is_parse (plist : Bytes → Option PView) (prior : PState) (file : Bytes) (d : TracePipeline.Dump)
    (c : Option PyErr) (h : EndToEnd.dumpOf plist file = .ok (d, c)) :
    (parse plist fromKdBuf prior file).events = d.events ∧ (parse plist fromKdBuf prior file).err = c ∧
    ∃ tm, d.threadMap = EndToEnd.threadMapOf tm ∧
      (parse plist fromKdBuf prior file).tmTables = setThreadMap prior.tables tm :=
  EndToEnd.dumpOf_is_parse plist prior file d c h

/-- **Truncation, end to end.**  For EVERY byte string `file` (version-2 or version-3 dump, well formed or not, or
    neither), every reading `plist` of the property lists, every cut offset `k`, every
    filter configuration of the parser object (thread, process, class, subclass), every trace-code table / decoder
    environment and every setting of the column switches: the formatted trace lines reported for the cut dump — the
    lines `formatted_traces` yields before it stops, normally or with an exception — are a prefix of the lines reported
    for the complete dump.  Ingredients: `e2e_truncated_dump` (same thread map, events a prefix); the event filter is
    per item; `feed_generator` is causal; each post-filter decides from the trace and the tables at the trace's own
    yield; the line builder is mapped lazily and the list ends at the first trace whose text raises. -/
theorem e2e_truncation_prefix (env : Trace.Env) (obj : TracePipeline.Obj) (sh : Format.Show)
    (plist : Bytes → Option PView) (file : Bytes) (k : Nat) :
    (EndToEnd.formattedTraces env obj sh plist (file.take k)).1 <+: (EndToEnd.formattedTraces env obj sh plist file).1 :=
  EndToEnd.formattedTraces_trunc env obj sh plist file k

/-- … hence nothing already reported is later changed or withdrawn: the lines grow monotonically with the cut offset. -/
theorem e2e_truncation_monotone (env : Trace.Env) (obj : TracePipeline.Obj) (sh : Format.Show)
    (plist : Bytes → Option PView) (file : Bytes) (k₁ k₂ : Nat) (h : k₁ ≤ k₂) :
    (EndToEnd.formattedTraces env obj sh plist (file.take k₁)).1 <+:
      (EndToEnd.formattedTraces env obj sh plist (file.take k₂)).1 := by
  have := e2e_truncation_prefix env obj sh plist (file.take k₂) k₁
  rwa [List.take_take, Nat.min_eq_left h] at this

/-- the same for the traces themselves (with the tables at their yield), before the line builder. -/
theorem e2e_traces_prefix (env : Trace.Env) (obj : TracePipeline.Obj) (plist : Bytes → Option PView) (file : Bytes)
    (k : Nat) (d' d : TracePipeline.Dump) (c' c : Option PyErr)
    (h' : EndToEnd.dumpOf plist (file.take k) = .ok (d', c')) (h : EndToEnd.dumpOf plist file = .ok (d, c)) :
    (TracePipeline.traces env obj d').1.traces <+: (TracePipeline.traces env obj d).1.traces := by
  obtain ⟨d₂, c₂, h₂, htm, hev⟩ := e2e_truncated_dump plist file k d' c' h'
  cases h.symm.trans h₂
  exact EndToEnd.traces_prefix env obj htm hev

/-- **Limiting the output count, end to end.**  `print_with_count(formatted_traces(…), n)` prints, for `n ≥ 0`, exactly
    the first `n` of the lines (all of them for a negative `n`), and what it prints for a cut dump is a prefix of what
    it prints for the complete dump — for every `n`. -/
theorem e2e_count_prefix (env : Trace.Env) (obj : TracePipeline.Obj) (sh : Format.Show) (plist : Bytes → Option PView)
    (file : Bytes) (k : Nat) (n : Int) :
    (0 ≤ n → printWithCount (EndToEnd.formattedTraces env obj sh plist file).1 n
              = (EndToEnd.formattedTraces env obj sh plist file).1.take n.toNat) ∧
    printWithCount (EndToEnd.formattedTraces env obj sh plist (file.take k)).1 n <+:
      printWithCount (EndToEnd.formattedTraces env obj sh plist file).1 n := by
  refine ⟨(count_prefix _ n).1, ?_⟩
  by_cases hn : 0 ≤ n
  · rw [(count_prefix _ n).1 hn, (count_prefix _ n).1 hn]
    exact List.prefix_take_iff.2
      ⟨(List.take_prefix _ _).trans (e2e_truncation_prefix env obj sh plist file k), List.length_take_le _ _⟩
  · rw [(count_prefix _ n).2.1 (by omega), (count_prefix _ n).2.1 (by omega)]
    exact e2e_truncation_prefix env obj sh plist file k

/-- `EndToEnd.exFile`, a 740-byte dump (thread map of two entries, padding, six records), at four cuts.
    Whole: six lines, no exception; cut inside the fourth record: three lines, then `struct.error`; cut inside the
    padding: the header parses, no line, no exception; cut inside the thread map: no line, `StreamError`. -/
example :
    let file := Spec.encodeV2 EndToEnd.exFile
    (EndToEnd.formattedTraces EndToEnd.exEnv {} {} EndToEnd.noPlist file).1.length = 6 ∧
    (EndToEnd.formattedTraces EndToEnd.exEnv {} {} EndToEnd.noPlist file).2 = none ∧
    EndToEnd.formattedTraces EndToEnd.exEnv {} {} EndToEnd.noPlist (file.take 600) =
      (["1 launchd(42)                       Process exit name: x",
        "2 launchd(42)                       New thread 9 of parent: 50",
        "3 (50)                              Process exit name: y"], some .structError) ∧
    EndToEnd.formattedTraces EndToEnd.exEnv {} {} EndToEnd.noPlist (file.take 354) = ([], none) ∧
    EndToEnd.formattedTraces EndToEnd.exEnv {} {} EndToEnd.noPlist (file.take 300) = ([], some .streamError) ∧
    printWithCount (EndToEnd.formattedTraces EndToEnd.exEnv {} {} EndToEnd.noPlist (file.take 600)).1 2 =
      ["1 launchd(42)                       Process exit name: x",
       "2 launchd(42)                       New thread 9 of parent: 50"] := by
  decide +kernel

/-- a process filter and a class filter on the same dump, cut and whole. -/
example :
    let file := Spec.encodeV2 EndToEnd.exFile
    let obj : TracePipeline.Obj := { cfg := { filterProcess := some "50", filterClass := [7] } }
    (EndToEnd.formattedTraces EndToEnd.exEnv obj { process := false } EndToEnd.noPlist file).1 =
      ["3 Process exit name: y", "5 Process exit name: z"] ∧
    (EndToEnd.formattedTraces EndToEnd.exEnv obj { process := false } EndToEnd.noPlist (file.take 560)).1 = ["3 Process exit name: y"] := by
  decide +kernel

/-! ### Translation tie: the loops whose termination and prefix behaviour C06 is about

  (`tools/gen_pyir_rd.py` → `Gen/PyIRRd.lean`, IR and interpreter `Model/PyIRRd`; see `Props/C02`.)  The interpreter gives
  every `while` loop `unread bytes + 2` iterations; `parse_is_interpreted_source` + `never_hangs` say that the translated
  loops never use them up. -/

/-- **The translated source is the program the refinement lemmas were proved for.** -/
theorem source_is_expected_ir : Gen.PyIRRd.prog = PyIRRd.Expected.prog ∧ Gen.PyIRRd.notes = [] := ⟨rfl, rfl⟩

/-- **The subject of every C06 theorem is the interpreted source**: `parse plist fromKdBuf prior data` — for EVERY byte
    string, truncated or not — is the translated `parse` / `parse_v2` / `parse_v3` (whole) /
    `seek_until` / `set_thread_map` run by the interpreter. -/
theorem parse_is_interpreted_source (plist : Bytes → Option PView) (prior : PState) (data : Bytes) :
    parse plist fromKdBuf prior data = PyIRRd.parseVia Gen.PyIRRd.prog plist fromKdBuf prior data :=
  PyIRRd.parse_eq_parseVia_gen source_is_expected_ir plist prior data

/-- … hence the interpreted source terminates on every byte string (no loop runs out of its fuel), -/
theorem interpreted_source_never_hangs (plist : Bytes → Option PView) (prior : PState) (data : Bytes) :
    (PyIRRd.parseVia Gen.PyIRRd.prog plist fromKdBuf prior data).err ≠ some .hang := by
  rw [← parse_is_interpreted_source]; exact never_hangs plist prior data

/-- … and its events for a cut dump are a prefix of its events for the whole dump. -/
theorem interpreted_source_truncation_prefix (plist : Bytes → Option PView) (prior prior' : PState) (f : Bytes) (k : Nat) :
    (PyIRRd.parseVia Gen.PyIRRd.prog plist fromKdBuf prior' (f.take k)).events <+:
      (PyIRRd.parseVia Gen.PyIRRd.prog plist fromKdBuf prior f).events := by
  rw [← parse_is_interpreted_source, ← parse_is_interpreted_source]; exact truncation_prefix plist prior prior' f k

/-- **`seek_until`, interpreted, ends in `EOFError` at end of file** (the loop without the exit does not:
    `seekUntil_fuel_hang_old`). -/
theorem seek_until_ir_eof (tag : Bytes) (ht : tag ≠ []) (r : Reader) (hr : r.rest = []) :
    ∃ r1, PyIRRd.runSeek Gen.PyIRRd.prog.seekUntil tag r = (.error .eof, r1) := by
  rw [source_is_expected_ir.1]
  show ∃ r1, PyIRRd.runSeek PyIRRd.Expected.seekUntil tag r = (.error .eof, r1)
  rw [PyIRRd.runSeek_expected]; exact seekUntil_nil_fails tag ht r hr

end KdVerif.C06

/-! ### Translation tie: `print_with_count` itself

  (`tools/gen_pyir_cli.py` → `Gen/PyIRCli.lean`, IR and interpreter `Model/PyIRCli`, expected term `Spec/PyIRCliExpected`.)
  `count_prefix` / `e2e_count_prefix` speak about the hand model `printWithCount`; here the loop of `__main__.py` —
  `i = 0; for obj in generator: if i == count: break; print(obj); i += 1` — is translated from the source text on every run
  and interpreted: a generator is the items it will deliver and the exception it ends with, if any (one `next()` per round of
  the loop).  The loop asks for item number `count` BEFORE it compares: an exception the generator raises while producing
  that item surfaces although `count` lines have been printed; once the item is there the loop breaks and the generator is
  never asked again. -/
namespace KdVerif.C06
open KdVerif.PyIRCli

/-- **The translated loop is the term the theorems below were proved for**, and the translator met nothing outside the
    subset in `print_with_count`. -/
theorem cli_source_is_expected_ir :
    Gen.PyIRCli.printWithCount = PyIRCli.Expected.printWithCount ∧ Gen.PyIRCli.pwcNotes = [] := ⟨rfl, rfl⟩

/-- **`print_with_count` of the source, interpreted, is the hand model** — for every list of items, every way the
    generator ends and every integer `count`: it prints exactly `printWithCount items count`, and the generator's exception
    leaves the call unless the loop broke, i.e. unless `0 ≤ count < number of items` (item number `count` was pulled, the
    loop broke on it, nothing was asked of the generator afterwards). -/
theorem print_with_count_ir_eq_model {α : Type} (items : List α) (err : Option PyErr) (count : Int) :
    runPwc Gen.PyIRCli.printWithCount (items, err) count =
      (printWithCount items count, if 0 ≤ count ∧ count < items.length then none else err) := by
  rw [cli_source_is_expected_ir.1]; exact runPwc_expected items err count

/-- `count = -1` (the default of `-c`; any negative `count`): everything the generator delivers is printed, and its
    exception — if it ends with one — surfaces. -/
theorem print_with_count_ir_negative {α : Type} (items : List α) (err : Option PyErr) (count : Int) (h : count < 0) :
    runPwc Gen.PyIRCli.printWithCount (items, err) count = (items, err) := by
  rw [print_with_count_ir_eq_model, (count_prefix items count).2.1 h]
  have : ¬ (0 ≤ count ∧ count < (items.length : Int)) := by omega
  simp only [this, if_false]

/-- … in particular for the default. -/
theorem print_with_count_ir_all {α : Type} (items : List α) (err : Option PyErr) :
    runPwc Gen.PyIRCli.printWithCount (items, err) (-1) = (items, err) :=
  print_with_count_ir_negative items err (-1) (by omega)

/-- `0 ≤ count`: the first `count` items are printed; the generator's exception surfaces exactly when it has no item
    number `count` to deliver (`items.length ≤ count`: the loop ran into the end). -/
theorem print_with_count_ir_take {α : Type} (items : List α) (err : Option PyErr) (count : Int) (h : 0 ≤ count) :
    runPwc Gen.PyIRCli.printWithCount (items, err) count =
      (items.take count.toNat, if count < items.length then none else err) := by
  rw [print_with_count_ir_eq_model, (count_prefix items count).1 h]
  simp only [h, true_and]

/-- **An exception raised while producing item number `count` surfaces although `count` items were printed**: the loop
    pulls before it compares. -/
theorem print_with_count_ir_raise_at_count {α : Type} (items : List α) (e : PyErr) :
    runPwc Gen.PyIRCli.printWithCount (items, some e) items.length = (items, some e) := by
  rw [print_with_count_ir_take items (some e) items.length (by omega)]
  simp

/-- … and one item later it does not: the loop broke on item number `count` and never asked again. -/
theorem print_with_count_ir_no_raise_behind_count {α : Type} (items : List α) (x : α) (rest : List α) (e : PyErr) :
    runPwc Gen.PyIRCli.printWithCount (items ++ x :: rest, some e) items.length = (items, none) := by
  rw [print_with_count_ir_take (items ++ x :: rest) (some e) items.length (by omega)]
  simp
  omega

example : runPwc Gen.PyIRCli.printWithCount ([10, 20, 30], some .eof) 2 = ([10, 20], none) := by decide
example : runPwc Gen.PyIRCli.printWithCount ([10, 20, 30], some .eof) 3 = ([10, 20, 30], some .eof) := by decide
example : runPwc Gen.PyIRCli.printWithCount ([10, 20, 30], some .eof) 0 = ([], none) := by decide
example : runPwc Gen.PyIRCli.printWithCount (([] : List Nat), some .eof) 0 = ([], some .eof) := by decide
example : runPwc Gen.PyIRCli.printWithCount ([10, 20, 30], some .eof) (-1) = ([10, 20, 30], some .eof) := by decide
example : runPwc Gen.PyIRCli.printWithCount ([10, 20, 30], none) 7 = ([10, 20, 30], none) := by decide

end KdVerif.C06
