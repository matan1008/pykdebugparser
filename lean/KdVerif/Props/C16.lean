import KdVerif.Gen.OsLog
import KdVerif.Spec.Firehose
import KdVerif.Spec.OsLogFormat
import KdVerif.Proofs.OsLog
import KdVerif.Proofs.TraceId
import KdVerif.Proofs.OsLogShape
import KdVerif.Proofs.PyIROl
import KdVerif.Gen.PyIROl
/-
  C16 — log records decode for every combination of optional fields; the trace-identifier word
  decodes as the exact inverse of its bit packing.

  Subject: `fromRawLogEvent Gen.OsLog.tables` — the chain interpreter of `Model/OsLog.lean`
  instantiated with the ordered key chain (AST of `OsLogEvent.from_raw_log_event`), the dataclass
  fields with their defaults, the enum classes, `tracepoint_types` / `tracepoint_flags` and the
  construct layout of `firehose_tracepoint_id`, all regenerated from the source on every run
  (`Gen/OsLog.lean`).  A key mapped to a non-field, an optional key made mandatory, a changed bit
  layout or namespace dictionary changes these theorems' subject and they are re-checked.

  PARTIAL (timestamp): `unix_date` is modelled as the exact instant `sec + usec/10^6`; the
  implementation computes it in binary floating point and `datetime.fromtimestamp` rounds
  half-even to microseconds.  Full statement: "the decoded `unix_date` is the UTC instant
  `sec + usec/10^6` for every `sec`, `usec`".  Proved here: the *model's* instant is exact for
  `0 ≤ sec < 2^32`, `0 ≤ usec < 10^6` (`timestamp_exact_partial`); that the implementation's
  float computation agrees on that range is CHECKED by the correspondence sections `timestamp`
  and `event-subsets`, not proved (beyond 2^33 s it is false: off by one microsecond).

  KNOWN FINDING K4: for namespace `trace` the source registers the non-flag `Enum`
  `FirehoseTracepointSingpostFlags` as the flags class, so a flags byte of 0 or any combination
  raises `ValueError`; `inDomain` therefore admits only the six single-member values for that
  namespace (`k4_domain`), with `decide`d negative witnesses `k4_witness_zero/_combination`.
-/
namespace KdVerif.C16
open KdVerif.OsLog KdVerif.Spec.OsLogFormat KdVerif.Spec.Firehose
open KdVerif.Gen.OsLog (tables chain fields idTables)

/-- Every key of the chain is mapped to a field the record type has
    (fails for `'tai'` → `transition_activity_identifier` when the dataclass lacks that field). -/
theorem keys_have_fields : ∀ e ∈ chain, ∃ f ∈ fields, f.name = e.field := by decide +kernel

/-- The chain the source implements is the format's key table: the same 10 mandatory and 31 optional
    keys (in any order), each feeding the field the format prescribes, mandatory exactly where the format
    says (fails when an optional key is made mandatory, a key is dropped or fed to another field). -/
theorem chain_is_format :
    (∀ x ∈ chain.map (fun e => (e.key, e.field, e.required)), x ∈ Spec.OsLogFormat.keys) ∧
    (∀ x ∈ Spec.OsLogFormat.keys, x ∈ chain.map (fun e => (e.key, e.field, e.required))) ∧
    chain.length = 41 ∧ (chain.filter (fun e => !e.required)).length = 31 := by decide +kernel

/-- The translator understood every right-hand side of the chain. -/
theorem chain_supported : ∀ e ∈ chain, e.tr.supported = true := by decide +kernel

/-- The side conditions of the chain induction: distinct keys, distinct target fields, targets are
    fields, fields without default are fed by mandatory keys, the function ends in the constructor call. -/
theorem tables_ok : TablesOk tables :=
  ⟨rfl, by decide +kernel, by decide +kernel, keys_have_fields, by decide +kernel⟩

/-- For **every** raw event that has the mandatory keys and whose present keys carry well-shaped values
    (string indices inside the string table, …) — that is, for every subset of the 31 optional keys and all
    such values, whatever other keys the event has — decoding succeeds; the record has exactly the dataclass
    fields in order; each present key's field is the transform of its value; each absent key's field keeps
    its default.  Induction over the chain, independent of the size of the subset. -/
theorem decode_subset (S : Strings) (ev : Dict) (h : eventShaped tables S ev = true) :
    ∃ rec, fromRawLogEvent tables S ev = .ok rec ∧
      rec.map (·.1) = fields.map (·.name) ∧
      (∀ e ∈ chain, ∀ v, ev.lookup e.key = some v →
          ∃ r, applyTransform idTables S e.tr v = .ok r ∧ rec.lookup e.field = some r) ∧
      (∀ e ∈ chain, ev.lookup e.key = none →
          ∃ f ∈ fields, f.name = e.field ∧ f.default.isSome = true ∧ rec.lookup e.field = f.default) := by
  have hall : ∀ e ∈ tables.chain, entryShaped tables S ev e = true := by
    simpa [eventShaped, List.all_eq_true] using h
  refine fromRaw_spec tables tables_ok S ev fun e he => ?_
  have := hall e he
  unfold entryShaped at this
  cases hl : ev.lookup e.key with
  | none => simpa [hl] using this
  | some v =>
    rw [hl] at this
    exact transform_ok S e.tr v this

/-- The same, quantified explicitly over the subsets: for every sublist `sub` of the chain that contains
    the mandatory entries (2^31 of them) and every assignment of well-shaped values to its keys, the event
    with exactly those keys decodes; entries of `sub` give the transform of their value, all other entries
    their default. -/
theorem decode_every_subset (S : Strings) (sub : List Entry) (hsub : sub.Sublist chain)
    (hmand : ∀ e ∈ chain, e.required = true → e ∈ sub) (val : Entry → PVal)
    (hval : ∀ e ∈ sub, Shaped idTables S e.tr (val e) = true) :
    ∃ rec, fromRawLogEvent tables S (sub.map fun e => (e.key, val e)) = .ok rec ∧
      rec.map (·.1) = fields.map (·.name) ∧
      (∀ e ∈ sub, ∃ r, applyTransform idTables S e.tr (val e) = .ok r ∧ rec.lookup e.field = some r) ∧
      (∀ e ∈ chain, e ∉ sub →
          ∃ f ∈ fields, f.name = e.field ∧ f.default.isSome = true ∧ rec.lookup e.field = f.default) := by
  have hnd : (chain.map (·.key)).Nodup := tables_ok.keysNodup
  have hndsub : (sub.map (·.key)).Nodup := (hsub.map _).nodup hnd
  have hin : ∀ e ∈ sub, (sub.map fun e => (e.key, val e)).lookup e.key = some (val e) :=
    fun e he => lookup_map_of_nodup val hndsub he
  have hout : ∀ e ∈ chain, e ∉ sub → (sub.map fun e => (e.key, val e)).lookup e.key = none := by
    intro e he hns
    rw [List.lookup_eq_none_iff]
    intro p hp
    obtain ⟨e', he', rfl⟩ := List.mem_map.mp hp
    rw [bne_iff_ne]
    exact fun hke => hns (eq_of_nodup_map hnd (hsub.subset he') he hke.symm ▸ he')
  have hshape : eventShaped tables S (sub.map fun e => (e.key, val e)) = true := by
    simp only [eventShaped, List.all_eq_true]
    intro e he
    unfold entryShaped
    by_cases hs : e ∈ sub
    · rw [hin e hs]; exact hval e hs
    · rw [hout e he hs]
      cases hr : e.required with
      | false => rfl
      | true => exact absurd (hmand e he hr) hs
  obtain ⟨rec, hrec, hnames, hpres, habs⟩ := decode_subset S _ hshape
  refine ⟨rec, hrec, hnames, ?_, ?_⟩
  · intro e he
    exact hpres e (hsub.subset he) _ (hin e he)
  · intro e he hns
    exact habs e he (hout e he hns)

/-- Keys the format does not define are ignored: two events that agree on the 41 keys of the chain
    decode alike (to the same record or the same error). -/
theorem unknown_keys_ignored (S : Strings) (ev ev' : Dict)
    (h : ∀ e ∈ chain, ev.lookup e.key = ev'.lookup e.key) :
    fromRawLogEvent tables S ev = fromRawLogEvent tables S ev' :=
  fromRaw_congr tables S ev ev' tables_ok.keysNodup h

/-- The mandatory keys are mandatory: an event that lacks one is rejected (with `KeyError` unless an earlier
    entry already failed — the correspondence checks the kind). -/
theorem missing_mandatory_rejected (S : Strings) (ev : Dict) (e : Entry) (he : e ∈ chain)
    (hr : e.required = true) (h : ev.lookup e.key = none) :
    ∃ err, fromRawLogEvent tables S ev = .error err := by
  obtain ⟨err, herr⟩ := runChain_missing idTables S e hr chain ev [] he h
  exact ⟨err, by simp only [fromRawLogEvent]; rw [show tables.id = idTables from rfl,
    show tables.chain = chain from rfl, herr]⟩

theorem field_plain (S : Strings) (v : PVal) : applyTransform idTables S .plain v = .ok v := rfl

/-- Strings go through the string index. -/
theorem field_string (S : Strings) (n : Int) (s : String) (h : S.lookup n = some s) :
    applyTransform idTables S .strIndex (.int n) = .ok (.str s) := by
  simp [applyTransform, strIndex, numOf, h]

/-- PARTIAL (see the header): the model's `unix_date` is the exact UTC instant. -/
theorem timestamp_exact_partial (S : Strings) (d : Dict) (s u : Int)
    (hs : d.lookup "sec" = some (.int s)) (hu : d.lookup "usec" = some (.int u))
    (hs0 : 0 ≤ s) (hs1 : s < 2 ^ 32) (hu0 : 0 ≤ u) (hu1 : u < 1000000) :
    applyTransform idTables S (.timestamp "sec" "usec") (.dict d) = .ok (.datetime s u.toNat) :=
  timestamp_exact hs hu hs0 hs1 hu0 hu1

/-- Sub-dictionaries are re-keyed member by member (`utz`, `lsutz`, `leutz`, `lc`). -/
theorem field_dict (S : Strings) (pairs : List (String × String)) (d : Dict)
    (h : hasKeys (pairs.map (·.2)) (.dict d) = true) :
    applyTransform idTables S (.dictShape pairs) (.dict d) =
      .ok (.dict (pairs.map fun p => (p.1, (d.lookup p.2).getD PVal.none))) := by
  obtain ⟨d', hd', h'⟩ := dictShape_ok (pairs := pairs) h
  cases hd'
  exact h'

/-- Message segments map one-to-one and in order: when the placeholder count is non-zero the decoded
    message has a `segments` list with one entry per raw segment, the i-th being the decoding of the i-th. -/
theorem segments_in_order (S : Strings) (dm r pc : PVal) (h : parseDecomposed S dm = .ok r)
    (hpc : subscr dm "pc" = .ok pc) (ht : truthy pc = true) :
    ∃ st sg segs outs, subscr dm "s" = .ok st ∧ subscr dm "seg" = .ok sg ∧ iter sg = .ok segs ∧
      r = .dict [("placeholder_count", pc), ("state", st), ("segments", .list outs)] ∧
      outs.length = segs.length ∧
      ∀ (i : Nat) (h1 : i < segs.length) (h2 : i < outs.length), parseSegment S segs[i] = .ok outs[i] :=
  parseDecomposed_segments h hpc ht

/-- A zero placeholder count yields just the count and the state; the segments are not read. -/
theorem no_placeholders (S : Strings) (d : Dict) (pc st : PVal) (h1 : d.lookup "pc" = some pc)
    (h2 : d.lookup "s" = some st) (ht : truthy pc = false) :
    parseDecomposed S (.dict d) = .ok (.dict [("placeholder_count", pc), ("state", st)]) := by
  simp [parseDecomposed, subscr, h1, h2, ht]

/-- A segment with any subset of `lp` / `p` / `a`, a placeholder with any subset of `rs` / `t` / `tn` / `ty`,
    an argument with any subset of `a` / `p` / `c` / `sc` / `st` / `or` decodes (indices inside the table). -/
theorem segment_total (S : Strings) (seg : PVal) (h : segmentShaped S seg = true) :
    ∃ r, parseSegment S seg = .ok r := parseSegment_ok h

/-- `parse_trace_identifier` is the exact inverse of the bit packing: for every identifier `t` of the
    enum-defined domain (defined namespace; type in the namespace's class, or any byte when it has none or
    an `IntFlag`; pc style 0..7; the three booleans; flags per the namespace's rule — which, by K4, admits
    only single members for namespace `trace`; code < 2^32), decoding `packId t` succeeds and gives back
    every field of `t` (`flags` is `None` for namespaces without a flags class). -/
theorem traceid_inverse (t : Id) (h : inDomain idTables t = true) :
    ∃ d, decodeId idTables (packId t) = .ok d ∧
      d.ns.num = some t.ns ∧ d.type_.num = some t.type_ ∧ d.hasLargeOffset = t.hasLargeOffset ∧
      d.hasUniquePid = t.hasUniquePid ∧ d.pcStyle.num = some t.pcStyle ∧ d.hasCurrentAid = t.hasCurrentAid ∧
      d.flags.num = (if (idTables.flags.lookup (t.ns : Int)).isSome then some t.flags else none) ∧
      d.code = t.code := by
  obtain ⟨hlt, hu⟩ := unpackId_packId t h
  have := decodeId_unpack (packId t) hlt (by rw [hu]; exact h)
  rwa [hu] at this

theorem traceid_total (t : Id) (h : inDomain idTables t = true) : ∃ d, decodeId idTables (packId t) = .ok d := by
  obtain ⟨d, hd, _⟩ := traceid_inverse t h
  exact ⟨d, hd⟩

/-- Conversely every 64-bit word whose fields lie in the domain decodes to those fields, whatever its two
    padding bits (so `packId (unpackId w)` and `w` decode alike). -/
theorem traceid_word (w : Nat) (hw : w < 2 ^ 64) (h : inDomain idTables (unpackId w) = true) :
    ∃ d, decodeId idTables w = .ok d ∧
      d.ns.num = some (unpackId w).ns ∧ d.type_.num = some (unpackId w).type_ ∧
      d.hasLargeOffset = (unpackId w).hasLargeOffset ∧ d.hasUniquePid = (unpackId w).hasUniquePid ∧
      d.pcStyle.num = some (unpackId w).pcStyle ∧ d.hasCurrentAid = (unpackId w).hasCurrentAid ∧
      d.flags.num = (if (idTables.flags.lookup ((unpackId w).ns : Int)).isSome
                     then some (unpackId w).flags else none) ∧
      d.code = (unpackId w).code :=
  decodeId_unpack w hw h

/-- Enum members in the decoded identifier are the declared members of the class with that value
    (names are looked up, not guessed). -/
theorem traceid_names (r : EnumRef) (x : Nat) (c n : String) (v : Int)
    (h : enumCall r x = .ok (.member c n v)) :
    c = r.cls.name ∧ (⟨n, v⟩ : EnumMember) ∈ r.cls.members ∧ v = x :=
  enumCall_member h

/-- Words that do not fit 64 bits are rejected. -/
theorem traceid_rejects_wide (w : Nat) (h : 2 ^ 64 ≤ w) : decodeId idTables w = .error .streamError := by
  have : ¬ w < 256 ^ 8 := by
    have : (256 : Nat) ^ 8 = 2 ^ 64 := by decide
    omega
  simp [decodeId, show idTables.wordSize = 8 from rfl, this]

/-- The defect K4 is present in the translated tables: the flags class registered for namespace
    `trace` (3) is a plain `Enum`.  (The K4 statements below are conditional on it, so that repairing the
    source — registering an `IntFlag` — does not break this file.) -/
def k4Present (T : IdTables) : Bool :=
  match T.flags.lookup 3 with
  | some r => r.kind == .plain
  | none => false

/-- K4: while the defect is present, for namespace `trace` the domain admits only single-bit flag values —
    neither 0 nor any combination of flags, which a flags byte is meant to hold. -/
theorem k4_domain : k4Present idTables = true →
    ∀ fl < 256, byteRule idTables.flags 3 fl = true → fl ≠ 0 ∧ fl &&& (fl - 1) = 0 := by
  decide +kernel

/-- K4 negative witnesses: namespace `trace`, type `default`, flags 0 / flags 3 — every other field in range — raise. -/
theorem k4_witness_zero : k4Present idTables = true →
    decodeId idTables (packId { ns := 3, type_ := 0, hasLargeOffset := false, hasUniquePid := false, pcStyle := 0,
                                 hasCurrentAid := false, flags := 0, code := 7 }) = .error .valueError := by
  decide +kernel

theorem k4_witness_combination : k4Present idTables = true →
    decodeId idTables (packId { ns := 3, type_ := 0, hasLargeOffset := false, hasUniquePid := true, pcStyle := 2,
                                 hasCurrentAid := true, flags := 3, code := 7 }) = .error .valueError := by
  decide +kernel

def exStrings : Strings := [(5, "kernel"), (9, "hello %d"), (12, "com.apple.x")]

/-- mandatory keys + `pip`, `lt`, `tai`, `bt`, `dm`, `ti` and an unknown key -/
def exEvent : Dict :=
  [("cm", .int 9), ("t", .str "Log"), ("s", .str "default"), ("tid", .int 77), ("ns", .int 1000), ("mct", .int 2000),
   ("b", .bytes [1, 2]), ("piu", .bytes [3]), ("ud", .dict [("sec", .int 1700000000), ("usec", .int 250000)]),
   ("utz", .dict [("mw", .int (-120)), ("dt", .int 1)]),
   ("pip", .int 5), ("lt", .int 16), ("tai", .int 42), ("zzz", .int 1),
   ("bt", .list [.dict [("iu", .bytes [9]), ("io", .int 4096)]]),
   ("dm", .dict [("pc", .int 1), ("s", .int 0),
      ("seg", .list [.dict [("lp", .int 5), ("p", .dict [("t", .list [.int 12]), ("w", .int 0), ("p", .int 0)]),
                            ("a", .dict [("c", .int 2), ("or", .int 9)])]])]),
   ("ti", .int 0x0000002a_1f350104)]

example : eventShaped tables exStrings exEvent = true := by decide +kernel

example : ∃ rec, fromRawLogEvent tables exStrings exEvent = .ok rec ∧
    rec.lookup "process_image_path" = some (.str "kernel") ∧
    rec.lookup "log_type" = some (.enum "OsLogType" "ERROR") ∧
    rec.lookup "transition_activity_identifier" = some (.int 42) ∧
    rec.lookup "unix_date" = some (.datetime 1700000000 250000) ∧
    rec.lookup "sender" = some (.str "") ∧ rec.lookup "backtrace" =
      some (.list [.dict [("image_uuid", .bytes [9]), ("image_offset", .int 4096)]]) :=
  ⟨_, rfl, rfl, rfl, rfl, rfl, rfl, rfl⟩

/-- `decode_every_subset` is not vacuous: the mandatory entries plus `pip` form an admissible subset with
    well-shaped values. -/
def exVal (e : Entry) : PVal :=
  if e.key == "cm" then .int 9 else if e.key == "pip" then .int 5
  else if e.key == "ud" then .dict [("sec", .int 4294967295), ("usec", .int 999999)]
  else if e.key == "utz" then .dict [("mw", .int 0), ("dt", .int 0)] else .str "x"

example : (chain.filter fun e => e.required || e.key == "pip").Sublist chain := List.filter_sublist

example : ∀ e ∈ chain.filter (fun e => e.required || e.key == "pip"),
    Shaped idTables exStrings e.tr (exVal e) = true := by decide +kernel

/-- log namespace, type error, all base flags, pc style 2, flags 0x1f, code 42 is in the domain and round-trips -/
example : inDomain idTables { ns := 4, type_ := 0x10, hasLargeOffset := true, hasUniquePid := true, pcStyle := 2,
                              hasCurrentAid := true, flags := 0x1f, code := 42 } = true := by decide +kernel

example : packId { ns := 4, type_ := 0x10, hasLargeOffset := true, hasUniquePid := true, pcStyle := 2,
                   hasCurrentAid := true, flags := 0x1f, code := 42 } = 0x0000002a_1f351004 := by decide +kernel

example : decodeId idTables 0x0000002a_1f351004 =
    .ok { ns := .member "FirehoseTracepointNamespace" "log" 4, type_ := .member "FirehoseTracepointLogType" "error" 16,
          hasLargeOffset := true, hasUniquePid := true, pcStyle := .member "FirehoseTracepointFlagsPcStyle" "shared_cache" 2,
          hasCurrentAid := true, flags := .flags "FirehoseTracepointLogFlags" 31, code := 42 } := by decide +kernel

/-- the trace namespace with a single-member flags value is in the domain (K4 excludes only the others) -/
example : inDomain idTables { ns := 3, type_ := 0x11, hasLargeOffset := false, hasUniquePid := false, pcStyle := 7,
                              hasCurrentAid := false, flags := 0x80, code := 0 } = true := by decide +kernel

example : segmentShaped exStrings (.dict [("lp", .int 5), ("a", .dict [("a", .int 3), ("p", .int 1)])]) = true := by
  decide +kernel

/-! ### translation tie: the hand-written control logic IS the interpreted source

  `tools/gen_pyir_ol.py` translates the SOURCE TEXT of `OsLogEvent.parse_trace_identifier`, `parse_decomposed` and
  `parse_decomposed_segment` (and of the dataclass `TraceIdentifier`) into the Python-subset IR of `Model/PyIROl` on every
  run (`Gen/PyIROl.lean`).  `PyIROl.run` is a big-step interpreter over the model's own `PVal` with the model's dict /
  `in` / subscript / truthiness protocol; a call `cls.parse_decomposed_segment(seg, log_strings)` is answered by
  interpreting the translated callee.  Primitives (not translated, meaning taken from the reflected tables of
  `Gen/OsLog`): the construct parse `firehose_tracepoint_id.parse(Int64ul.build(x))` (`toLE` + `parseLayout` over the
  reflected layout), `EnumClass(x)` (`enumCall` on the reflected class), the contents of the module-level dicts
  `tracepoint_types` / `tracepoint_flags` (reflected; `module_dicts_as_written` ties them to the dict displays).
  Everything else of the three methods — which key is optional, which is read through `log_strings`, the order of the
  reads (hence which exception a malformed value raises first), the `if … elif … else` of the type, the conditional
  `flags`, the keyword arguments of `TraceIdentifier(…)` — is read off the source text. -/

/-- **The translated source is the program the refinement lemmas were proved for** (`Spec/PyIROlExpected`, quoting the
    Python), and the translator met nothing outside the IR's subset.  A change of any of the three methods that is not a
    mere restyling (renamed locals, `not x in y`, an inlined alias of `segment['p']`, …) makes this false. -/
theorem source_is_expected_ir : Gen.PyIROl.prog = PyIROl.Expected.prog ∧ Gen.PyIROl.notes = [] := by decide +kernel

/-- The reflected tables meet the side conditions of `parse_trace_identifier_ir_eq_model` (`PyIROl.Coherent`): the enum
    classes the source names are the reflected ones, the namespace class is a plain `Enum` with a member `signpost` whose
    value is the reflected one, the signpost type class is a flag class, the reflected construct layout yields the leaves
    the method reads (`Flag`s exactly for the three booleans) and `trace_flags` is a nested struct. -/
theorem id_tables_coherent : PyIROl.Coherent idTables := by decide +kernel

/-- the reflected dict under a module-level name, as (key value, name of the value class) -/
def reflectedDict (T : IdTables) (name : String) : Option (List (Int × String)) :=
  (PyIROl.tableOf T name).map fun l => l.map fun p => (p.1, p.2.cls.name)

/-- a dict display as written (key class, key member, value class), its keys resolved in the reflected namespace class -/
def writtenDict (T : IdTables) (ents : List (String × String × String)) : Option (List (Int × String)) :=
  ents.mapM fun e =>
    if e.1 == T.nsEnum.cls.name then (T.nsEnum.cls.members.find? (·.name == e.2.1)).map fun m => (m.value, e.2.2)
    else none

/-- **The module-level dicts the interpreter reads by reflection are the dict displays of the source text**: the same
    keys in the same order, each with the class the display names. -/
theorem module_dicts_as_written :
    Gen.PyIROl.tables.map (·.1) = ["tracepoint_types", "tracepoint_flags"] ∧
    ∀ p ∈ Gen.PyIROl.tables, reflectedDict idTables p.1 = writtenDict idTables p.2 := by decide +kernel

section ir
open PyIROl (Val run)

/-- **`parse_decomposed_segment`, interpreted, is `parseSegment`**: for EVERY value `seg` (a dict with any subset of
    `lp` / `p` / `a`, a list, a string, a number, …) and every string table, the generated method run by the interpreter
    gives what the hand model gives — the same decoded segment or the same exception (`KeyError` for a missing `w` / `p`
    or an index outside the table, `TypeError` for a non-dict where a dict is subscripted or an unhashable index, …),
    raised at the same point of the evaluation order.  No hypothesis: the hand model and the interpreted source agree on
    malformed input too. -/
theorem parse_decomposed_segment_ir_eq_model (T : IdTables) (S : Strings) (seg : PVal) :
    run T S Gen.PyIROl.prog "parse_decomposed_segment" [.pv seg, .table] = parseSegment S seg := by
  rw [source_is_expected_ir.1]; exact PyIROl.run_segment T S seg

/-- **`parse_decomposed`, interpreted, is `parseDecomposed`**: for every value `dm` and every string table — the call
    `cls.parse_decomposed_segment(seg, log_strings)` of the comprehension answered by interpreting the generated callee. -/
theorem parse_decomposed_ir_eq_model (T : IdTables) (S : Strings) (dm : PVal) :
    run T S Gen.PyIROl.prog "parse_decomposed" [.pv dm, .table] = parseDecomposed S dm := by
  rw [source_is_expected_ir.1]; exact PyIROl.run_decomposed T S dm

/-- **`parse_trace_identifier`, interpreted, is `parseTraceIdentifier`**: for every value `v` (any integer, negative or
    wider than 64 bits, or a non-number) the generated method run by the interpreter on the reflected tables gives what
    the hand model gives — the same `TraceIdentifier` or the same exception (`StreamError` from the construct build /
    parse, `ValueError` from an enum call — K4 included).  The namespace lookup, the `if … in tracepoint_types … elif …
    signpost … else`, the conditional `flags` and the constructor's keywords come from the source text. -/
theorem parse_trace_identifier_ir_eq_model (S : Strings) (v : PVal) :
    run idTables S Gen.PyIROl.prog "parse_trace_identifier" [.pv v] = parseTraceIdentifier idTables v := by
  rw [source_is_expected_ir.1]; exact PyIROl.run_traceId S id_tables_coherent v

/-- The same for ANY tables that meet `PyIROl.Coherent` (what the proof uses of the reflected tables is exactly that). -/
theorem parse_trace_identifier_ir_eq_model_of_coherent (T : IdTables) (hT : PyIROl.Coherent T) (S : Strings) (v : PVal) :
    run T S Gen.PyIROl.prog "parse_trace_identifier" [.pv v] = parseTraceIdentifier T v := by
  rw [source_is_expected_ir.1]; exact PyIROl.run_traceId S hT v

/-- **The subject of `segments_in_order` / `segment_total` / `traceid_inverse` is the interpreted source**: the
    `decomposed` and `traceId` transforms of the key chain, which `decode_subset` applies, are the generated methods. -/
theorem transforms_rest_on_ir (S : Strings) (v : PVal) :
    applyTransform idTables S .decomposed v = run idTables S Gen.PyIROl.prog "parse_decomposed" [.pv v, .table] ∧
    applyTransform idTables S .traceId v = run idTables S Gen.PyIROl.prog "parse_trace_identifier" [.pv v] :=
  ⟨(parse_decomposed_ir_eq_model idTables S v).symm, (parse_trace_identifier_ir_eq_model S v).symm⟩

end ir

/-- the decomposed message of `exEvent` through the generated `parse_decomposed` (which calls the generated
    `parse_decomposed_segment`): literal prefix and object representation through the string table, tokens looked up one
    by one, width / precision copied -/
example :
    PyIROl.run idTables exStrings Gen.PyIROl.prog "parse_decomposed"
      [.pv (.dict [("pc", .int 1), ("s", .int 0),
        ("seg", .list [.dict [("lp", .int 5), ("p", .dict [("t", .list [.int 12]), ("w", .int 0), ("p", .int 0)]),
                              ("a", .dict [("c", .int 2), ("or", .int 9)])]])]), .table] =
    .ok (.dict [("placeholder_count", .int 1), ("state", .int 0),
      ("segments", .list [.dict [("literal_prefix", .str "kernel"),
         ("placeholder", .dict [("tokens", .list [.str "com.apple.x"]), ("width", .int 0), ("precision", .int 0)]),
         ("arg", .dict [("category", .int 2), ("object_representation", .str "hello %d")])]])]) := rfl

/-- malformed segments through the generated `parse_decomposed_segment`: a placeholder without `p` raises KeyError, the
    list `['p']` passes `'p' in segment` and then raises TypeError at `segment['p']`, a scalar argument of category 1
    keeps `sc`, and availability 1 suppresses the object representation -/
example :
    PyIROl.run idTables exStrings Gen.PyIROl.prog "parse_decomposed_segment"
      [.pv (.dict [("p", .dict [("w", .int 1)])]), .table] = .error .keyError ∧
    PyIROl.run idTables exStrings Gen.PyIROl.prog "parse_decomposed_segment"
      [.pv (.list [.str "p"]), .table] = .error .typeError ∧
    PyIROl.run idTables exStrings Gen.PyIROl.prog "parse_decomposed_segment"
      [.pv (.dict [("a", .dict [("a", .int 1), ("c", .int 1), ("sc", .int 4), ("or", .int 9)])]), .table] =
      .ok (.dict [("arg", .dict [("availability", .int 1), ("category", .int 1), ("scalar_category", .int 4)])]) :=
  ⟨rfl, rfl, rfl⟩

/-- the generated `parse_trace_identifier` on the word of the non-vacuity example above, on a K4 word (namespace
    `trace`, flags 0) and on a word that does not fit 64 bits -/
example :
    PyIROl.run idTables [] Gen.PyIROl.prog "parse_trace_identifier" [.pv (.int 0x0000002a_1f351004)] =
      .ok (.obj "TraceIdentifier"
        [("namespace", .enum "FirehoseTracepointNamespace" "log"), ("type_", .enum "FirehoseTracepointLogType" "error"),
         ("has_large_offset", .bool true), ("has_unique_pid", .bool true),
         ("pc_style", .enum "FirehoseTracepointFlagsPcStyle" "shared_cache"), ("has_current_aid", .bool true),
         ("flags", .flag "FirehoseTracepointLogFlags" 31), ("code", .int 42)]) ∧
    PyIROl.run idTables [] Gen.PyIROl.prog "parse_trace_identifier" [.pv (.int 0x0000000700000003)] =
      .error .valueError ∧
    PyIROl.run idTables [] Gen.PyIROl.prog "parse_trace_identifier" [.pv (.int (2 ^ 64))] = .error .streamError :=
  ⟨rfl, rfl, rfl⟩

end KdVerif.C16
