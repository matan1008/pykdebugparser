import KdVerif.Model.Kevent
import KdVerif.Gen.Consts
import KdVerif.Proofs.Bytes
/-
  C01 — every 64-byte kd_buf record decodes exactly and totally.
  `fromKdBuf` is `from_kd_buf` instantiated with the constants reflected from the
  repository (`Gen/Consts.lean`); a changed format string or mask changes these
  theorems' subject and they are re-checked.
-/
namespace KdVerif

def fromKdBuf (r : Bytes) : Except PyErr Kevent :=
  decodeWith Gen.Consts.kdBufFormat Gen.Consts.eventidMask Gen.Consts.funcMask r

/-- The specification: each output is the little-endian reading of its own byte range. -/
def specDecode (r : Bytes) : Kevent :=
  let data := (r.drop 8).take 32
  let dbg := leNat ((r.drop 48).take 4)
  { timestamp := leNat (r.take 8)
    data := data
    values := [leNat (data.take 8), leNat ((data.drop 8).take 8),
               leNat ((data.drop 16).take 8), leNat ((data.drop 24).take 8)]
    tid := leNat ((r.drop 40).take 8)
    debugid := dbg
    eventid := dbg - dbg % 4
    qual := dbg % 4 }

namespace C01

/-- The body of `from_kd_buf`, symbolically evaluated from the source on every run, is exactly the shape the
    model `decodeWith` implements: tuple positions, the two masks, the second unpack of the argument bytes,
    the constructor's argument order.  Any other statement in the function (a fast path, a conditional, a
    different position) makes this fail and triggers the failing-input search. -/
theorem source_shape_is_model_shape :
    Gen.Consts.keventShape = expectedShape Gen.Consts.eventidMask Gen.Consts.funcMask := by decide

theorem debugid_lt (r : Bytes) (hb : IsBytes r) : leNat ((r.drop 48).take 4) < 2 ^ 32 := by
  have := leNat_lt ((r.drop 48).take 4) ((hb.drop 48).take 4)
  have hl : ((r.drop 48).take 4).length ≤ 4 := by simp; omega
  calc leNat _ < 256 ^ ((r.drop 48).take 4).length := this
    _ ≤ 256 ^ 4 := Nat.pow_le_pow_right (by decide) hl
    _ = 2 ^ 32 := by decide

/-- Totality and exact field extraction, for every 64-byte record (all 2^512 of them):
    timestamp, 32 argument bytes, thread id and debug id are the record's little-endian
    fields, the four values are the words of the argument bytes, the event id is the debug id
    with its two low bits cleared and the qualifier is those two bits. -/
theorem decode_eq_spec (r : Bytes) (hlen : r.length = 64) (hb : IsBytes r) :
    fromKdBuf r = .ok (specDecode r) := by
  have h32 : ((r.drop 8).take 32).length = 32 := by simp [hlen]
  have hm := and_fffffffc _ (debugid_lt r hb)
  have hq := and_three (leNat ((r.drop 48).take 4))
  simp only [fromKdBuf, decodeWith, structUnpack, calcsize, Gen.Consts.kdBufFormat, List.map,
    FieldSpec.size, List.sum_cons, List.sum_nil, hlen, unpackAux, argsFormat]
  simp only [Nat.reduceAdd, if_true, List.drop_drop, h32, specDecode, Gen.Consts.eventidMask,
    Gen.Consts.funcMask, hm, hq]

theorem decode_total (r : Bytes) (hlen : r.length = 64) (hb : IsBytes r) :
    ∃ e, fromKdBuf r = .ok e := ⟨_, decode_eq_spec r hlen hb⟩

/-- Wrong-sized buffers are rejected (the container readers rely on this for partial records). -/
theorem decode_rejects_other_lengths (r : Bytes) (hlen : r.length ≠ 64) :
    fromKdBuf r = .error .structError := by
  simp [fromKdBuf, decodeWith, structUnpack, calcsize, Gen.Consts.kdBufFormat, FieldSpec.size, hlen]

theorem qualifier_range (r : Bytes) : (specDecode r).qual < 4 := by
  simp only [specDecode]; omega

theorem reassemble (r : Bytes) :
    let e := specDecode r
    e.eventid + e.qual = e.debugid ∧ e.eventid ||| e.qual = e.debugid ∧ e.eventid &&& e.qual = 0 := by
  simp only [specDecode]
  generalize leNat ((r.drop 48).take 4) = d
  have e1 : d - d % 4 = (d >>> 2) <<< 2 := by
    rw [Nat.shiftLeft_eq, Nat.shiftRight_eq_div_pow]; omega
  have hlt : d % 4 < 2 ^ 2 := by omega
  refine ⟨by omega, ?_, ?_⟩
  · rw [e1, ← Nat.shiftLeft_add_eq_or_of_lt hlt, ← e1]; omega
  · rw [e1]
    apply Nat.eq_of_testBit_eq
    intro i
    rw [Nat.testBit_and, Nat.testBit_shiftLeft, Nat.zero_testBit]
    by_cases hi : 2 ≤ i
    · have : (d % 4).testBit i = false :=
        Nat.testBit_lt_two_pow (Nat.lt_of_lt_of_le hlt (Nat.pow_le_pow_right (by decide) hi))
      simp [this]
    · simp [hi]

/-- The first 52 bytes of the record can be rebuilt from the event. -/
theorem rebuild52 (r : Bytes) (hlen : r.length = 64) (hb : IsBytes r) :
    let e := specDecode r
    toLE 8 e.timestamp ++ e.data ++ toLE 8 e.tid ++ toLE 4 e.debugid = r.take 52 := by
  simp only [specDecode]
  have l1 : (r.take 8).length = 8 := by simp [hlen]
  have l3 : ((r.drop 40).take 8).length = 8 := by simp [hlen]
  have l4 : ((r.drop 48).take 4).length = 4 := by simp [hlen]
  have t1 := toLE_leNat (r.take 8) (hb.take 8)
  have t3 := toLE_leNat ((r.drop 40).take 8) ((hb.drop 40).take 8)
  have t4 := toLE_leNat ((r.drop 48).take 4) ((hb.drop 48).take 4)
  rw [l1] at t1; rw [l3] at t3; rw [l4] at t4
  rw [t1, t3, t4]
  have : r.take 52 = r.take 8 ++ (r.drop 8).take 32 ++ (r.drop 40).take 8 ++ (r.drop 48).take 4 := by
    have a : r.take 52 = r.take 48 ++ (r.drop 48).take 4 := by
      rw [show 52 = 48 + 4 from rfl, List.take_add]
    have b : r.take 48 = r.take 40 ++ (r.drop 40).take 8 := by
      rw [show 48 = 40 + 8 from rfl, List.take_add]
    have c : r.take 40 = r.take 8 ++ (r.drop 8).take 32 := by
      rw [show 40 = 8 + 32 from rfl, List.take_add]
    rw [a, b, c]
  rw [this]

/-- No output field depends on any byte outside its own field. -/
theorem noninterference (r r' : Bytes) :
    (r.take 8 = r'.take 8 → (specDecode r).timestamp = (specDecode r').timestamp) ∧
    ((r.drop 8).take 32 = (r'.drop 8).take 32 →
        (specDecode r).data = (specDecode r').data ∧ (specDecode r).values = (specDecode r').values) ∧
    ((r.drop 40).take 8 = (r'.drop 40).take 8 → (specDecode r).tid = (specDecode r').tid) ∧
    ((r.drop 48).take 4 = (r'.drop 48).take 4 →
        (specDecode r).debugid = (specDecode r').debugid ∧ (specDecode r).eventid = (specDecode r').eventid
        ∧ (specDecode r).qual = (specDecode r').qual) := by
  refine ⟨?_, ?_, ?_, ?_⟩ <;> intro h <;> simp [specDecode, h]

/-- In particular bytes 52..63 (cpu id and the unused word) influence nothing. -/
theorem tail_irrelevant (r r' : Bytes) (h : r.take 52 = r'.take 52) : specDecode r = specDecode r' := by
  have a : r.take 8 = r'.take 8 := by
    have := congrArg (List.take 8) h; simpa [List.take_take] using this
  have b : (r.drop 8).take 32 = (r'.drop 8).take 32 := by
    have := congrArg (fun l => (l.drop 8)) (congrArg (List.take 40) h)
    simpa [List.take_take, List.drop_take] using this
  have c : (r.drop 40).take 8 = (r'.drop 40).take 8 := by
    have := congrArg (fun l => (l.drop 40)) (congrArg (List.take 48) h)
    simpa [List.take_take, List.drop_take] using this
  have d : (r.drop 48).take 4 = (r'.drop 48).take 4 := by
    have := congrArg (fun l => (l.drop 48)) h
    simpa [List.drop_take] using this
  simp [specDecode, a, b, c, d]

/-- Non-vacuity: a concrete non-trivial record meets the hypotheses and decodes as specified. -/
example : fromKdBuf (List.range 64) = .ok (specDecode (List.range 64)) :=
  decode_eq_spec _ (by simp) (by intro b hb; simp at hb; omega)

example : (specDecode (List.range 64)).debugid = 0x33323130 ∧ (specDecode (List.range 64)).qual = 0
    ∧ (specDecode (List.replicate 64 255)).qual = 3
    ∧ (specDecode (List.replicate 64 255)).eventid = 0xfffffffc := by decide

end C01
end KdVerif
