import KdVerif.Proofs.TraceCodes
import KdVerif.Model.PyIRTc
import KdVerif.Gen.PyIRTc
/-
  C19 — a code-table text maps every "hex-id name" line; a supplied table is honoured.

  Subject: `parseCodes` = `from_trace_codes_text` (Model/TraceCodes: `str.splitlines`, `str.split()`,
  `int(s, 16)` over code points with the Unicode classes reflected from the interpreter, Gen/Unicode),
  `nameColumn`/`formatNameOnly` = the name column of `_format_kevent`, `decoded` = which handler
  `TracesParser.feed`/`parse_event_list` calls on which window (on top of Model/Pairing).
  The grammar of a table text (`Entry`, `Entry.WF`, `renderLines`) and the denoted mapping (`lastWins`,
  `lastName`) are in Spec/TraceCodes.
-/
namespace KdVerif.C19
open KdVerif.TraceCodes KdVerif.Pairing

deriving instance DecidableEq for Except

/-- The well-formed lines at the head of a text are read into the table; what follows is parsed from there. -/
theorem parseCodes_render_append (es : List Entry) (hes : ∀ e ∈ es, e.WF) (rest : List Char)
    (hr : rest.head? ≠ some '\n') :
    parseCodes (String.ofList (renderLines es ++ rest)) = parseLines (lastWins es) (splitLines rest) := by
  simp only [parseCodes, parseCodesL, String.toList_ofList, splitLines_render es hes rest hr,
    parseLines_entries es hes, lastWins]

/-- For every list of well-formed lines — optional blanks, id in hex (any value, optional `0x`/`0X`,
    leading zeros, each digit in either case), at least one blank, a non-empty white-space-free name,
    optionally blanks and any comment without line boundaries, then any of the line terminators
    (`\n \r \r\n \v \f \x1c \x1d \x1e \x85 U+2028 U+2029`) — the parse succeeds and yields the mapping
    "insert the pairs in order, a repeated id overwritten". -/
theorem parse_render (es : List Entry) (hes : ∀ e ∈ es, e.WF) :
    parseCodes (String.ofList (renderLines es)) = .ok (lastWins es) := by
  rw [← List.append_nil (renderLines es), parseCodes_render_append es hes [] (by simp)]
  rfl

/-- The same when the last line has no terminator. -/
theorem parse_render_unterminated (es : List Entry) (e : Entry) (hes : ∀ e ∈ es, e.WF) (he : e.WF) :
    parseCodes (String.ofList (renderLines es ++ e.line)) = .ok (lastWins (es ++ [e])) := by
  have hl := e.line_facts he
  rw [parseCodes_render_append es hes e.line (by simpa using head_ne_newline_of_nobreak e.line [] hl.1 hl.2)]
  simp only [splitLines, linesFrom_last e.line hl.2 hl.1, parseLines, parseLine_entry e he, lastWins,
    List.foldl_append, List.foldl_cons, List.foldl_nil]

/-- What the mapping answers for a key: the name of the last line with that id. -/
theorem lastWins_get (es : List Entry) (k : Int) : (lastWins es).get? k = lastName es k := by
  have := foldl_insert_get? es [] k
  simp only [Table.get?] at this
  rw [lastWins, this]
  cases lastName es k <;> rfl

/-- … and nothing else: every pair of the mapping is (id, name) of some line. -/
theorem nothing_else (es : List Entry) (k : Int) (v : String) (h : (lastWins es).get? k = some v) :
    ∃ e ∈ es, (e.id : Int) = k ∧ e.name = v := by
  rw [lastWins_get] at h
  exact lastName_some h

/-- Every key of the mapping is the id of some line (in particular never negative). -/
theorem keys_are_ids (es : List Entry) (k : Int) (h : k ∈ (lastWins es).keys) : ∃ e ∈ es, (e.id : Int) = k := by
  have := (Table.get?_isSome_iff (lastWins es) k).mpr h
  cases hg : (lastWins es).get? k with
  | none => rw [hg] at this; simp at this
  | some v =>
    obtain ⟨e, he, h1, -⟩ := nothing_else es k v hg
    exact ⟨e, he, h1⟩

/-- Every line's id is a key. -/
theorem every_id_present (es : List Entry) (e : Entry) (he : e ∈ es) : ∃ v, (lastWins es).get? e.id = some v := by
  rw [lastWins_get]
  have := lastName_of_mem he
  cases h : lastName es e.id with
  | none => rw [h] at this; simp at this
  | some v => exact ⟨v, rfl⟩

/-- A repeated id does not produce a second key. -/
theorem keys_distinct (es : List Entry) : (lastWins es).keys.Nodup :=
  foldl_insert_nodup es [] (by simp [Table.keys])

theorem parseLines_error_of_mem (ls : List (List Char)) (t : Table) (l : List Char) (hl : l ∈ ls)
    (hbad : ∃ err, parseLine l = .error err) : ∃ err, parseLines t ls = .error err := by
  induction ls generalizing t with
  | nil => simp at hl
  | cons a ls ih =>
    simp only [parseLines]
    cases ha : parseLine a with
    | error e => exact ⟨e, rfl⟩
    | ok kv =>
      rcases List.mem_cons.mp hl with rfl | hl
      · obtain ⟨err, he⟩ := hbad; rw [he] at ha; cases ha
      · exact ih _ hl

/-- A line with fewer than two tokens (blank lines included) makes the whole parse raise, wherever
    it stands and whatever the other lines are. -/
theorem short_line_raises (text : String) (l : List Char) (hl : l ∈ splitLines text.toList)
    (hshort : (splitWs l).length < 2) : ∃ err, parseCodes text = .error err := by
  apply parseLines_error_of_mem _ _ l hl
  cases h : splitWs l with
  | nil => exact ⟨.indexError, by simp only [parseLine, h]⟩
  | cons t0 rest =>
    cases rest with
    | cons t1 r => rw [h] at hshort; simp at hshort; omega
    | nil =>
      cases hi : pyInt16 t0 with
      | error e => exact ⟨e, by simp only [parseLine, h, hi]⟩
      | ok k => exact ⟨.indexError, by simp only [parseLine, h, hi]⟩

/-- The exception is that of the first bad line: after any well-formed lines, a terminated line on which
    one comprehension step raises `err` makes `from_trace_codes_text` raise `err`.  (`hstart`: the bad line
    is not an empty line ended by "\n" — after a "\r" that would be the second half of "\r\n".) -/
theorem first_bad_line_raises (es : List Entry) (hes : ∀ e ∈ es, e.WF) (l : List Char) (t : Term)
    (rest : List Char) (hl : ∀ c ∈ l, isBreak c = false) (ht : t.ok = true) (hr : rest.head? ≠ some '\n')
    (hstart : (l ++ t.chars).head? ≠ some '\n')
    (err : PyErr) (hbad : parseLine l = .error err) :
    parseCodes (String.ofList (renderLines es ++ (l ++ (t.chars ++ rest)))) = .error err := by
  have hsplit : splitLines (l ++ (t.chars ++ rest)) = l :: splitLines rest := by
    by_cases hne : l = []
    · subst hne; simpa [splitLines] using linesFrom_term t ht rest hr
    · exact linesFrom_line l t rest hl hne ht hr
  have hhead : (l ++ (t.chars ++ rest)).head? ≠ some '\n' := by
    have hne : l ++ t.chars ≠ [] := by cases t <;> simp [Term.chars]
    rw [← List.append_assoc]
    cases hlt : l ++ t.chars with
    | nil => exact absurd hlt hne
    | cons c cs => rw [hlt] at hstart; simpa using hstart
  rw [parseCodes_render_append es hes _ hhead, hsplit]
  simp only [parseLines, hbad]

/-- A blank line (empty or blanks only) raises `IndexError` (`s[0]` of an empty list). -/
theorem parseLine_blank (l : List Char) (hl : ∀ c ∈ l, isSpace c = true) : parseLine l = .error .indexError := by
  have := splitWs_spaces l [] hl
  simp only [List.append_nil, splitWs_nil] at this
  simp [parseLine, this]

/-- A line holding only an id raises `IndexError` (`s[1]`). -/
theorem parseLine_id_only (e : Entry) (he : e.WF) (trailing : List Char) (ht : ∀ c ∈ trailing, isSpace c = true) :
    parseLine (e.lead ++ (e.token ++ trailing)) = .error .indexError := by
  have htok := e.token_facts
  have h1 := splitWs_spaces e.lead (e.token ++ trailing) (fun c hc => (isBlank_iff.mp (he.lead_blank c hc)).1)
  have h2 := splitWs_token e.token trailing htok.1 htok.2 (by
    intro c hc
    cases trailing with
    | nil => simp at hc
    | cons x r => simp at hc; subst hc; exact ht _ (by simp))
  have h3 := splitWs_spaces trailing [] ht
  simp only [List.append_nil, splitWs_nil] at h3
  simp only [parseLine, h1, h2, h3, e.pyInt16_token]

/-- An id absent from the supplied table is shown as exactly Python's `hex(id)`. -/
theorem unknown_id_bare_hex (codes : Table) (e : Kevent) (h : codes.get? e.eventid = none) :
    nameColumn codes e.eventid = pyHex e.eventid ∧ formatNameOnly codes e = padRight 58 (pyHex e.eventid) := by
  simp [formatNameOnly, nameColumn, h]

/-- An id of the supplied table is shown as `<name> (<hex id>)` with the supplied name. -/
theorem known_id_named (codes : Table) (e : Kevent) (n : String) (h : codes.get? e.eventid = some n) :
    nameColumn codes e.eventid = n ++ " (" ++ pyHex e.eventid ++ ")" := by
  simp [nameColumn, h]

/-- The column depends on the table only through the lookup of that id. -/
theorem name_column_depends_on_lookup (c1 c2 : Table) (eid : Nat) (h : c1.get? eid = c2.get? eid) :
    nameColumn c1 eid = nameColumn c2 eid := by
  simp [nameColumn, h]

/-- The column is padded to its width, never cut. -/
theorem padRight_length (n : Nat) (s : String) : (padRight n s).length = max n s.length := by
  rw [padRight, String.length_append, String.length_ofList, List.length_replicate]
  omega

/-- `hex(n)` is "0x" and the base-16 digits of `n`, lower case, no leading zero. -/
theorem pyHex_digits (n : Nat) :
    (pyHex n).toList = '0' :: 'x' :: (hexDigitsNat n).map (digitChar false) := by
  have h : ∀ fuel n, pyHexDigits fuel n = (hexDigitsAux fuel n).map (digitChar false) := by
    intro fuel
    induction fuel with
    | zero => intro n; rfl
    | succ f ih =>
      intro n
      simp only [pyHexDigits, hexDigitsAux]
      split
      · simp [hexDigit, digitChar]
      · simp [ih, hexDigit, digitChar]
  simp only [pyHex, String.toList_append, String.toList_ofList, h, hexDigitsNat]
  rfl

/-- The id a listing shows can be read back: `int(hex(n), 16) = n`. -/
theorem hex_roundtrip (n : Nat) : pyInt16 (pyHex n).toList = .ok (n : Int) := by
  have hs := hexDigitsNat_spec n
  have := pyInt16_token .lower (hexDigitsNat n) hs.2.1 hs.1 (fun _ => false)
  rw [hs.2.2] at this
  have hm : ∀ l : List Nat, (l.mapIdx fun _ d => digitChar false d) = l.map (digitChar false) := by
    intro l
    induction l with
    | nil => rfl
    | cons a l ih => rw [List.mapIdx_cons, List.map_cons, ih]
  rw [pyHex_digits, ← hm]
  exact this

/-- Everything `feed` can answer: never an exception out of the gate itself; a handler call is for the name
    the table gives to the id of the event that completed the window, that name is a key of the handler
    table, and the window starts with an event of that id. -/
theorem decoded_only_named (codes : Table) (handlers traceNames : String → Bool) (h : List Kevent) :
    (decoded codes handlers traceNames h).length = h.length ∧
      ∀ p ∈ List.zip h (decoded codes handlers traceNames h), GateOk codes handlers p.1 p.2 :=
  ⟨decodedFrom_length _ _ _ _ _, decodedFrom_ok codes handlers traceNames _ headInv_empty h⟩

/-- An event whose id is absent from the supplied table never produces a trace (whatever the bundled
    table says about that id, whatever was fed before). -/
theorem unknown_id_not_decoded (codes : Table) (handlers traceNames : String → Bool) (h : List Kevent)
    (e : Kevent) (r : Except PyErr (Option (String × List Kevent)))
    (hp : (e, r) ∈ List.zip h (decoded codes handlers traceNames h)) (habs : codes.get? e.eventid = none) :
    r = .ok none := by
  have := (decoded_only_named codes handlers traceNames h).2 (e, r) hp
  match r, this with
  | .ok none, _ => rfl
  | .ok (some (n, w)), hg =>
    simp only [GateOk] at hg
    rw [habs] at hg
    cases hg.1

/-- … nor does an id whose name is no handler key. -/
theorem unhandled_name_not_decoded (codes : Table) (handlers traceNames : String → Bool) (h : List Kevent)
    (e : Kevent) (r : Except PyErr (Option (String × List Kevent))) (n : String)
    (hp : (e, r) ∈ List.zip h (decoded codes handlers traceNames h)) (hn : codes.get? e.eventid = some n)
    (hh : handlers n = false) : r = .ok none := by
  have := (decoded_only_named codes handlers traceNames h).2 (e, r) hp
  match r, this with
  | .ok none, _ => rfl
  | .ok (some (m, w)), hg =>
    simp only [GateOk] at hg
    rw [hn] at hg
    have : n = m := by simpa using hg.1
    subst this
    rw [hh] at hg
    cases hg.2.1

/-- The gate and the choice of pairing table depend only on `codes[eid]`: rename the ids of a stream by any
    injective `ρ` (`f` re-keys an event, keeping thread and qualifier) and supply a table that gives `ρ x`
    the name the first table gave `x`; then exactly the same handlers are called, on the re-keyed windows.
    So a decodable name is decoded under whatever id the table gives it.  (What the handlers then do with
    the window is outside this model; the vm-fault composite alone looks at hard-coded ids, C20.) -/
theorem decoded_under_any_id (ρ : Nat → Nat) (f : Kevent → Kevent) (hρ : ∀ a b, ρ a = ρ b → a = b)
    (hf : Rekeys ρ f) (c1 c2 : Table) (hc : ∀ x : Nat, c2.get? (ρ x : Nat) = c1.get? x)
    (handlers traceNames : String → Bool) (h : List Kevent) :
    decoded c2 handlers traceNames (h.map f) = (decoded c1 handlers traceNames h).map (mapOut f) :=
  decodedFrom_sim hρ hf hc handlers traceNames (sim_empty ρ f) h

/-- Special case `ρ = id`: two tables that agree on every natural-number key decode every stream alike
    (insertion order, negative keys and overwritten values are irrelevant). -/
theorem decoded_depends_on_lookups (c1 c2 : Table) (hc : ∀ x : Nat, c2.get? x = c1.get? x)
    (handlers traceNames : String → Bool) (h : List Kevent) :
    decoded c2 handlers traceNames h = decoded c1 handlers traceNames h := by
  have := decoded_under_any_id id id (fun _ _ h => h) (fun _ => ⟨rfl, rfl, rfl⟩) c1 c2 hc handlers traceNames h
  simp only [List.map_id] at this
  rw [this]
  have hm : mapOut id = id := by
    funext r
    match r with
    | .error _ => rfl
    | .ok none => rfl
    | .ok (some (n, w)) => simp [mapOut]
  simp [hm]

def ex1 : Entry :=
  { id := 0x40c000c, name := "BSC_read", pfx := .lower, upper := fun _ => false, zeros := 0, lead := [],
    sep := ['\t'], trail := [], term := .single '\n' }
def ex2 : Entry :=
  { id := 0x40c000c, name := "renamed", pfx := .none, upper := fun i => i % 4 == 0, zeros := 2, lead := [' '],
    sep := [' ', '\u00a0'], trail := " # any comment\u2003+ \x00".toList, term := .crlf }
def ex3 : Entry :=
  { id := 255, name := "日本(x)", pfx := .upper, upper := fun _ => true, zeros := 0, lead := [],
    sep := ['\x1f'], trail := ['\u3000'], term := .single '\u2028' }

theorem ex_wf : ∀ e ∈ [ex1, ex2, ex3], e.WF := by
  have h : ∀ e ∈ [ex1, ex2, ex3], e.name.toList ≠ [] ∧ (∀ c ∈ e.name.toList, isSpace c = false) ∧
      (∀ c ∈ e.lead, isBlank c = true) ∧ e.sep ≠ [] ∧ (∀ c ∈ e.sep, isBlank c = true) ∧
      (∀ c ∈ e.trail, isBreak c = false) ∧ (∀ c ∈ e.trail.head?, isSpace c = true) ∧ e.term.ok = true := by
    decide +kernel
  intro e he
  obtain ⟨h1, h2, h3, h4, h5, h6, h7, h8⟩ := h e he
  exact ⟨h1, h2, h3, h4, h5, h6, h7, h8⟩

example : String.ofList (renderLines [ex1, ex2, ex3]) =
    "0x40c000c\tBSC_read\n 0040C000C \u00a0renamed # any comment\u2003+ \x00\r\n0XFF\x1f日本(x)\u3000\u2028" := by
  rfl

example : parseCodes (String.ofList (renderLines [ex1, ex2, ex3])) = .ok [(0x40c000c, "renamed"), (255, "日本(x)")] := by
  rw [parse_render _ ex_wf]; decide +kernel

example : parseCodes "ff a\n\n10 b" = .error .indexError ∧ parseCodes "ff a\nzz b" = .error .valueError
    ∧ parseCodes "ff a\n10" = .error .indexError ∧ parseCodes "ff a\nzz" = .error .valueError
    ∧ parseCodes "" = .ok [] ∧ parseCodes "-0x_f_f a b c" = .ok [(-255, "a")] := by decide +kernel

def evA (ts qual eid : Nat) : Kevent :=
  { timestamp := ts, data := [], values := [1, 2, 3, 4], tid := 7, debugid := eid + qual, eventid := eid, qual := qual }

/-- A name re-keyed to 0x1234560 is decoded there; the bundled id of BSC_read (0x40c000c), absent from the
    supplied table, is not. -/
example :
    decoded [(0x1234560, "BSC_read")] (fun n => n == "BSC_read") (fun _ => false)
      [evA 1 1 0x1234560, evA 2 0 0x40c000c, evA 3 2 0x1234560, evA 4 1 0x40c000c, evA 5 2 0x40c000c] =
    [.ok none, .ok none,
     .ok (some ("BSC_read", [evA 1 1 0x1234560, evA 2 0 0x40c000c, evA 3 2 0x1234560])), .ok none, .ok none] := by
  decide +kernel

example : nameColumn [(0x1234560, "BSC_read")] 0x40c000c = "0x40c000c"
    ∧ nameColumn [(0x1234560, "BSC_read")] 0x1234560 = "BSC_read (0x1234560)"
    ∧ (formatNameOnly [] (evA 1 1 0x40c000c)).length = 58 := by
  rw [formatNameOnly, padRight_length]
  decide +kernel

/-- The hypotheses of `decoded_under_any_id` are satisfiable with a non-trivial renaming. -/
example : Rekeys (· + 0x100) (fun e => { e with eventid := e.eventid + 0x100, debugid := e.debugid + 0x100 })
    ∧ (∀ a b : Nat, a + 0x100 = b + 0x100 → a = b) :=
  ⟨fun _ => ⟨rfl, rfl, rfl⟩, fun _ _ h => by omega⟩

/-! ### Translation tie: the source text of `from_trace_codes_text`

  `tools/gen_pyir_tc.py` (pure `ast`) reads the one-expression function as a SHAPE (`PyIRTc.CodesFn`: lines by
  `str.splitlines()`, tokens by `str.split()`, key `int(s[0], 16)` evaluated first, value `s[1]`) into
  `Gen/PyIRTc.lean` on every run; `PyIRTc.run` interprets a shape. -/

/-- **The translated source has the shape the model was written for**, and the translator met nothing else. -/
theorem source_is_expected_shape : Gen.PyIRTc.codesFn = PyIRTc.expected ∧ Gen.PyIRTc.notes = [] := by decide +kernel

/-- **`from_trace_codes_text`, interpreted, is `parseCodes`** — for every text: the subject of `parse_render`,
    `short_line_raises`, `first_bad_line_raises` … is the translated source. -/
theorem from_trace_codes_text_ir_eq_model (text : String) :
    PyIRTc.run Gen.PyIRTc.codesFn text.toList = parseCodes text := by
  rw [source_is_expected_shape.1]; exact PyIRTc.run_expected text.toList

/-- non-vacuity: the generated shape, interpreted, reads a two-line table, later line winning -/
example : PyIRTc.run Gen.PyIRTc.codesFn "0x40c0548\tBSC_stat64\n40C0548 other #c\n0x1 x".toList =
    .ok [(0x40c0548, "other"), (1, "x")] := by decide +kernel

end KdVerif.C19
