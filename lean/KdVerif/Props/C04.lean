import KdVerif.Proofs.Pairing
import KdVerif.Proofs.Projection
import KdVerif.Proofs.PyIR
import KdVerif.Gen.PyIR
import KdVerif.Proofs.PyIRTp
/-
  C04 — START/END pairing delivers exactly each operation's per-thread event window.

  Subject: `Model/Pairing.step` (= `TracesParser.feed` with `_feed_start_event`, `_feed_end_event`,
  `_feed_single_event`), iterated from the empty tables over an ARBITRARY history `h : List Kevent`
  (any thread ids, any codes, any qualifier value: 1 = START, 2 = END, every other value is treated like
  NONE/ALL — the real qualifier is `debugid % 4`, C01.qualifier_range).  `domOf eid` = "`trace_codes[eid]`
  is one of the ten kernel trace-string/data names" (which of the two tables the event uses); it is an
  arbitrary parameter of every theorem.

  Vocabulary (declarative, `Spec/Pairing`):  `keyOf e = (domOf e.eventid, e.tid, e.eventid)`,
  `openAt h k`, `accepted h x`, `win k h`, `bodyOf k pre mid`;  `emitAt h e` = what the model hands to
  `parse_event_list` when `e` is fed after history `h` (`Proofs/Pairing`; it is the last entry of the
  per-event answers `outputs` that the driver prints — `emit_is_last_output`).
-/
namespace KdVerif.C04
open KdVerif.Pairing

variable (domOf : Nat → Bool)

/-- REFINEMENT.  After any history the two tables hold exactly the open keys, each with its declarative
    window. -/
theorem state_eq (h : List Kevent) (k : Key) :
    stateAfter domOf h k = if openAt domOf h k then some (win domOf k h) else none :=
  Pairing.state_eq domOf h k

/-- `emitAt h e` is what `feed` answers for `e` arriving after `h` (the last of the per-event answers). -/
theorem emit_is_last_output (h : List Kevent) (e : Kevent) :
    outputs domOf PState.empty (h ++ [e]) = outputs domOf PState.empty h ++ [emitAt domOf h e] ∧
    run domOf (h ++ [e]) = run domOf h ++ (emitAt domOf h e).toList :=
  ⟨outputs_snoc domOf h e, run_snoc domOf h e⟩

/-- An END whose key (thread, code, domain) is open after the prefix `h` delivers, at that moment, exactly
    one window: `win (key e) h` followed by the END itself; it closes that key and no other. -/
theorem end_emits_window (h : List Kevent) (e : Kevent) (hq : e.qual = 2)
    (ho : openAt domOf h (keyOf domOf e) = true) :
    emitAt domOf h e = some (win domOf (keyOf domOf e) h ++ [e]) ∧
    stateAfter domOf (h ++ [e]) (keyOf domOf e) = none ∧
    openAt domOf (h ++ [e]) (keyOf domOf e) = false ∧
    ∀ k, k ≠ keyOf domOf e → openAt domOf (h ++ [e]) k = openAt domOf h k := by
  have hcl : openAt domOf (h ++ [e]) (keyOf domOf e) = false := by
    rw [openAt_snoc]; simp [isMark, hq]
  refine ⟨?_, ?_, hcl, ?_⟩
  · rw [emitAt_eq_emitSpec]; simp [emitSpec, hq, ho]
  · rw [Pairing.state_eq, hcl]; simp
  · intro k hk
    rw [openAt_snoc]
    have : isMark domOf k e = false := by
      simp only [isMark, decide_eq_false_iff_not, not_and]; exact fun h' => absurd h'.symm hk
    simp [this]

/-- An END whose key is not open delivers nothing and leaves both tables exactly as they were. -/
theorem stray_end_noop (h : List Kevent) (e : Kevent) (hq : e.qual = 2)
    (ho : openAt domOf h (keyOf domOf e) = false) :
    emitAt domOf h e = none ∧ stateAfter domOf (h ++ [e]) = stateAfter domOf h := by
  have hst : stateAfter domOf h (keyOf domOf e) = none := by rw [Pairing.state_eq]; simp [ho]
  constructor
  · simp [emitAt, step_end_closed domOf _ e hq hst]
  · rw [stateAfter_snoc, step_end_closed domOf _ e hq hst]

/-- A NONE- or ALL-qualified event delivers exactly itself. -/
theorem single_emits_self (h : List Kevent) (e : Kevent) (h1 : e.qual ≠ 1) (h2 : e.qual ≠ 2) :
    emitAt domOf h e = some [e] := by
  simp [emitAt, step_single domOf _ e h1 h2]

/-- A START delivers nothing (it opens / re-opens its key with the window `[e]`). -/
theorem start_emits_nothing (h : List Kevent) (e : Kevent) (h1 : e.qual = 1) :
    emitAt domOf h e = none ∧ openAt domOf (h ++ [e]) (keyOf domOf e) = true ∧
    win domOf (keyOf domOf e) (h ++ [e]) = [e] := by
  refine ⟨by simp [emitAt, step_start domOf _ e h1], ?_, ?_⟩
  · rw [openAt_snoc]; simp [isMark, h1]
  · exact win_snoc_start domOf h e _ (by simp [isStartOf, h1])

/-- Nothing else is ever delivered: every delivered window is the window of a matched END or a single
    NONE/ALL event. -/
theorem no_other_output (h : List Kevent) (e : Kevent) (w : List Kevent)
    (hw : emitAt domOf h e = some w) :
    (e.qual = 2 ∧ openAt domOf h (keyOf domOf e) = true ∧ w = win domOf (keyOf domOf e) h ++ [e]) ∨
    (e.qual ≠ 1 ∧ e.qual ≠ 2 ∧ w = [e]) := by
  rw [emitAt_eq_emitSpec] at hw
  unfold emitSpec at hw
  by_cases h1 : e.qual = 1
  · simp [h1] at hw
  · by_cases h2 : e.qual = 2
    · left
      cases ho : openAt domOf h (keyOf domOf e) <;> simp [h2, ho] at hw
      exact ⟨h2, rfl, hw.symm⟩
    · right
      simp only [h1, h2, if_false, Option.some.injEq] at hw
      exact ⟨h1, h2, hw.symm⟩

/-- The complete output of a history is the declarative one: the per-prefix emissions, in order. -/
theorem run_is_declarative (h : List Kevent) : run domOf h = runSpec domOf h :=
  run_eq_runSpec domOf h

/-- Every window in the output of a history was delivered by one of its events, at that event. -/
theorem run_mem (m : List Kevent) (w : List Kevent) (hw : w ∈ run domOf m) :
    ∃ pre e post, m = pre ++ e :: post ∧ emitAt domOf pre e = some w :=
  Pairing.run_mem domOf m w hw

/-- `openAt` in the property's words: a key is open iff the history contains a START of it with neither a
    START nor an END of the same key after it. -/
theorem open_iff_unclosed_start (h : List Kevent) (k : Key) :
    openAt domOf h k = true ↔
      ∃ pre s mid, h = pre ++ s :: mid ∧ keyOf domOf s = k ∧ s.qual = 1 ∧
        ∀ x ∈ mid, keyOf domOf x = k → x.qual ≠ 1 ∧ x.qual ≠ 2 := by
  constructor
  · exact open_decomp domOf h k
  · rintro ⟨pre, s, mid, rfl, hk, hq, hmid⟩
    exact open_of_decomp domOf k pre mid s hk hq hmid

/-- SHAPE of the window of a matched END.  If the history is `pre ++ s :: mid` where `s` is a START of the
    END's key and `mid` holds neither a START nor an END of that key (i.e. `s` is the most recent such START
    and still open), the END delivers `s`, then `bodyOf … mid`, then itself. -/
theorem window_shape (pre mid : List Kevent) (s e : Kevent) (hq : e.qual = 2)
    (hk : keyOf domOf s = keyOf domOf e) (hs : s.qual = 1)
    (hmid : ∀ x ∈ mid, keyOf domOf x = keyOf domOf e → x.qual ≠ 1 ∧ x.qual ≠ 2) :
    emitAt domOf (pre ++ s :: mid) e =
      some (s :: bodyOf domOf (keyOf domOf e) (pre ++ [s]) mid ++ [e]) := by
  have ho := open_of_decomp domOf _ pre mid s hk hs hmid
  have hno : ∀ x ∈ mid, isStartOf domOf (keyOf domOf e) x = false := by
    intro x hx
    simp only [isStartOf, decide_eq_false_iff_not, not_and]
    exact fun hxk => (hmid x hx hxk).1
  rw [(end_emits_window domOf _ e hq ho).1,
    win_of_decomp domOf _ pre mid s (by simp [isStartOf, hk, hs]) hno]

/-- The window of a matched END begins with the most recent START of the same thread and code. -/
theorem window_head_is_last_start (h : List Kevent) (e : Kevent) (hq : e.qual = 2)
    (ho : openAt domOf h (keyOf domOf e) = true) :
    ∃ pre s mid rest, h = pre ++ s :: mid ∧ s.qual = 1 ∧ s.tid = e.tid ∧ s.eventid = e.eventid ∧
      (∀ x ∈ mid, x.tid = e.tid → x.eventid = e.eventid → x.qual ≠ 1 ∧ x.qual ≠ 2) ∧
      emitAt domOf h e = some (s :: rest) := by
  obtain ⟨pre, s, mid, rfl, hk, hs, hmid⟩ := open_decomp domOf h _ ho
  refine ⟨pre, s, mid, _, rfl, hs, ?_, ?_, ?_, window_shape domOf pre mid s e hq hk hs hmid⟩
  · exact congrArg Key.tid hk
  · exact congrArg Key.eid hk
  · intro x hx ht he
    exact hmid x hx (by simp [keyOf, ht, he])

/-- Every delivered window ends with the event that caused it (for an END: that END). -/
theorem window_last_is_end (h : List Kevent) (e : Kevent) (w : List Kevent)
    (hw : emitAt domOf h e = some w) : w.getLast? = some e := by
  rcases no_other_output domOf h e w hw with ⟨_, _, rfl⟩ | ⟨_, _, rfl⟩ <;> simp

/-- SANDWICH, on the body alone (any key, any position).  With `mid` the events that follow `pre`: the
    body contains every same-thread same-domain event of `mid` that is not an END, and contains nothing but
    same-thread same-domain events of `mid` — both as SUBLISTS. -/
theorem body_sandwich (pre mid : List Kevent) (k : Key) :
    (mid.filter fun x => sameTD domOf k x && decide (x.qual ≠ 2)).Sublist (bodyOf domOf k pre mid) ∧
    (bodyOf domOf k pre mid).Sublist (mid.filter (sameTD domOf k)) :=
  ⟨sublist_bodyOf domOf k pre mid, bodyOf_sublist domOf k pre mid⟩

/-- SANDWICH.  With `mid` the events strictly between the most recent open START `s` and the END `e` in
    the history: the END delivers `s :: body ++ [e]` where `body` contains every event of `mid` of the same
    thread and the same pairing domain that is not an END, and contains nothing but events of `mid` of the
    same thread and domain — both as SUBLISTS, hence in stream order, with no duplicates beyond the stream's
    own, nothing of another thread or the other pairing domain, nothing from outside the interval.
    (What may be missing: ENDs; exactly which — `matched_end_included`, `body_exact`.) -/
theorem window_sandwich (pre mid : List Kevent) (s e : Kevent) (hq : e.qual = 2)
    (hk : keyOf domOf s = keyOf domOf e) (hs : s.qual = 1)
    (hmid : ∀ x ∈ mid, keyOf domOf x = keyOf domOf e → x.qual ≠ 1 ∧ x.qual ≠ 2) :
    ∃ body, emitAt domOf (pre ++ s :: mid) e = some (s :: body ++ [e]) ∧
      (mid.filter fun x =>
        decide (domOf x.eventid = domOf e.eventid ∧ x.tid = e.tid) && decide (x.qual ≠ 2)).Sublist body ∧
      body.Sublist (mid.filter fun x => decide (domOf x.eventid = domOf e.eventid ∧ x.tid = e.tid)) :=
  ⟨_, window_shape domOf pre mid s e hq hk hs hmid,
    sublist_bodyOf domOf (keyOf domOf e) (pre ++ [s]) mid, bodyOf_sublist domOf (keyOf domOf e) (pre ++ [s]) mid⟩

/-- The whole window is a sublist of the interval `START … END` of the history. -/
theorem window_sublist_interval (pre mid : List Kevent) (k : Key) (s e : Kevent) :
    (s :: bodyOf domOf k pre mid ++ [e]).Sublist (s :: mid ++ [e]) := by
  have h := ((bodyOf_sublist domOf k pre mid).trans List.filter_sublist)
  exact (h.append (List.Sublist.refl [e])).cons_cons s

/-- The body is exactly: the events of `mid` of the key's thread and domain that were accepted when they
    arrived (not an END, or an END whose own key was open at that point). -/
theorem body_exact (pre mid : List Kevent) (k : Key) :
    bodyOf domOf k pre mid =
      ((annotFrom pre mid).filter fun p =>
        sameTD domOf k p.2 && (decide (p.2.qual ≠ 2) || openAt domOf p.1 (keyOf domOf p.2))).map (·.2) := rfl

/-- An END in between that closes an open START of its own (same thread, same domain) is in the window. -/
theorem matched_end_included (pre a b : List Kevent) (k : Key) (x : Kevent)
    (htd : sameTD domOf k x = true) (hox : openAt domOf (pre ++ a) (keyOf domOf x) = true) :
    x ∈ bodyOf domOf k pre (a ++ x :: b) :=
  mem_bodyOf_of domOf k pre a b x htd (by simp [accepted, hox])

/-- Every delivered window is non-empty, its first event has the code and the thread of the event that
    caused it, and all its events are of that thread. -/
theorem window_first_event (h : List Kevent) (e : Kevent) (w : List Kevent)
    (hw : emitAt domOf h e = some w) :
    (∃ x rest, w = x :: rest ∧ x.eventid = e.eventid ∧ x.tid = e.tid) ∧ ∀ y ∈ w, y.tid = e.tid := by
  obtain ⟨x, rest, rfl, hx⟩ :=
    step_output_head domOf _ e (stateAfter_inv domOf headInv_empty (step_headInv domOf) h) w hw
  have hall := (step_output domOf _ e (stateAfter_inv domOf tidInv_empty (step_tidInv domOf) h) _ hw).2
  exact ⟨⟨x, rest, rfl, hx, hall x (List.mem_cons_self ..)⟩, hall⟩

/-- `parse_event_list` on a delivered window calls a handler iff the code of the event that caused it is
    decodable (`codes[eid]` exists and has a handler), with exactly the delivered window; it never raises
    `IndexError`.  (Whether the handler then returns a trace object is C08.) -/
theorem trace_iff_decodable (dec : Nat → Bool) (h : List Kevent) (e : Kevent) (w : List Kevent)
    (hw : emitAt domOf h e = some w) :
    gate dec w = .ok (if dec e.eventid then some w else none) := by
  obtain ⟨⟨x, rest, rfl, hx, _⟩, _⟩ := window_first_event domOf h e w hw
  simp [gate, hx]

/-- `traces`: the handler invocations of a whole history are the delivered windows whose first event's
    code is decodable, in order; no exception. -/
theorem traces_eq_filter (dec : Nat → Bool) (h : List Kevent) :
    traces dec domOf h = .ok ((run domOf h).filter fun w =>
      match w with | x :: _ => dec x.eventid | [] => false) := by
  have hne : ∀ w ∈ run domOf h, w ≠ [] := fun w hw => (run_window_tid domOf h w hw).1
  unfold traces
  generalize run domOf h = ws at hne
  induction ws with
  | nil => rfl
  | cons w ws ih =>
    have := ih (fun w' hw' => hne w' (by simp [hw']))
    cases w with
    | nil => exact absurd rfl (hne [] (by simp))
    | cons x xs =>
      cases hd : dec x.eventid <;> simp [gateAll, gate, this, hd]

/-! ### non-vacuity: a concrete crossing / nested / re-opened / stray history -/

def ev (ts tid eid q : Nat) : Kevent :=
  { timestamp := ts, data := [], values := [], tid := tid, debugid := eid + q, eventid := eid, qual := q }

def dom8 : Nat → Bool := fun eid => eid == 8

/-- thread 1: START a(4), START b(12), foreign-domain NONE (8), stray END c(16), other thread's event,
    END a, START a again, START a again (re-open), END b, END a, END a (stray). -/
def demo : List Kevent :=
  [ev 0 1 4 1, ev 1 1 12 1, ev 2 1 8 0, ev 3 1 16 2, ev 4 2 4 0, ev 5 1 4 2, ev 6 1 4 1, ev 7 1 4 1,
   ev 8 1 12 2, ev 9 1 4 2, ev 10 1 4 2]

example : (outputs dom8 PState.empty demo).map (Option.map (List.map (·.timestamp))) =
    [none, none, some [2], none, some [4], some [0, 1, 5], none, none, some [1, 5, 6, 7, 8],
     some [7, 8, 9], none] := by decide +kernel

example : openAt dom8 (demo.take 5) (keyOf dom8 (ev 5 1 4 2)) = true ∧
    openAt dom8 (demo.take 3) (keyOf dom8 (ev 3 1 16 2)) = false := by decide +kernel

example : emitAt dom8 (demo.take 8) (ev 8 1 12 2) =
    some (win dom8 (keyOf dom8 (ev 8 1 12 2)) (demo.take 8) ++ [ev 8 1 12 2]) :=
  (end_emits_window dom8 _ _ rfl (by decide)).1

example : traces (fun eid => eid == 4) dom8 demo =
    .ok [[ev 4 2 4 0], [ev 0 1 4 1, ev 1 1 12 1, ev 5 1 4 2], [ev 7 1 4 1, ev 8 1 12 2, ev 9 1 4 2]] := by
  rfl

/-! ### translation tie: the SOURCE TEXT of the five methods, run by an interpreter of Python, is the model

  `tools/gen_pyir.py` translates `TracesParser.feed`, `parse_event_list`, `_feed_start_event`, `_feed_end_event`,
  `_feed_single_event` and the dict `self.qualifiers_actions` (pure `ast`, on every run) into the deep embedding of
  `Model/PyIR` (`Gen/PyIR.lean`).  `PyIR.feed prog cfg w e` runs `feed(e)` by the big-step interpreter `PyIR.exec`
  on the heap `w` (the two window tables as insertion-ordered dicts of dicts of lists, plus the log `w.calls` of the
  arguments `parse_event_list` was called with); `cfg` = the read-only tables (`trace_codes`, `trace_handlers`,
  `self.handlers`), arbitrary.  `PyIR.abs w` is the model state: key `(dom, tid, eid)` present iff
  `tid in table_dom and eid in table_dom[tid]`.  `PyIR.WF w`: no duplicate keys (the tables are dicts).
  `PyIR.domOf cfg eid` = "`eid in trace_codes and trace_codes[eid] in trace_handlers`", `PyIR.dec cfg eid` =
  "`eid in trace_codes and trace_codes[eid] in self.handlers`" — the parameters `domOf` / `dec` of the theorems above. -/

/-- The program generated from the source text is, node for node, the program the refinement below is proved
    for (`Spec/PyIRExpected`, a hand-written copy quoting the Python), and the translator met nothing it could
    not express.  Any statement, condition, table entry or evaluation order that changes makes this false.  Likewise
    the generator wrapper `feed_generator` and the constructor `__init__` (`Spec/PyIRTpExpected`; theorems at the end of
    this file and of `Props/C17`). -/
theorem source_is_expected_ir : Gen.PyIR.prog = PyIR.Expected.prog ∧ Gen.PyIR.notes = [] ∧
    Gen.PyIR.feedGenerator = PyIRTp.Expected.feedGenerator ∧ Gen.PyIR.init = PyIRTp.Expected.init := ⟨rfl, rfl, rfl, rfl⟩

/-- ONE `feed(e)`, for EVERY well-formed heap `w`, every event `e` with a two-bit qualifier (C01.qualifier_range) and
    every `cfg`: the interpreter does not raise; the heap it leaves is well-formed and abstracts to the model's next
    state; `parse_event_list` was called exactly with the list the model emits (or not at all); the value returned is
    `None` or the result of the handler `gate` lets through (`PyIR.retOf`). -/
theorem expected_ir_refines_model (cfg : PyIR.Cfg) (w : PyIR.World) (e : Kevent) (hwf : PyIR.WF w)
    (hq : e.qual < 4) :
    ∃ w', PyIR.feed PyIR.Expected.prog cfg w e =
        .ok (PyIR.retOf cfg (step (PyIR.domOf cfg) (PyIR.abs w) e).2, w') ∧
      PyIR.WF w' ∧ PyIR.abs w' = (step (PyIR.domOf cfg) (PyIR.abs w) e).1 ∧
      w'.calls = w.calls ++ (step (PyIR.domOf cfg) (PyIR.abs w) e).2.toList :=
  PyIR.feed_refines_step cfg w e hwf hq

/-- The same for the program GENERATED from the source. -/
theorem source_ir_refines_model (cfg : PyIR.Cfg) (w : PyIR.World) (e : Kevent) (hwf : PyIR.WF w)
    (hq : e.qual < 4) :
    ∃ w', PyIR.feed Gen.PyIR.prog cfg w e =
        .ok (PyIR.retOf cfg (step (PyIR.domOf cfg) (PyIR.abs w) e).2, w') ∧
      PyIR.WF w' ∧ PyIR.abs w' = (step (PyIR.domOf cfg) (PyIR.abs w) e).1 ∧
      w'.calls = w.calls ++ (step (PyIR.domOf cfg) (PyIR.abs w) e).2.toList := by
  rw [source_is_expected_ir.1]; exact PyIR.feed_refines_step cfg w e hwf hq

/-- ALL histories: feeding `h` to a fresh parser (both tables empty), the generated program returns, event by
    event, what the model's per-event outputs give through the gate; the lists handed to `parse_event_list`
    are exactly `Pairing.run`, in order; the tables at the end abstract to `Pairing.stateAfter`.  So every theorem
    of this file about `run` / `outputs` / `stateAfter` / `emitAt` is a theorem about the source text. -/
theorem run_ir_eq_run_model (cfg : PyIR.Cfg) (h : List Kevent) (hq : ∀ e ∈ h, e.qual < 4) :
    ∃ w', PyIR.runFrom Gen.PyIR.prog cfg PyIR.World.empty h =
        .ok ((outputs (PyIR.domOf cfg) PState.empty h).map (PyIR.retOf cfg), w') ∧
      w'.calls = run (PyIR.domOf cfg) h ∧ PyIR.abs w' = stateAfter (PyIR.domOf cfg) h ∧ PyIR.WF w' := by
  obtain ⟨w', h1, hwf, ha, hc⟩ := PyIR.runFrom_refines cfg h PyIR.World.empty PyIR.wf_empty hq
  rw [PyIR.abs_empty] at h1 ha hc
  rw [source_is_expected_ir.1]
  exact ⟨w', h1, by simpa [PyIR.World.empty, run] using hc, ha, hwf⟩

/-- `parse_event_list(l)` of the generated program is `gate`: `events[0]` of `[]` raises `IndexError`; otherwise
    the call is logged, and a handler is called — with exactly `l`, under the name `trace_codes[l[0].eventid]` —
    iff the first event's code is decodable; else `None`.  The heap is not touched. -/
theorem parse_event_list_ir_eq_gate (cfg : PyIR.Cfg) (l : List Kevent) (w : PyIR.World) :
    PyIR.invoke Gen.PyIR.prog cfg 1 .parseEventList [.list l] w =
      match gate (PyIR.dec cfg) l with
      | .error x => .error x
      | .ok none => .ok (.none, { w with calls := w.calls ++ [l] })
      | .ok (some v) => .ok (.result (PyIR.handlerName cfg v) v, { w with calls := w.calls ++ [l] }) := by
  rw [source_is_expected_ir.1, PyIR.invoke_pel, PyIR.hPel_eq_gate]
  cases gate (PyIR.dec cfg) l with
  | error x => rfl
  | ok r => cases r <;> rfl

/-- `feed` returns a handler's result exactly when the model emits a window whose first code is decodable. -/
theorem ir_return_iff (cfg : PyIR.Cfg) (o : Option (List Kevent)) :
    PyIR.retOf cfg o ≠ .none ↔ ∃ w v, o = some w ∧ gate (PyIR.dec cfg) w = .ok (some v) := by
  cases o with
  | none => simp [PyIR.retOf]
  | some w =>
    simp only [PyIR.retOf, Option.some.injEq]
    cases hg : gate (PyIR.dec cfg) w with
    | error x => simp [hg]
    | ok r => cases r <;> simp [hg]

/-! non-vacuity of the translation tie: thread 1: START a(4), START b(12), NONE c(8, trace domain), END a,
    stray END d(16, unknown code), END b.  Codes 4, 8, 12 are known (names 1, 2, 3), name 2 is a trace-domain name,
    only name 1 has a handler. -/

def cfgDemo : PyIR.Cfg :=
  { codes := fun eid => if eid = 4 then some 1 else if eid = 8 then some 2 else if eid = 12 then some 3 else none
    isTraceName := fun n => n == 2
    hasHandler := fun n => n == 1 }

def demoIR : List Kevent := [ev 0 1 4 1, ev 1 1 12 1, ev 2 1 8 0, ev 3 1 4 2, ev 4 1 16 2, ev 5 1 12 2]

/-- the generated program, run by the interpreter: returned values and the `parse_event_list` log -/
example : (PyIR.runFrom Gen.PyIR.prog cfgDemo PyIR.World.empty demoIR).toOption.map (fun r => (r.1, r.2.calls)) =
    some ([.none, .none, .none, .result 1 [ev 0 1 4 1, ev 1 1 12 1, ev 3 1 4 2], .none, .none],
          [[ev 2 1 8 0], [ev 0 1 4 1, ev 1 1 12 1, ev 3 1 4 2], [ev 1 1 12 1, ev 3 1 4 2, ev 5 1 12 2]]) := by
  decide +kernel

/-- … equals the model's answer on the same history -/
example : (PyIR.runFrom Gen.PyIR.prog cfgDemo PyIR.World.empty demoIR).toOption.map (fun r => (r.1, r.2.calls)) =
    some ((outputs (PyIR.domOf cfgDemo) PState.empty demoIR).map (PyIR.retOf cfgDemo),
          run (PyIR.domOf cfgDemo) demoIR) := by
  decide +kernel

/-- the heap in between: after the first three events thread 1 has `{4: [0,1], 12: [1]}` in `on_going_events`
    (insertion order) and nothing in `on_going_traces` -/
example : (PyIR.runFrom Gen.PyIR.prog cfgDemo PyIR.World.empty (demoIR.take 3)).toOption.map (·.2.events) =
      some [(1, [(4, [ev 0 1 4 1, ev 1 1 12 1]), (12, [ev 1 1 12 1])])] ∧
    (PyIR.runFrom Gen.PyIR.prog cfgDemo PyIR.World.empty (demoIR.take 3)).toOption.map (·.2.traces) = some [] := by
  decide +kernel

example : PyIR.invoke Gen.PyIR.prog cfgDemo 1 .parseEventList [.list []] PyIR.World.empty = .error .indexError := by
  rw [parse_event_list_ir_eq_gate]; rfl

/-! ### translation tie, continued: the generator wrapper `feed_generator`

  `tools/gen_pyir.py` also translates `TracesParser.feed_generator(self, generator)` — `for event in generator: ret =
  self.feed(event); if ret is not None: yield ret` — into the generator subset of `Model/PyIRTp` (`Gen.PyIR.feedGenerator`).
  `PyIRTp.runFeedGen prog g cfg es err w` consumes `parser.feed_generator(<a generator that delivers the events es and then
  raises err, if any>)` to its end on the heap `w`; `self.feed(event)` is answered by the interpreter of `Model/PyIR` running
  the TRANSLATED `feed` (the subject of `source_ir_refines_model`).  The answer: the values yielded, in order, then the final
  heap — or the exception that ended the stream, after the values already delivered. -/

/-- For EVERY event list `es`, every exception `err` the event generator itself may end
    with, every initial heap `w` (well-formed or not) and every `cfg`: the interpreted `feed_generator` of the source IS the
    pipeline model `feedGen` (`Model/Pipeline`) instantiated with the interpreted `feed` (`PyIRTp.feedStep`: state = heap,
    item delivered = the returned value unless it is `None`):
    * it yields exactly the traces `feedGen` delivers, in the same order;
    * an exception of `feed` ends the stream after the traces already delivered (`feedGen`'s second component, which is
      the exception the state machine `PyIRTp.finalState` stops with); the generator's own exception surfaces when
      everything it delivered was consumed without one; otherwise the generator ends in the state the state machine ends
      in (`PyIRTp.outcome`). -/
theorem feed_generator_ir_eq_model (cfg : PyIR.Cfg) (w : PyIR.World) (es : List Kevent) (err : Option PyErr) :
    (PyIRTp.runFeedGen Gen.PyIR.prog Gen.PyIR.feedGenerator cfg es err w).1 =
        (feedGen (PyIRTp.feedStep Gen.PyIR.prog cfg) w es).1 ∧
    (PyIRTp.runFeedGen Gen.PyIR.prog Gen.PyIR.feedGenerator cfg es err w).2 =
        PyIRTp.outcome (PyIRTp.finalState (PyIRTp.feedStep Gen.PyIR.prog cfg) w es) err ∧
    (feedGen (PyIRTp.feedStep Gen.PyIR.prog cfg) w es).2 =
        PyIRTp.errOf (PyIRTp.finalState (PyIRTp.feedStep Gen.PyIR.prog cfg) w es) := by
  rw [source_is_expected_ir.2.2.1, PyIRTp.runFeedGen_expected]
  exact ⟨rfl, rfl, PyIRTp.feedGen_err _ es w⟩

/-- … composed with `run_ir_eq_run_model`: a FRESH parser (both window tables empty) fed a whole history through the
    interpreted `feed_generator` never raises by itself, yields exactly the non-`None` answers of the pairing model
    (`Pairing.outputs` through the gate, i.e. one handler result per delivered decodable window, in order), hands
    `parse_event_list` exactly `Pairing.run`, and leaves the tables of `Pairing.stateAfter`. -/
theorem feed_generator_ir_eq_pairing_model (cfg : PyIR.Cfg) (h : List Kevent) (hq : ∀ e ∈ h, e.qual < 4)
    (err : Option PyErr) :
    ∃ w', PyIRTp.runFeedGen Gen.PyIR.prog Gen.PyIR.feedGenerator cfg h err PyIR.World.empty =
        (((outputs (PyIR.domOf cfg) PState.empty h).map (PyIR.retOf cfg)).filter (fun v => decide (v ≠ .none)),
         match err with | some x => .error x | none => .ok w') ∧
      w'.calls = run (PyIR.domOf cfg) h ∧ PyIR.abs w' = stateAfter (PyIR.domOf cfg) h ∧ PyIR.WF w' := by
  obtain ⟨w', h1, h2, h3, h4⟩ := run_ir_eq_run_model cfg h hq
  refine ⟨w', ?_, h2, h3, h4⟩
  obtain ⟨hv, hf⟩ := PyIRTp.feedGen_of_runFrom _ cfg h _ _ _ h1
  rw [source_is_expected_ir.2.2.1, PyIRTp.runFeedGen_expected, hv, hf]
  cases err <;> rfl

private instance exceptDecEq {ε α : Type} [DecidableEq ε] [DecidableEq α] : DecidableEq (Except ε α)
  | .ok a, .ok b => if h : a = b then isTrue (by rw [h]) else isFalse (fun e => h (Except.ok.inj e))
  | .error a, .error b => if h : a = b then isTrue (by rw [h]) else isFalse (fun e => h (Except.error.inj e))
  | .ok _, .error _ => isFalse (fun e => nomatch e)
  | .error _, .ok _ => isFalse (fun e => nomatch e)

private instance prodExceptDecEq {α ε β : Type} [DecidableEq α] [DecidableEq ε] [DecidableEq β] :
    DecidableEq (α × Except ε β) := inferInstance

/-- non-vacuity: the GENERATED `feed_generator` over the demo history of the tie above, from empty tables: ONE trace is
    yielded (the window of code 4 — the only name with a handler; the windows of codes 8 and 12 are dropped by the gate,
    the other three records deliver nothing), `parse_event_list` saw the three windows, and thread 1 is left with no open
    code. -/
example : (PyIRTp.runFeedGen Gen.PyIR.prog Gen.PyIR.feedGenerator cfgDemo demoIR none PyIR.World.empty).1 =
    [.result 1 [ev 0 1 4 1, ev 1 1 12 1, ev 3 1 4 2]] := by decide +kernel

example : (match (PyIRTp.runFeedGen Gen.PyIR.prog Gen.PyIR.feedGenerator cfgDemo demoIR none PyIR.World.empty).2 with
    | .ok w => some (w.events, w.traces, w.calls.length)
    | .error _ => none) = some ([(1, [])], [], 3) := by decide +kernel

/-- … it equals the pipeline model over the generated `feed` -/
example : (PyIRTp.runFeedGen Gen.PyIR.prog Gen.PyIR.feedGenerator cfgDemo demoIR none PyIR.World.empty).1 =
    (feedGen (PyIRTp.feedStep Gen.PyIR.prog cfgDemo) PyIR.World.empty demoIR).1 := by decide +kernel

/-- … the event generator's own exception (a truncated dump: `EOFError` of the reader) surfaces after the trace was
    delivered -/
example : PyIRTp.runFeedGen Gen.PyIR.prog Gen.PyIR.feedGenerator cfgDemo (demoIR.take 4) (some .eof) PyIR.World.empty =
    ([.result 1 [ev 0 1 4 1, ev 1 1 12 1, ev 3 1 4 2]], .error .eof) := by decide +kernel

/-- … an exception of `feed` itself (a qualifier outside the dict: `KeyError` of `self.qualifiers_actions[…]`) ends the
    stream after the trace already delivered; the records behind it are never fed -/
example : PyIRTp.runFeedGen Gen.PyIR.prog Gen.PyIR.feedGenerator cfgDemo
      (demoIR.take 4 ++ [ev 9 1 4 7, ev 10 1 4 1, ev 11 1 4 2]) none PyIR.World.empty =
    ([.result 1 [ev 0 1 4 1, ev 1 1 12 1, ev 3 1 4 2]], .error .keyError) := by decide +kernel

/-! ### translation tie, continued: the constructor `__init__`

  `tools/gen_pyir.py` translates `TracesParser.__init__(self, trace_codes_map, threads_pids, pids_names)` into
  `Gen.PyIR.init : PyIRTp.InitDef`: the initialisers `self.<attr> = <parameter>` / `self.<attr> = {}` SORTED by attribute
  (they do not depend on each other: every value is a bare parameter or an empty dict display, checked by the translator;
  `dict()` = `{}`), and the `self.handlers.update(<family>_handlers)` calls in source order (the registry: `Props/C17`).
  `PyIRTp.runInit d n` constructs the object from `n` arguments: which OBJECT each attribute is — `Ref.arg k`, the caller's
  k-th argument ITSELF, or `Ref.fresh n`, the n-th dict the constructor made, empty. -/

/-- The interpreted `__init__` of the source produces exactly the initial parser state the hand
    models start from:
    * all ten attributes are bound;
    * `trace_codes`, `threads_pids`, `pids_names` ARE the caller's three arguments — shared, not copied: what the container
      parser writes into the caller's tables after construction (`set_thread_map`), the decoders read, and what the
      `TRACE_*` handlers declare, the caller's formatter sees;
    * `on_going_events` and `on_going_traces` are two DIFFERENT new empty dicts: the heap is `PyIR.World.empty`, from which
      `run_ir_eq_run_model` / `feed_generator_ir_eq_pairing_model` start, and it abstracts to `Pairing.PState.empty`, from
      which `run` / `stateAfter` / `outputs` start;
    * with `global_strings`, `tids_names`, `last_data_newthread`, `last_data_exec` and `handlers` that makes seven
      pairwise different new dicts;
    * so for ANY contents `tp` / `pn` of the caller's two tables the whole-parser state is
      `{ pairing := PState.empty, tabs := { threadsPids := tp, pidsNames := pn } }` — the other four context tables of
      `Trace.Tabs` empty: the `startState` of `Model/TracePipeline` (next theorem). -/
theorem init_ir_eq_model :
    ∃ o, PyIRTp.runInit Gen.PyIR.init 3 = .ok o ∧
      (∀ a, (o.get a).isSome = true) ∧
      o.get .traceCodes = some (.arg 0) ∧ o.get .threadsPids = some (.arg 1) ∧ o.get .pidsNames = some (.arg 2) ∧
      o.world = some PyIR.World.empty ∧ PyIR.abs PyIR.World.empty = PState.empty ∧
      (∃ ns, o.freshOf [.onGoingEvents, .onGoingTraces, .globalStrings, .tidsNames, .lastDataNewthread, .lastDataExec,
          .handlers] = some ns ∧ ns.Nodup) ∧
      ∀ (tp : Trace.Dict Nat) (pn : Trace.Dict String),
        o.state tp pn = some { pairing := PState.empty, tabs := { threadsPids := tp, pidsNames := pn } } := by
  refine ⟨PyIRTp.expectedObj, ?_, ?_, rfl, rfl, rfl, rfl, PyIR.abs_empty, ⟨[0, 1, 2, 3, 4, 5, 6], rfl, by decide⟩,
    PyIRTp.expectedObj_state⟩
  · rw [source_is_expected_ir.2.2.2]; exact PyIRTp.runInit_expected
  · intro a; cases a <;> rfl

/-- … that state is where the request-level model starts: for every dump, the state of the object the interpreted
    `__init__` builds on the caller's tables as `set_thread_map` fills them is `TracePipeline.startState`. -/
theorem init_state_is_model_start (d : TracePipeline.Dump) :
    ∃ o, PyIRTp.runInit Gen.PyIR.init 3 = .ok o ∧
      o.state (Declared.mapTabs d.threadMap).threadsPids (Declared.mapTabs d.threadMap).pidsNames =
        some (TracePipeline.startState d) := by
  obtain ⟨o, h, _, _, _, _, _, _, _, hs⟩ := init_ir_eq_model
  exact ⟨o, h, by rw [hs]; rfl⟩

/-- a constructor called with another number of arguments raises `TypeError` -/
example : PyIRTp.runInit Gen.PyIR.init 2 = .error .typeError := by decide +kernel

/-- non-vacuity of the sharing clause: the interpreter tells a shared table from a copied one and one window table from
    two — a constructor that binds `threads_pids` to a new dict, or both window tables to one object, has no model state. -/
example : ((PyIRTp.runInit { Gen.PyIR.init with sets := Gen.PyIR.init.sets.map fun s =>
      if s.1 = .threadsPids then (s.1, .emptyDict) else s } 3).toOption.bind fun o => o.tabs [] []).isNone = true := by
  decide

example : (PyIRTp.Obj.world { attrs := [(.onGoingEvents, .fresh 0), (.onGoingTraces, .fresh 0)], made := 1 }) = none := by
  decide +kernel

end KdVerif.C04
