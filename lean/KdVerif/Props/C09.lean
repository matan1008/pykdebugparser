import KdVerif.Proofs.IRCallPart
import KdVerif.Model.Trace
/-
  C09 — syscall arguments are rendered from the matching START argument, in order.

  Subject: `Gen.Decoders.decoders`, the decoder IR regenerated from bsd.py / mach.py on every run
  (handler functions + dataclass `__str__`), with the meaning given by `IR.eval` / `IR.render`
  (tied to the real code by the correspondence section `decoders`, `tools/kdv/decoders.py`).

  Reflective theorems (`decide +kernel` over the generated table) establish syntactic facts about each
  of the ~400 syscall / trap decoders; the semantic lemmas of `Proofs/IR.lean` (`eval_congr`,
  `eval_subst`, `evalS_normalize`) lift them to ALL windows.
-/
namespace KdVerif.C09
open KdVerif.IR KdVerif.DecoderFacts

/-- Pure integer arithmetic on window words and literals (no enum, flag, table or string read). -/
def arith : Expr → Bool
  | .startArg _ | .endArg _ | .int _ => true
  | .cInt64 e | .cInt32 e => arith e
  | .band a b | .bor a b | .shr a b | .shl a b => arith a && arith b
  | _ => false

def bareNumber : Expr → Bool
  | .strOf e | .hexOf e => arith e
  | _ => false

/-- Decimal, hexadecimal or signed (two's complement, 64 bits) text of the whole START word `k`. -/
def wholeWord (k : Nat) (p : Expr) : Bool :=
  p = .strOf (.startArg k) || p = .hexOf (.startArg k) || p = .strOf (.cInt64 (.startArg k))

/-- The one parameter that is deliberately narrowed: `semaphore_timedwait`'s nanoseconds (position 1) are an
    `unsigned int` in the trap's prototype and are shown as `args[1] & 0xffffffff`. -/
def narrowed : List (Nat × Nat) :=
  [ (35103245609197095007308586982694452387520952448627944768054213370224, 1) ]   -- MSC_semaphore_timedwait_trap

def numbersWhole (fs : List Expr) (key : Nat) : Nat → List (Option Expr × Expr) → Bool
  | _, [] => true
  | k, (_, p) :: rest =>
    (!bareNumber (subst fs p) || wholeWord k (subst fs p) || narrowed.contains (key, k))
      && numbersWhole fs key (k + 1) rest

def numbersWholeDec (d : Decoder) : Bool :=
  match d.shape with
  | some s => !syscallLike d || numbersWhole d.fields d.key 0 s.params
  | none => true

/-- The translator's `name(p0, …)tail` split of every decoder is a re-bracketing of its `__str__`. -/
theorem all_shapes_agree : decoders.all shapeAgrees = true := by decide +kernel

/-- Every translated BSD syscall / Mach trap decoder is of call shape (so the next theorems are about all
    of them), and the BSD family consists of syscalls only. -/
theorem syscall_decoders_have_shape :
    decoders.all (fun d => (!((d.kind == 0 || d.kind == 1) && d.supported) || d.shape.isSome)
                           && (!(d.family == 0) || d.kind == 0)) = true := by decide +kernel

/-- Every BSD syscall / Mach trap decoder was translated (none is outside the IR subset), so the facts
    below cover all of them. -/
theorem syscalls_translated :
    decoders.all (fun d => !(d.kind == 0 || d.kind == 1) || d.supported) = true := by decide +kernel

/-- Constructor arguments never refer to `self`. -/
theorem all_fields_closed : decoders.all fieldsClosed = true := by decide +kernel

/-- The two facts about the parameters, checked in one pass over the table so that the kernel inlines the
    constructor arguments into each parameter once: which START words it reads, and that a bare number is whole. -/
theorem params_checked : decoders.all (fun d => wellIndexed d && numbersWholeDec d) = true := by decide +kernel

/-- The parameter at position `k` reads START word `k` and no other (four listed exceptions read the
    listed words). -/
theorem all_wellIndexed : decoders.all wellIndexed = true :=
  List.all_eq_true.mpr fun d hd => ((Bool.and_eq_true ..).mp (List.all_eq_true.mp params_checked d hd)).1

/-- **The call part of the text is a function of the START arguments and the nested lookups only**:
    for every syscall / trap decoder and any two windows with the same START words and lookups — whatever
    their END records, thread ids and context tables — the call texts (or the exceptions raised while
    building them) are equal. -/
theorem call_text_function_of_start_and_lookups (d : Decoder) (hd : d ∈ decoders) (hsys : syscallLike d = true)
    (s : Shape) (hs : d.shape = some s) (h : Host) (t : Tables) (w w' : Window) (hw : SameStart w w') :
    evalPieces (ctx h t w) (callPiecesOf d s) = evalPieces (ctx h t w') (callPiecesOf d s) :=
  callText_congr d hd hsys s hs h t w w' hw

/-- A check that walks a list with a running position holds of the entry at each position. -/
theorem indexed_get {α : Type} {g : Nat → List α → Bool} {f : Nat → α → Bool}
    (hg : ∀ k a l, g k (a :: l) = (f k a && g (k + 1) l)) :
    ∀ (l : List α) (k i : Nat) (a : α), g k l = true → l[i]? = some a → f (k + i) a = true
  | [], _, _, _, _, hi => nomatch hi
  | b :: l, k, 0, a, h, hi => by
    rw [hg, Bool.and_eq_true] at h
    cases hi
    exact h.1
  | b :: l, k, i + 1, a, h, hi => by
    rw [hg, Bool.and_eq_true] at h
    have := indexed_get hg l (k + 1) i a h.2 hi
    rwa [show k + 1 + i = k + (i + 1) by omega] at this

theorem param_within (d : Decoder) (hd : d ∈ decoders) (hsys : syscallLike d = true)
    (s : Shape) (hs : d.shape = some s) (k : Nat) (c : Option Expr) (p : Expr) (hp : s.params[k]? = some (c, p)) :
    within (selFor d.key k) (subst d.fields p) = true := by
  have hwi := List.all_eq_true.mp all_wellIndexed d hd
  simp only [wellIndexed, hs, hsys, Bool.not_true, Bool.false_or] at hwi
  have := indexed_get (fun _ _ _ => rfl) s.params 0 k (c, p) hwi hp
  rw [Nat.zero_add, Bool.and_eq_true] at this
  exact this.1

/-- **The parameter shown at position `k` is rendered from START word `k`**: for every syscall / trap
    decoder, the text of its `k`-th parameter is the same in any two windows that agree on START word `k`
    and on the lookups — the other START words, the END record and everything else may differ.
    (For the four `crossArg` entries, "word `k`" reads "the listed words".) -/
theorem param_text_from_kth_start_word (d : Decoder) (hd : d ∈ decoders) (hsys : syscallLike d = true)
    (s : Shape) (hs : d.shape = some s) (k : Nat) (c : Option Expr) (p : Expr) (hp : s.params[k]? = some (c, p))
    (h : Host) (t : Tables) (w w' : Window)
    (hk : ∀ j, (selFor d.key k).start.contains j = true → w.startArgs[j]? = w'.startArgs[j]?)
    (hl : w.lookups = w'.lookups) (hr : w.restFirst = w'.restFirst) :
    evalS (ctx h t w) (subst d.fields p) = evalS (ctx h t w') (subst d.fields p) := by
  have hin := param_within d hd hsys s hs k c p hp
  obtain ⟨l, hsel⟩ := selFor_eq d.key k
  rw [hsel] at hin hk
  exact evalS_congr _ _ _ (agree_params l h t w w' hk hl hr) _ hin

theorem selFor_plain (key k : Nat) (h : crossArg.find? (fun x => x.1 == key && x.2.1 == k) = none) :
    (selFor key k).start = [k] := by
  simp [selFor, h, paramSel]

theorem decimal_form (c : Ctx) (k a : Nat) (h : c.win.startArgs[k]? = some a) :
    evalS c (.strOf (.startArg k)) = .ok (toString a) := by
  simp [evalS, eval, h, pyStr, bind, Except.bind]
  rfl

theorem hex_form (c : Ctx) (k a : Nat) (h : c.win.startArgs[k]? = some a) :
    evalS c (.hexOf (.startArg k)) = .ok (pyHex a) := by
  have h0 : ¬ ((a : Int) < 0) := by omega
  simp only [evalS, eval, h, bind, Except.bind, pure, Except.pure, pyHexInt, h0, if_false, Int.toNat_natCast]

/-- Signed form: Python's `str(ctypes.c_int64(a).value)`. -/
theorem signed64_form (c : Ctx) (k a : Nat) (h : c.win.startArgs[k]? = some a) :
    evalS c (.strOf (.cInt64 (.startArg k))) = .ok (pyStr (.int (wrap64 a))) := by
  simp only [evalS, eval, h, asNat, bind, Except.bind, pure, Except.pure]

/-- `ctypes.c_int64(a).value` for a 64-bit word: `a` below 2^63, `a − 2^64` from there on. -/
theorem wrap64_spec (a : Nat) (h : a < 2 ^ 64) :
    wrap64 a = if a < 2 ^ 63 then (a : Int) else (a : Int) - 2 ^ 64 := by
  unfold wrap64
  have : ((a : Int) % (2 ^ 64 : Int)) = a := by omega
  simp only [this]
  split <;> split <;> omega

def numericOf (j : Nat) (p : Expr) : Bool :=
  p = .strOf (.startArg j) || p = .hexOf (.startArg j) || p = .strOf (.cInt64 (.startArg j))
    || p = .strOf (.cInt32 (.startArg j))

/-- A parameter in one of the plain numeric forms names its own position: a decimal / hexadecimal / signed
    rendering of START word `j` never appears at a position `k ≠ j` of any syscall / trap decoder. -/
theorem numeric_param_is_own_word (d : Decoder) (hd : d ∈ decoders) (hsys : syscallLike d = true)
    (s : Shape) (hs : d.shape = some s) (k j : Nat) (c : Option Expr) (p : Expr)
    (hp : s.params[k]? = some (c, p)) (hn : numericOf j (subst d.fields p) = true)
    (hplain : crossArg.find? (fun x => x.1 == d.key && x.2.1 == k) = none) : j = k := by
  have hin := param_within d hd hsys s hs k c p hp
  have hsel : selFor d.key k = paramSel k := by simp [selFor, hplain]
  rw [hsel] at hin
  simp only [numericOf, Bool.or_eq_true, decide_eq_true_eq] at hn
  rcases hn with ((hn | hn) | hn) | hn <;> rw [hn] at hin <;> simp [within, paramSel] at hin <;> omega

/-! ### A bare number is the WHOLE word

  The footprint facts above say *which* word a parameter reads; they would still hold if a decoder showed a
  narrowed reading of that word (its low 32 bits, say) — a number that is not the argument any more once the
  argument needs more than 32 bits.  The second half of `params_checked` closes that: every parameter of a
  syscall / trap decoder that renders a bare number (decimal or hexadecimal text of pure integer arithmetic on
  window words) is syntactically one of the three whole-word forms of its own START word, with one listed
  exception. -/

/-- **A number shown at position `k` is the k-th START argument itself** — in decimal, in hexadecimal or as
    the signed 64-bit reading — for every syscall / trap decoder, every window and every word (also the ones
    beyond 32 bits), outside the one listed narrowed parameter. -/
theorem bare_number_is_whole_word (d : Decoder) (hd : d ∈ decoders) (hsys : syscallLike d = true)
    (s : Shape) (hs : d.shape = some s) (k : Nat) (c : Option Expr) (p : Expr) (hp : s.params[k]? = some (c, p))
    (hb : bareNumber (subst d.fields p) = true) (hn : narrowed.contains (d.key, k) = false)
    (cx : Ctx) (a : Nat) (ha : cx.win.startArgs[k]? = some a) :
    evalS cx (subst d.fields p) = .ok (toString a) ∨ evalS cx (subst d.fields p) = .ok (pyHex a)
      ∨ evalS cx (subst d.fields p) = .ok (pyStr (.int (wrap64 a))) := by
  have hall := ((Bool.and_eq_true ..).mp (List.all_eq_true.mp params_checked d hd)).2
  simp only [numbersWholeDec, hs, hsys, Bool.not_true, Bool.false_or] at hall
  have hk := indexed_get (fun _ _ _ => rfl) s.params 0 k (c, p) hall hp
  rw [Nat.zero_add] at hk
  simp only [hb, hn, Bool.not_true, Bool.false_or, Bool.or_false] at hk
  simp only [wholeWord, Bool.or_eq_true, decide_eq_true_eq] at hk
  rcases hk with (hk | hk) | hk <;> rw [hk]
  · exact Or.inl (decimal_form cx k a ha)
  · exact Or.inr (Or.inl (hex_form cx k a ha))
  · exact Or.inr (Or.inr (signed64_form cx k a ha))

/-- Not vacuous: `BSC_pread`'s four parameters are bare numbers outside `narrowed`. -/
example : ∃ d ∈ decoders, d.key = 5945851335799623475556 ∧
    (d.shape.map fun s => s.params.map fun cp => bareNumber (subst d.fields cp.2)) = some [true, true, true, true] := by
  decide +kernel

/-- `pwritev`'s file offset (position 3) is the signed whole-word form. -/
example : ∃ d ∈ decoders, d.key = 1673608366272881977623213759198946678 ∧
    (d.shape.map fun s => s.params.map fun cp => subst d.fields cp.2)
      = some [.strOf (.startArg 0), .hexOf (.startArg 1), .strOf (.startArg 2), .strOf (.cInt64 (.startArg 3))] := by
  decide +kernel

/-! ### Which START record: the window the pipeline hands to a decoder

  C04 proves that the event list delivered when an END arrives is `s :: body ++ [e]` where `s` is the most
  recent still-open START of the END's thread and code (`C04.window_shape`, `window_head_is_last_start`,
  `window_last_is_end`).  The decoder's view of that list takes its START words from the head and its END
  words from the last element — so "the START argument" above is the argument of the *matching* START. -/

theorem mkWindow_words (env : Trace.Env) (t : Trace.Tabs) (evs : List Kevent) (need : Bool) (w : Window)
    (hw : Trace.mkWindow env t evs need = .ok w) :
    w.startArgs = (evs.head?.getD default).values ∧ w.startTid = (evs.head?.getD default).tid ∧
      w.startData = (evs.head?.getD default).data ∧ w.endArgs = (evs.getLast?.getD default).values := by
  unfold Trace.mkWindow at hw
  split at hw
  all_goals
    obtain ⟨v, _, hw⟩ := bind_eq_ok hw
    cases hw
    exact ⟨rfl, rfl, rfl, rfl⟩

/-- The window a generated decoder sees: START words / thread of the first event, END words of the last. -/
theorem window_words (env : Trace.Env) (t : Trace.Tabs) (s e : Kevent) (body : List Kevent) (need : Bool)
    (w : Window) (hw : Trace.mkWindow env t (s :: body ++ [e]) need = .ok w) :
    w.startArgs = s.values ∧ w.startTid = s.tid ∧ w.startData = s.data ∧ w.endArgs = e.values := by
  have h := mkWindow_words env t _ need w hw
  rwa [List.getLast?_concat] at h

/-- A single NONE/ALL event is its own window: both the START and the END words are its own. -/
theorem single_window_words (env : Trace.Env) (t : Trace.Tabs) (e : Kevent) (need : Bool)
    (w : Window) (hw : Trace.mkWindow env t [e] need = .ok w) :
    w.startArgs = e.values ∧ w.endArgs = e.values :=
  have h := mkWindow_words env t [e] need w hw
  ⟨h.1, h.2.2.2⟩

/-- `BSC_pread` is in the table, is syscall-like and shaped; its parameters at positions 0..3 are the
    decimal / hex / decimal / hex renderings of START words 0..3. -/
example : ∃ d ∈ decoders, d.key = 5945851335799623475556 ∧ syscallLike d = true ∧
    (d.shape.map fun s => s.params.map fun cp => subst d.fields cp.2) =
      some [.strOf (.startArg 0), .hexOf (.startArg 1), .strOf (.startArg 2), .hexOf (.startArg 3)] := by
  decide +kernel

end KdVerif.C09
