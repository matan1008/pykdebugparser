import KdVerif.Model.Callstacks
import KdVerif.Spec.Callstacks
import KdVerif.Proofs.Callstacks
import KdVerif.Proofs.PyIRCs
import KdVerif.Gen.PyIRCs
/-
  C15 — callstacks take the sampled frames and attribute each to the right image.

  Model: `Model/Callstacks` (`bisect` as the lo/hi loop on an arbitrary list, `insertImage`,
  `lookupFrame`, `csFrames`, `feed`).  Vocabulary: `Spec/Callstacks` (`Inv`, `pairs`, `announcedAll`,
  `FirstAnnounced`, `Attributed`, `qualifies`).  Every theorem is for ALL announcement sequences /
  windows / streams; no size bound anywhere.
-/
namespace KdVerif.C15
open KdVerif.Callstacks

/-- `bisect` never raises and answers inside `0..len`, on ANY list (sorted or not): the element
    access `a[mid]` is always in range and the loop ends within `len + 1` iterations. -/
theorem bisect_total (a : List Nat) (x : Nat) : ∃ r, bisect a x = .ok r ∧ r ≤ a.length := by
  obtain ⟨r, h1, _, h3, _⟩ := bisectGo_spec a x (a.length + 1) 0 a.length (Nat.zero_le _) (Nat.le_refl _) (Nat.lt_succ_self _)
  exact ⟨r, h1, h3⟩

/-- On an ascending list `bisect` (= `bisect_right`) is the number of elements `≤ x`, and it splits
    the list into the elements `≤ x` and the elements `> x`. -/
theorem bisect_is_upper_bound (a : List Nat) (x : Nat) (hs : a.Pairwise (· ≤ ·)) :
    bisect a x = .ok (a.filter (· ≤ x)).length ∧
    (∀ y ∈ a.take (a.filter (· ≤ x)).length, y ≤ x) ∧ (∀ y ∈ a.drop (a.filter (· ≤ x)).length, x < y) := by
  obtain ⟨r, h1, h2, h3, h4⟩ := bisect_sorted a x hs
  have := partition_point_unique a x r h2 h3 h4
  subst this
  exact ⟨h1, h3, h4⟩

/-- One insertion keeps the invariant (and never raises). -/
theorem insert_preserves (st : Images) (a : Nat) (u : Uuid) (h : Inv st) :
    ∃ st', insertImage st a u = .ok st' ∧ Inv st' ∧ (∀ y, y ∈ st'.addrs ↔ y ∈ st.addrs ∨ y = a) := by
  obtain ⟨st', h1, h2, h3, _⟩ := insertImage_spec st a u h
  exact ⟨st', h1, h2, h3⟩

/-- Invariant: after EVERY sequence of insertions from the empty lists the addresses are strictly
    ascending, the two lists have equal length, and the addresses present are exactly the announced ones. -/
theorem insert_sorted (anns : List (Nat × Uuid)) :
    ∃ st, insertAll Images.empty anns = .ok st ∧
      st.addrs.Pairwise (· < ·) ∧ st.addrs.length = st.uuids.length ∧
      ∀ y, y ∈ st.addrs ↔ y ∈ anns.map Prod.fst := by
  obtain ⟨st, h1, h2, h3, _⟩ := insertAll_spec anns Images.empty inv_empty
  refine ⟨st, h1, h2.1, h2.2, ?_⟩
  intro y; rw [h3]; simp [Images.empty]

/-- On a strictly ascending table `bisect − 1` attributes the frame to the image with the greatest load
    address `≤ frame`; the offset is `frame − address` (a natural number: no underflow); no image is
    reported iff every address is above the frame.  Never raises. -/
theorem lookup_greatest_le (st : Images) (h : Inv st) (f : Nat) :
    ∃ fr, lookupFrame st f = .ok fr ∧ fr.address = f ∧
      (fr.image = none ↔ ∀ a ∈ st.addrs, f < a) ∧
      (∀ u off, fr.image = some (u, off) →
        ∃ a, (a, u) ∈ pairs st ∧ a ≤ f ∧ off = ((f - a : Nat) : Int) ∧ ∀ a' ∈ st.addrs, a' ≤ f → a' ≤ a) :=
  lookupFrame_spec st h f

/-- The table after any announcement sequence holds exactly the FIRST identity of every announced address. -/
theorem table_is_first_identities (anns : List (Nat × Uuid)) :
    ∃ st, insertAll Images.empty anns = .ok st ∧ Inv st ∧
      ∀ a u, (a, u) ∈ pairs st ↔ FirstAnnounced anns a u := by
  obtain ⟨st, h1, h2, _, h4⟩ := insertAll_spec anns Images.empty inv_empty
  refine ⟨st, h1, h2, ?_⟩
  intro a u; rw [h4]; simp [Images.empty, pairs, FirstAnnounced]

theorem firstAnnounced_perm {anns₁ anns₂ : List (Nat × Uuid)} (hp : anns₁.Perm anns₂)
    (hd : (anns₁.map Prod.fst).Nodup) (a : Nat) (u : Uuid) :
    FirstAnnounced anns₁ a u ↔ FirstAnnounced anns₂ a u := by
  unfold FirstAnnounced
  rw [find_of_nodup_keys _ hd, find_of_nodup_keys _ ((hp.map Prod.fst).nodup_iff.1 hd)]
  exact hp.mem_iff

/-- For pairwise distinct load addresses any permutation of the announcements yields the same two lists. -/
theorem insert_order_independent (anns₁ anns₂ : List (Nat × Uuid)) (hp : anns₁.Perm anns₂)
    (hd : (anns₁.map Prod.fst).Nodup) :
    insertAll Images.empty anns₁ = insertAll Images.empty anns₂ := by
  obtain ⟨s₁, e₁, i₁, c₁⟩ := table_is_first_identities anns₁
  obtain ⟨s₂, e₂, i₂, c₂⟩ := table_is_first_identities anns₂
  rw [e₁, e₂]
  congr 1
  apply images_ext s₁ s₂ i₁ i₂
  rintro ⟨a, u⟩
  rw [c₁, c₂]
  exact firstAnnounced_perm hp hd a u

/-- An address announced again keeps its first identity: if `(a, u)` is announced and `a` was not
    announced before it, the final table maps `a` to `u` and to nothing else — whatever follows. -/
theorem first_identity_kept (before after : List (Nat × Uuid)) (a : Nat) (u : Uuid)
    (hfirst : a ∉ before.map Prod.fst) :
    ∃ st, insertAll Images.empty (before ++ (a, u) :: after) = .ok st ∧
      (a, u) ∈ pairs st ∧ ∀ u', (a, u') ∈ pairs st → u' = u := by
  obtain ⟨st, e, _, c⟩ := table_is_first_identities (before ++ (a, u) :: after)
  have hf : FirstAnnounced (before ++ (a, u) :: after) a u := by
    unfold FirstAnnounced
    rw [List.find?_append]
    have : before.find? (fun p => p.1 = a) = none := by
      rw [List.find?_eq_none]
      intro p hp hpa
      exact hfirst (List.mem_map.2 ⟨p, hp, by simpa using hpa⟩)
    simp [this]
  refine ⟨st, e, (c a u).2 hf, ?_⟩
  intro u' hu'
  have := (c a u').1 hu'
  unfold FirstAnnounced at this hf
  rw [hf] at this
  simp only [Option.some.injEq, Prod.mk.injEq, true_and] at this
  exact this.symm

/-- Over the `SamplerAction` enum reflected from the source, "user stack requested" is bit 3 (value 8)
    of the START record's first word. -/
theorem ustack_is_bit3 (flags : Nat) : ustackSet flags = true ↔ 8 &&& flags ≠ 0 := ustackSet_iff flags

/-- The frames of a sample: present iff bit 3 of the START's first word is set and the window holds a
    stack-header record; then they are the first `N` words (`N` = second word of the FIRST header) of the
    window's stack-data records chained in stream order — word `k` is word `k % 4` of data record `k / 4`. -/
theorem frames_spec (first : Rec) (rest : List Rec) :
    (csFrames first rest = none ↔
      (8 &&& first.a0 = 0 ∨ (first :: rest).filter (·.name = "PERF_STK_UHdr") = [])) ∧
    ∀ frs, csFrames first rest = some frs →
      ∃ h, ((first :: rest).filter (·.name = "PERF_STK_UHdr")).head? = some h ∧ 8 &&& first.a0 ≠ 0 ∧
        frs = (((first :: rest).filter (·.name = "PERF_STK_UData")).flatMap Rec.words).take h.a1 ∧
        frs.length = min h.a1 (4 * ((first :: rest).filter (·.name = "PERF_STK_UData")).length) ∧
        ∀ k, k < frs.length →
          frs[k]? = (((first :: rest).filter (·.name = "PERF_STK_UData"))[k / 4]?).bind
            (fun r => r.words[k % 4]?) := by
  unfold csFrames
  by_cases hb : 8 &&& first.a0 = 0
  · have : ustackSet first.a0 = false := by
      rw [← Bool.not_eq_true, ustackSet_iff]; simpa using hb
    simp [this, hb]
  · have hu : ustackSet first.a0 = true := (ustackSet_iff _).2 hb
    simp only [hu, if_true, hb, false_or]
    cases hh : (first :: rest).filter (·.name = "PERF_STK_UHdr") with
    | nil => simp
    | cons h t =>
      refine ⟨by simp, ?_⟩
      intro frs hfrs
      simp only [Option.some.injEq] at hfrs
      subst hfrs
      refine ⟨h, rfl, by simpa using hb, rfl, ?_, ?_⟩
      · rw [List.length_take, words_flatMap_length]
      · intro k hk
        rw [List.length_take] at hk
        rw [List.getElem?_take, if_pos (by omega), words_flatMap_getElem?]

/-- Exactly one callstack per qualifying sample and none otherwise; it carries the timestamp and thread of
    the window's first record (the START) and one frame per sampled word, in order; the table is untouched. -/
theorem one_callstack_per_sample (st : Images) (h : Inv st) (first : Rec) (rest : List Rec) :
    ∃ o, step st (.sample first rest) = .ok (st, o) ∧
      (csFrames first rest = none → o = none) ∧
      ∀ frs, csFrames first rest = some frs →
        ∃ c, o = some c ∧ c.timestamp = first.ts ∧ c.tid = first.tid ∧ c.frames.map (·.address) = frs := by
  cases hc : csFrames first rest with
  | none =>
    refine ⟨none, ?_, ?_, ?_⟩
    · simp [step, hc]
    · intro _; rfl
    · intro frs h'; cases h'
  | some frs =>
    obtain ⟨frames, e1, e2, _⟩ := lookupAll_spec st h frs
    refine ⟨some ⟨first.ts, first.tid, frames⟩, ?_, ?_, ?_⟩
    · simp [step, hc, e1]
    · intro h'; cases h'
    · intro frs' h'; cases h'
      exact ⟨_, rfl, rfl, rfl, e2⟩

/-- The image list of a launch is a stable sort by load address of the window's map records followed by
    its shared-cache records: a permutation, ascending, and records with equal address keep their order
    (so the first record of every address is the same before and after sorting). -/
theorem launch_list_stable_sorted (imgs : List (Nat × Uuid)) :
    (sortByAddr imgs).Perm imgs ∧ (sortByAddr imgs).Pairwise (fun p q => p.1 ≤ q.1) ∧
    ∀ a, (sortByAddr imgs).filter (fun p => p.1 = a) = imgs.filter (fun p => p.1 = a) :=
  ⟨sortByAddr_perm imgs, sortByAddr_sorted imgs, sortByAddr_filter imgs⟩

/-- What a launch announces first for an address is the first map record with it, else the first
    shared-cache record with it — the sort does not change first identities. -/
theorem launch_first_identity (imgs : List (Nat × Uuid)) (a : Nat) (u : Uuid) :
    FirstAnnounced (announced (.launch imgs)) a u ↔ FirstAnnounced imgs a u := by
  unfold FirstAnnounced announced
  rw [sortByAddr_find?]

theorem attributed_of_lookup (anns : List (Nat × Uuid)) (st : Images)
    (hst : insertAll Images.empty anns = .ok st) (fr : Frame) (hl : lookupFrame st fr.address = .ok fr) :
    Attributed anns fr := by
  obtain ⟨st', e, i, c⟩ := table_is_first_identities anns
  obtain ⟨st'', e', _, _, m⟩ := insert_sorted anns
  rw [hst] at e e'
  cases e; cases e'
  obtain ⟨fr', l1, _, l3, l4⟩ := lookupFrame_spec st i fr.address
  rw [hl] at l1
  cases l1
  refine ⟨?_, ?_⟩
  · rw [l3]
    constructor
    · intro hh p hp; exact hh p.1 ((m p.1).2 (List.mem_map.2 ⟨p, hp, rfl⟩))
    · intro hh a ha
      obtain ⟨p, hp, rfl⟩ := List.mem_map.1 ((m a).1 ha)
      exact hh p hp
  · intro u off hu
    obtain ⟨a, h1, h2, h3, h4⟩ := l4 u off hu
    refine ⟨a, (c a u).1 h1, h2, h3, ?_⟩
    intro p hp hle
    exact h4 p.1 ((m p.1).2 (List.mem_map.2 ⟨p, hp, rfl⟩)) hle

/-- **Top level.**  For an arbitrary stream of image announcements, launches, samples and other traces,
    fed from empty image lists (as every `callstacks()` request is): nothing raises; there is exactly one
    callstack per qualifying sample, in stream order; the callstack of the sample at any position carries the
    START's timestamp and thread, its frame addresses are the sampled words, and EVERY frame is attributed
    with respect to exactly the announcements made EARLIER in the stream (`announcedAll pre`): to the first
    identity of the greatest announced load address not above it, with offset `frame − address`, or to no
    image iff all announced addresses are above it. -/
theorem callstacks_spec (s : List Item) :
    ∃ cs, feed s = .ok cs ∧ cs.length = (s.filter qualifies).length ∧
      ∀ pre first rest post frs, s = pre ++ Item.sample first rest :: post →
        csFrames first rest = some frs →
        ∃ c, cs[(pre.filter qualifies).length]? = some c ∧ c.timestamp = first.ts ∧ c.tid = first.tid ∧
          c.frames.map (·.address) = frs ∧ ∀ fr ∈ c.frames, Attributed (announcedAll pre) fr := by
  obtain ⟨st', cs, e, _, _, hl, hs⟩ := feedFrom_spec s Images.empty inv_empty
  refine ⟨cs, by simp [feed, e], hl, ?_⟩
  intro pre first rest post frs hsplit hc
  obtain ⟨stm, frames, e1, i1, e2, e3⟩ := hs pre first rest post frs hsplit hc
  obtain ⟨frames', e4, e5, e6⟩ := lookupAll_spec stm i1 frs
  rw [e2] at e4
  cases e4
  refine ⟨_, e3, rfl, rfl, e5, ?_⟩
  intro fr hfr
  exact attributed_of_lookup _ stm e1 fr (e6 fr hfr)

/-- Later announcements never change an earlier callstack: the callstacks of a prefix of the stream are a
    prefix of the callstacks of the whole stream. -/
theorem callstacks_prefix (s t : List Item) :
    ∃ cs cs', feed s = .ok cs ∧ feed (s ++ t) = .ok (cs ++ cs') := by
  obtain ⟨st', cs, e, i, _⟩ := feedFrom_spec s Images.empty inv_empty
  obtain ⟨st'', cs', e', _⟩ := feedFrom_spec t st' i
  exact ⟨cs, cs', by simp [feed, e], by simp [feed, feedFrom_append, e, e']⟩

/-- The attribution demanded by the property is a function of the history and the frame address:
    the specification pins the answer down completely. -/
theorem attributed_unique (anns : List (Nat × Uuid)) (fr fr' : Frame) (ha : fr.address = fr'.address)
    (h : Attributed anns fr) (h' : Attributed anns fr') : fr = fr' := by
  obtain ⟨f, im⟩ := fr
  obtain ⟨f', im'⟩ := fr'
  simp only at ha
  subst ha
  -- both sides say "no image" under the same condition on the history
  have hn : im = none ↔ im' = none := h.1.trans h'.1.symm
  cases im with
  | none => rw [hn.1 rfl]
  | some p =>
    cases im' with
    | none => cases hn.2 rfl
    | some p' =>
      obtain ⟨u, off⟩ := p
      obtain ⟨u', off'⟩ := p'
      obtain ⟨a, h1, h2, h3, h4⟩ := h.2 u off rfl
      obtain ⟨a', h1', h2', h3', h4'⟩ := h'.2 u' off' rfl
      have e1 := h4 (a', u') (List.mem_of_find?_eq_some h1') h2'
      have e2 := h4' (a, u) (List.mem_of_find?_eq_some h1) h2
      simp only at e1 e2 h2 h2'
      have : a = a' := by omega
      subst this
      unfold FirstAnnounced at h1 h1'
      rw [h1] at h1'
      simp only [Option.some.injEq, Prod.mk.injEq, true_and] at h1'
      subst h1'
      rw [h3, h3']

/-- Stream-level order independence: reordering announcements of pairwise distinct load addresses
    does not change what any frame must be attributed to. -/
theorem attributed_perm (anns₁ anns₂ : List (Nat × Uuid)) (hp : anns₁.Perm anns₂)
    (hd : (anns₁.map Prod.fst).Nodup) (fr : Frame) : Attributed anns₁ fr ↔ Attributed anns₂ fr := by
  have hm : ∀ p, p ∈ anns₁ ↔ p ∈ anns₂ := fun p => hp.mem_iff
  unfold Attributed
  simp only [firstAnnounced_perm hp hd, hm]

private instance exceptDecEq {ε α : Type} [DecidableEq ε] [DecidableEq α] : DecidableEq (Except ε α)
  | .ok a, .ok b => if h : a = b then isTrue (by rw [h]) else isFalse (by intro e; cases e; exact h rfl)
  | .error a, .error b => if h : a = b then isTrue (by rw [h]) else isFalse (by intro e; cases e; exact h rfl)
  | .ok _, .error _ => isFalse (by intro e; cases e)
  | .error _, .ok _ => isFalse (by intro e; cases e)

private def hdr (n : Nat) : Rec := ⟨"PERF_STK_UHdr", 11, 9, 1, n, 0, 0, []⟩
private def dat (a b c d : Nat) : Rec := ⟨"PERF_STK_UData", 12, 9, a, b, c, d, []⟩
private def start (flags : Nat) : Rec := ⟨"PERF_Event", 10, 9, flags, 0, 0, 0, []⟩

/-- Two images announced out of order, one announced again with another identity, a launch whose list
    holds equal addresses; a five-frame sample probing below / at / above the load addresses; an
    announcement after the sample does not affect it; header-less and flag-less samples give nothing. -/
example :
    feed [.image 100 [1], .image 50 [2], .image 100 [3], .launch [(70, [5]), (60, [4]), (70, [6])],
          .sample (start 8) [hdr 5, dat 49 50 99 100, dat 75 7 7 7],
          .image 40 [9], .sample (start 8) [dat 1 2 3 4], .sample (start 7) [hdr 1, dat 1 2 3 4]]
      = .ok [⟨10, 9, [⟨49, none⟩, ⟨50, some ([2], 0)⟩, ⟨99, some ([5], 29)⟩, ⟨100, some ([1], 0)⟩,
                       ⟨75, some ([5], 5)⟩]⟩] := by
  decide +kernel

example : insertAll Images.empty [(100, [1]), (50, [2]), (100, [3]), (51, [4])]
    = .ok ⟨[50, 51, 100], [[2], [4], [1]]⟩ := by decide +kernel

example : bisect [5, 1, 9, 2] 4 = .ok 2 ∧ bisect [1, 3, 3, 7] 3 = .ok 3 ∧ bisect [] 0 = .ok 0 := by
  decide +kernel

/-- The hypotheses of `insert_order_independent` / `first_identity_kept` are met by real inputs. -/
example : insertAll Images.empty [(3, [1]), (1, [2]), (2, [3])] = insertAll Images.empty [(1, [2]), (2, [3]), (3, [1])] :=
  insert_order_independent _ _ (by decide) (by decide)

example : ∃ st, insertAll Images.empty ([(3, [1])] ++ (5, [7]) :: [(5, [8]), (4, [2])]) = .ok st ∧
    (5, [7]) ∈ pairs st ∧ ∀ u', (5, u') ∈ pairs st → u' = [7] :=
  first_identity_kept _ _ _ _ (by decide)

/-- The frames of the concrete sample above, by `frames_spec`'s reading. -/
example : csFrames (start 8) [hdr 5, dat 49 50 99 100, dat 75 7 7 7] = some [49, 50, 99, 100, 75] := by
  decide +kernel

/-! Translation tie: the source text of `CallstacksParser` and of `PyKdebugParser.callstacks`, interpreted, is the model

  `tools/gen_pyir.py` translates `CallstacksParser.__init__`, `insert_image` and the WHOLE `feed_generator` (the loop over
  the traces, the three-way `isinstance` dispatch, the frame loop, the `yield`, the calls of `self.insert_image`) of
  `callstacks_parser.py`, and `PyKdebugParser.callstacks` of `pykdebugparser.py`, into the Python-subset IR of
  `Model/PyIRCs` (`Gen/PyIRCs.lean`, on every run, pure `ast`); `PyIRCs.run` / `runFeed` / `runRequest` interpret them on
  the two lists.  `bisect` is a primitive of that interpreter whose meaning is `Callstacks.bisect`; `self.insert_image(…)` is
  answered by interpreting the translated `insert_image`. -/

/-- The terms generated from the source text are, node for node, the ones the theorems below were proved for
    (`Spec/PyIRCsExpected`, quoting the Python): `insert_image`, the frame loop, `__init__`, the whole `feed_generator`,
    `PyKdebugParser.callstacks`; and the translator met nothing it could not express. -/
theorem source_is_expected_ir :
    Gen.PyIRCs.insertImage = PyIRCs.Expected.insertImage ∧ Gen.PyIRCs.frameLoop = PyIRCs.Expected.frameLoop ∧
    Gen.PyIRCs.notes = [] ∧
    Gen.PyIRCs.init = PyIRCs.Expected.init ∧ Gen.PyIRCs.feedGenerator = PyIRCs.Expected.feedGenerator ∧
    Gen.PyIRCs.callstacks = PyIRCs.Expected.callstacks := ⟨rfl, rfl, rfl, rfl, rfl, rfl⟩

theorem prog_is_expected : Gen.PyIRCs.prog = PyIRCs.Expected.prog := by
  obtain ⟨h1, _, _, h4, h5, h6⟩ := source_is_expected_ir
  simp only [Gen.PyIRCs.prog, PyIRCs.Expected.prog, h1, h4, h5, h6]

/-- `insert_image(a, u)` of the source, interpreted on ANY pair of lists, is `Callstacks.insertImage`: returns
    `None`, leaves exactly the model's lists, raises exactly when the model's `bisect` does. -/
theorem insert_image_ir_eq_model (st : Images) (a : Nat) (u : Uuid) :
    PyIRCs.run Gen.PyIRCs.insertImage [.int a, .uuid u] st =
      match insertImage st a u with
      | .ok st' => .ok (.none, st')
      | .error e => .error e := by
  rw [source_is_expected_ir.1]; exact PyIRCs.run_insertImage st a u

/-- The frame loop of the source, interpreted on ANY pair of lists and any sample (`ktraces`, `cs_frames`), builds
    exactly `Callstacks.lookupAll` (same frames in the same order, same `IndexError` where the model has one) and does
    not touch the lists. -/
theorem frame_loop_ir_eq_model (st : Images) (kts : List PyIRCs.KT) (cs : List Nat) :
    PyIRCs.run Gen.PyIRCs.frameLoop [.trace (.sample kts (some cs))] st =
      match lookupAll st cs with
      | .ok frs => .ok (.frames (frs.map PyIRCs.ofFrame), st)
      | .error e => .error e := by
  rw [source_is_expected_ir.2.1]; exact PyIRCs.run_frameLoop st kts cs

/-- The WHOLE `feed_generator` of the source — `for trace in generator`, the dispatch
    `isinstance(trace, PerfEvent) and trace.cs_frames is not None` / `isinstance(trace, DyldUuidMapA)` /
    `isinstance(trace, DyldLaunchExecutable)`, the frame loop, `yield Callstack(trace.ktraces[0].timestamp,
    trace.ktraces[0].tid, frames)`, `self.insert_image(…)` answered by the translated `insert_image` — interpreted on
    EVERY list of trace items and EVERY pair of initial lists (parallel or not, sorted or not) is the hand model
    `Callstacks.feedFrom`: where the model delivers, the generator yields the same callstacks in the same order and leaves
    the same two lists; where the model raises (an `IndexError` of `dyld_uuids[index_]` on lists of unequal length), the
    generator raises the same exception, at the same item, after yielding exactly the callstacks of the items before it.
    (`traceOf`: the trace object of an item — a sample's `ktraces` are the records of its window and its `cs_frames`
    what `handle_event` computed, a launch's `uuid_map_a` is the sorted list.) -/
theorem feed_generator_ir_eq_model (st : Images) (s : List Item) :
    match feedFrom st s with
    | .ok (st', cs) =>
      PyIRCs.runFeed Gen.PyIRCs.prog (s.map PyIRCs.traceOf) none st =
        (cs.map (fun c => PyIRCs.Val.callstack (PyIRCs.ofCallstack c)), .ok st')
    | .error e =>
      ∃ pre it post st₁ cs, s = pre ++ it :: post ∧ feedFrom st pre = .ok (st₁, cs) ∧ step st₁ it = .error e ∧
        PyIRCs.runFeed Gen.PyIRCs.prog (s.map PyIRCs.traceOf) none st =
          (cs.map (fun c => PyIRCs.Val.callstack (PyIRCs.ofCallstack c)), .error e) := by
  rw [prog_is_expected, PyIRCs.runFeed_expected]
  have h := PyIRCs.feedTrace_traceOf s st
  cases hf : feedFrom st s with
  | ok p => rw [hf] at h; simp only [h, PyIRCs.thenRaise]
  | error e =>
    rw [hf] at h
    obtain ⟨pre, it, post, st₁, cs, h1, h2, h3, h4⟩ := h
    exact ⟨pre, it, post, st₁, cs, h1, h2, h3, by simp only [h4, PyIRCs.thenRaise]⟩

/-- The same on trace OBJECTS (not only those that come from windows): the interpreted `feed_generator` is
    `PyIRCs.feedTrace` — per trace `lookupAll` stamped by `ktraces[0]` / `insertImage` / `insertAll` / nothing —, and an
    exception of the trace generator itself surfaces after everything it delivered was consumed. -/
theorem feed_generator_ir_eq_trace_model (st : Images) (ts : List PyIRCs.Trace) (err : Option PyErr) :
    PyIRCs.runFeed Gen.PyIRCs.prog ts err st = PyIRCs.thenRaise err (PyIRCs.feedTrace st ts) := by
  rw [prog_is_expected]; exact PyIRCs.runFeed_expected ts err st

/-- `PyKdebugParser.callstacks(kdebug, trace_codes)` of the source
    (`self.dyld_addresses.clear(); self.dyld_uuids.clear(); callstacks_parser = CallstacksParser(self.dyld_addresses,
    self.dyld_uuids); return callstacks_parser.feed_generator(self.traces(kdebug, trace_codes))`, with
    `CallstacksParser.__init__` storing its two arguments), interpreted on an object whose two lists hold ANYTHING
    (the images of earlier requests), for every list of traces `self.traces(kdebug, trace_codes)` delivers (and every
    exception it ends with): the request is the translated `feed_generator` over the traces of THIS request run from
    EMPTY image lists, on exactly the object's two list objects (they hold the request's images afterwards). -/
theorem callstacks_request_ir_eq_model (st₀ : Images) (ts : List PyIRCs.Trace) (err : Option PyErr) :
    PyIRCs.runRequest Gen.PyIRCs.prog ts err st₀ = PyIRCs.runFeed Gen.PyIRCs.prog ts err Images.empty := by
  rw [prog_is_expected]; exact PyIRCs.runRequest_expected ts err st₀

/-- … hence the model's "every request is `feed` of its own dump" (`Callstacks.feed`, the subject of `callstacks_spec`)
    is what the interpreted source does: for the trace objects of ANY item list and ANY earlier contents of the two
    lists, the translated `callstacks()` never raises and yields exactly the callstacks of `feed`, in order. -/
theorem callstacks_request_is_feed (st₀ : Images) (s : List Item) :
    ∃ cs st', feed s = .ok cs ∧
      PyIRCs.runRequest Gen.PyIRCs.prog (s.map PyIRCs.traceOf) none st₀ =
        (cs.map (fun c => PyIRCs.Val.callstack (PyIRCs.ofCallstack c)), .ok st') := by
  obtain ⟨st', cs, e, _⟩ := feedFrom_spec s Images.empty inv_empty
  have h := feed_generator_ir_eq_model Images.empty s
  rw [e] at h
  exact ⟨cs, st', by simp [feed, e], by rw [callstacks_request_ir_eq_model]; exact h⟩

/-- announcing through the generated `insert_image` -/
def insIR (r : Except PyErr Images) (a : Nat) (u : Uuid) : Except PyErr Images :=
  match r with
  | .ok st => (PyIRCs.run Gen.PyIRCs.insertImage [.int a, .uuid u] st).map (·.2)
  | .error e => .error e

/-- non-vacuity: 0x30, 0x10, 0x20, 0x10 (again) announced through the generated `insert_image` … -/
example : insIR (insIR (insIR (insIR (.ok Images.empty) 0x30 [3]) 0x10 [1]) 0x20 [2]) 0x10 [9] =
    .ok ⟨[0x10, 0x20, 0x30], [[1], [2], [3]]⟩ := by decide +kernel

/-- … then the frames 0x5, 0x10, 0x2f, 0x31 through the generated loop. -/
example : (PyIRCs.run Gen.PyIRCs.frameLoop [.trace (.sample [] (some [0x5, 0x10, 0x2f, 0x31]))]
      ⟨[0x10, 0x20, 0x30], [[1], [2], [3]]⟩).map (·.1) =
    .ok (.frames [⟨0x5, none, none⟩, ⟨0x10, some [1], some 0⟩, ⟨0x2f, some [2], some 0xf⟩, ⟨0x31, some [3], some 1⟩]) := by
  decide +kernel

private instance prodExceptDecEq {α ε β : Type} [DecidableEq α] [DecidableEq ε] [DecidableEq β] :
    DecidableEq (α × Except ε β) := inferInstance

/-- The concrete trace list of the examples below: a sample BEFORE any image is known; image announcements in
    DESCENDING order (0x30, 0x20, 0x10); a duplicate address (0x20 again, another identity: ignored); a sample without
    frames (`cs_frames is None`); an unrelated trace; a launch trace with two images (0x18, 0x40 — sorted); a sample AFTER. -/
def exTraces : List PyIRCs.Trace :=
  [.sample [⟨100, 7⟩, ⟨101, 8⟩] (some [0x25]),
   .image 0x30 [3], .image 0x20 [2], .image 0x10 [1], .image 0x20 [9],
   .sample [⟨110, 7⟩] none, .other,
   .launch [(0x18, [4]), (0x40, [5])],
   .sample [⟨120, 9⟩, ⟨121, 9⟩] (some [0x5, 0x10, 0x1f, 0x2f, 0x31, 0x41])]

/-- non-vacuity: the GENERATED `feed_generator` run on it from empty lists: two callstacks, stamped by `ktraces[0]`, the
    first with an unattributed frame, the second attributed against the five first identities; final lists sorted. -/
example : PyIRCs.runFeed Gen.PyIRCs.prog exTraces none Images.empty =
    ([.callstack ⟨100, 7, [⟨0x25, none, none⟩]⟩,
      .callstack ⟨120, 9, [⟨0x5, none, none⟩, ⟨0x10, some [1], some 0⟩, ⟨0x1f, some [4], some 7⟩,
                           ⟨0x2f, some [2], some 0xf⟩, ⟨0x31, some [3], some 1⟩, ⟨0x41, some [5], some 1⟩]⟩],
     .ok ⟨[0x10, 0x18, 0x20, 0x30, 0x40], [[1], [4], [2], [3], [5]]⟩) := by decide +kernel

/-- … the GENERATED `callstacks()` on an object that still holds the images of an earlier request (0x1 and 0x26, which
    would attribute frame 0x25 of the first sample and frame 0x5 of the last): same answer as from empty lists. -/
example : PyIRCs.runRequest Gen.PyIRCs.prog exTraces none ⟨[0x1, 0x26], [[0xaa], [0xbb]]⟩ =
    PyIRCs.runFeed Gen.PyIRCs.prog exTraces none Images.empty := by decide +kernel

/-- … without the clearing the stale images WOULD show (the interpreter can tell the difference): -/
example : (PyIRCs.runFeed Gen.PyIRCs.prog exTraces none ⟨[0x1, 0x26], [[0xaa], [0xbb]]⟩).1 ≠
    (PyIRCs.runFeed Gen.PyIRCs.prog exTraces none Images.empty).1 := by decide +kernel

/-- … lists of unequal length: the `IndexError` of `self.dyld_uuids[index_]` comes after the first callstack (frame 0x25 is
    below every address) and the insertions were made; the generator's own exception surfaces only at its end. -/
example : PyIRCs.runFeed Gen.PyIRCs.prog exTraces none ⟨[0x28], []⟩ =
    ([.callstack ⟨100, 7, [⟨0x25, none, none⟩]⟩], .error .indexError) := by decide +kernel
example : (PyIRCs.runFeed Gen.PyIRCs.prog (exTraces.take 5) (some .eof) Images.empty).2 = .error .eof := by decide +kernel

/-- … and the trace objects of the model's items (`feed_generator_ir_eq_model` on the stream of the first example of this
    file). -/
example : (PyIRCs.runFeed Gen.PyIRCs.prog
      ([Item.image 100 [1], .image 50 [2], .image 100 [3], .launch [(70, [5]), (60, [4]), (70, [6])],
        .sample (start 8) [hdr 5, dat 49 50 99 100, dat 75 7 7 7]].map PyIRCs.traceOf) none Images.empty) =
    ([.callstack ⟨10, 9, [⟨49, none, none⟩, ⟨50, some [2], some 0⟩, ⟨99, some [5], some 29⟩, ⟨100, some [1], some 0⟩,
                          ⟨75, some [5], some 5⟩]⟩],
     .ok ⟨[50, 60, 70, 100], [[2], [4], [5], [1]]⟩) := by decide +kernel

end C15
end KdVerif
