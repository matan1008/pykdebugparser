import KdVerif.Proofs.IRDecoders
import KdVerif.Spec.DarwinHost
/-
  C18 — output is a function of the dump, not of the host operating system.

  The host interpreter's tables are a PARAMETER (`IR.Host`) of `IR.render`, so host (in)dependence is a
  statement about the generated decoder IR.  What is proved: exactly which decoders consult a host table
  and which one; every other decoder renders identically under ANY two hosts; a host-reading decoder
  renders identically under two hosts that agree on the tables it reads — in particular under the running
  host and under Darwin wherever the two tables agree.  That the running host's tables differ from
  Darwin's (Linux: errno 35, address family 30, SOL_SOCKET, …) is the known finding K2, demonstrated on the
  real code by the check.
-/
namespace KdVerif.C18
open KdVerif.IR KdVerif.DecoderFacts

/-- Everything except the host. -/
def noHostSel : Sel :=
  { startAll := true, endA := true, tid := true, data := true, lookups := true, gstr := true, tpids := true,
    tnames := true, fields := true }

def noErrnoSel : Sel := { noHostSel with host := true }
def onlyErrnoSel : Sel := { noHostSel with hostErrno := true }

def hostFree (d : Decoder) : Bool := d.fields.all (within noHostSel) && within noHostSel d.str
def errnoFree (d : Decoder) : Bool := d.fields.all (within noErrnoSel) && within noErrnoSel d.str
def enumFree (d : Decoder) : Bool := d.fields.all (within onlyErrnoSel) && within onlyErrnoSel d.str

/-- The six decoders that name a signal, an address family, a socket type or the SOL_SOCKET level through
    the host interpreter's `signal` / `socket` modules (K2 call sites). -/
def hostEnumReaders : List Nat :=
  [ 1522137941967989226825076                         -- BSC_socket
  , 25537237034191989113449274240878                  -- BSC_sigaction
  , 6537532680696407970100676857393268                -- BSC_getsockopt
  , 6537532680753076367895112599957620                -- BSC_setsockopt
  , 6537532680753259608094029218146674                -- BSC_socketpair
  , 7188093199453813417513377577131345595261351013 ]  -- BSC_socket_delegate

/-- Exactly the six listed decoders read a host enum table / SOL_SOCKET; a new read breaks this theorem. -/
theorem host_enum_readers_are_listed :
    decoders.all (fun d => enumFree d == !(hostEnumReaders.contains d.key)) = true := by decide +kernel

/-- `errno.errorcode` is consulted only by BSD decoders, and there only in the result part
    (C10: the call part is `within callSel`, which excludes errno). -/
theorem errno_only_in_bsd_results :
    decoders.all (fun d => errnoFree d || d.family == 0) = true := by decide +kernel

/-- Decoders of the other six families (dyld, fsystem, mach, perf, trace, turnstile) consult no host table. -/
theorem non_bsd_host_free : decoders.all (fun d => d.family == 0 || hostFree d) = true := by decide +kernel

/-- Every registered decoder is either translated (and so covered by the footprint facts above) or one of
    the fifteen hand-modelled handlers, none of which imports anything from the host. -/
theorem all_translated_or_hand_modelled :
    decoders.all (fun d => d.supported || handModelled.contains d.key) = true := by decide +kernel

theorem render_congr (s : Sel) (d : Decoder) (hf : d.fields.all (within s) = true)
    (hs : within s d.str = true) (h h' : Host) (t : Tables) (w : Window)
    (hag : ∀ fs, Agree s { host := h, tables := t, win := w, fields := fs }
      { host := h', tables := t, win := w, fields := fs }) :
    render h t d w = render h' t d w := by
  rw [render_eq, render_eq, evalFields_congr s _ _ (hag []) d.fields hf]
  cases evalFields { host := h', tables := t, win := w } d.fields with
  | error e => rfl
  | ok fs => exact evalS_congr s _ _ (hag fs) _ hs

/-- **Host-free decoders**: a decoder that consults no host table renders identically — text or
    exception — on every host. -/
theorem host_free_independent (d : Decoder) (hfree : hostFree d = true) (h h' : Host) (t : Tables) (w : Window) :
    render h t d w = render h' t d w := by
  simp only [hostFree, Bool.and_eq_true] at hfree
  apply render_congr noHostSel d hfree.1 hfree.2
  intro fs
  constructor <;> simp [noHostSel]

/-- Every registered decoder outside the BSD family is host-free, hence host-independent. -/
theorem non_bsd_decoders_host_independent (d : Decoder) (hd : d ∈ decoders) (hfam : d.family ≠ 0)
    (h h' : Host) (t : Tables) (w : Window) : render h t d w = render h' t d w := by
  have h1 := List.all_eq_true.mp non_bsd_host_free d hd
  have hne : (d.family == 0) = false := by simpa using hfam
  simp only [hne, Bool.false_or] at h1
  exact host_free_independent d h1 h h' t w

/-- **Hosts that agree on the tables render alike**: any decoder renders identically under two hosts whose
    five tables are equal as functions — the output depends on the host only through these tables. -/
theorem host_dependence_only_through_tables (d : Decoder) (h h' : Host) (t : Tables) (w : Window)
    (he : h.errno = h'.errno) (hs : h.signals = h'.signals) (ha : h.addressFamily = h'.addressFamily)
    (hk : h.socketKind = h'.socketKind) (hl : h.solSocket = h'.solSocket) :
    render h t d w = render h' t d w := by
  have : h = h' := by cases h; cases h'; simp_all
  rw [this]

/-- A decoder that reads only errno names (all result-bearing BSD decoders but the six) renders alike on
    two hosts with the same errno table — whatever their signal / socket tables are. -/
theorem errno_only_decoders (d : Decoder) (hd : d ∈ decoders) (hnot : d.key ∉ hostEnumReaders)
    (h h' : Host) (t : Tables) (w : Window) (he : h.errno = h'.errno) : render h t d w = render h' t d w := by
  have h1 := List.all_eq_true.mp host_enum_readers_are_listed d hd
  have hc : hostEnumReaders.contains d.key = false := by simpa using hnot
  simp only [hc, Bool.not_false, beq_iff_eq] at h1
  simp only [enumFree, Bool.and_eq_true] at h1
  apply render_congr onlyErrnoSel d h1.1 h1.2
  intro fs
  constructor <;> simp [onlyErrnoSel, noHostSel, he]

/-- The Darwin reference host names errno 35 EAGAIN and uses 0xffff for SOL_SOCKET (the running Linux host
    says EDEADLOCK / 1: that difference is finding K2, shown on the real code by the check). -/
example : Spec.DarwinHost.host.errno 35 = some "EAGAIN" ∧ Spec.DarwinHost.host.solSocket = 0xffff
    ∧ Spec.DarwinHost.host.addressFamily 30 = some "AF_INET6" := by decide +kernel

/-- BSC_read is a decoder that reads only errno names. -/
example : ∃ d ∈ decoders, d.key = 23225981780499980644 ∧ d.key ∉ hostEnumReaders ∧ hostFree d = false := by
  decide +kernel

end KdVerif.C18
