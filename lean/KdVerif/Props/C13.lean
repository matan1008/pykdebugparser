import KdVerif.Proofs.TracePipeline
import KdVerif.Proofs.PairingFilter
import KdVerif.Proofs.ClassCommute
import KdVerif.Proofs.TraceNoExc
import KdVerif.Gen.Decoders
import KdVerif.Gen.Host
import KdVerif.Proofs.PyIRFlTraces
import KdVerif.Gen.PyIRFl
import KdVerif.Proofs.PyIRCsPipeline
import KdVerif.Model.EndToEnd
import KdVerif.Gen.PyIRCli
import KdVerif.Proofs.PyIRCli
/-
  C13 — trace filters commute with decoding and leave no residue in the parser.

  Subject: `TracePipeline.traces / callstacks / kevents` (Model/TracePipeline.lean): `PyKdebugParser.traces`,
  `callstacks`, `kevents` as functions on an explicit object state (the four filter attributes, the two shared lookup
  tables, the two image lists) applied to a version-2 dump (thread map + records), each request consumed to its end.
  Tied to the code by the correspondence sections `trace-filters`, `trace-requests`, `trace-filters-K3` of
  tools/kdv/props/C13.py.

  `feed_generator` stops at the first exception, so the commutation statements are about requests that raise none.
-/
namespace KdVerif.C13
open KdVerif.Trace KdVerif.Filters KdVerif.Declared KdVerif.TracePipeline

/-- One request leaves the four filter attributes as the caller set them. -/
theorem perform_cfg (env : Env) (obj : Obj) (r : Request) : (perform env obj r).cfg = obj.cfg := by
  cases r <;> rfl

/-- After ANY sequence of `traces` / `callstacks` / `kevents` requests (on any dumps) the
    object's filter settings — `filter_tid`, `filter_class`, `filter_subclass`, `filter_process` — equal those before
    the first request: the helper classes go to a copy.  (False of the pre-F08 code, which appended them to
    `self.filter_class`.) -/
theorem traces_no_residue (env : Env) (obj : Obj) (rs : List Request) : (performAll env obj rs).cfg = obj.cfg := by
  induction rs generalizing obj with
  | nil => rfl
  | cons r rs ih => simp only [performAll, List.foldl_cons] at ih ⊢; rw [ih, perform_cfg]

/-- What a `traces` request delivers depends on the object only through its filter attributes: the lookup tables are
    refilled from the dump's thread map, the image lists are not read. -/
theorem traces_depends_on_cfg_only (env : Env) (obj obj' : Obj) (d : Dump) (h : obj.cfg = obj'.cfg) :
    (traces env obj d).1 = (traces env obj' d).1 := by
  simp only [traces, h]

/-- Whatever requests (`traces`, `callstacks`, `kevents`, on any dumps) the object served
    before, a `traces` request delivers what it delivers on the object as the caller configured it — in particular
    the same request twice gives the same output (a version-2 dump's thread map resets the tables). -/
theorem traces_idempotent (env : Env) (obj : Obj) (rs : List Request) (d : Dump) :
    (traces env (performAll env obj rs) d).1 = (traces env obj d).1 :=
  traces_depends_on_cfg_only env _ _ d (traces_no_residue env obj rs)

/-- The same request twice: same output, and the object after the second request is the object after the first. -/
theorem traces_twice (env : Env) (obj : Obj) (d : Dump) :
    (traces env (traces env obj d).2 d).1 = (traces env obj d).1 ∧
    (traces env (traces env obj d).2 d).2 = (traces env obj d).2 :=
  ⟨traces_depends_on_cfg_only env _ _ d rfl, rfl⟩

/-- A `callstacks` request depends on the object only through its filter attributes: the image lists are cleared at
    its start.  (False of the pre-F09 code, where images announced in an earlier request stayed.) -/
theorem callstacks_depends_on_cfg_only (env : Env) (obj obj' : Obj) (d : Dump) (h : obj.cfg = obj'.cfg) :
    (callstacks env obj d).1 = (callstacks env obj' d).1 := by
  simp only [callstacks, traces, h]

/-- The same for `callstacks` requests after any sequence of requests. -/
theorem callstacks_idempotent (env : Env) (obj : Obj) (rs : List Request) (d : Dump) :
    (callstacks env (performAll env obj rs) d).1 = (callstacks env obj d).1 :=
  callstacks_depends_on_cfg_only env _ _ d (traces_no_residue env obj rs)

/-- The event listing likewise. -/
theorem kevents_idempotent (env : Env) (obj : Obj) (rs : List Request) (d : Dump) :
    (TracePipeline.kevents (performAll env obj rs) d).1 = (TracePipeline.kevents obj d).1 := by
  simp only [TracePipeline.kevents, traces_no_residue env obj rs]

theorem filter_map_of_map_eq {α β : Type} (f : α → β) (p : α → Bool) (q : β → Bool) (hpq : ∀ a, p a = q (f a))
    (X Y : List α) (h : X.map f = Y.map f) : (X.filter p).map f = (Y.filter p).map f := by
  have e : ∀ Z : List α, (Z.filter p).map f = (Z.map f).filter q := by
    intro Z
    induction Z with
    | nil => rfl
    | cons z zs ih => by_cases hz : p z = true <;> simp [hz, ← hpq, ih]
  rw [e, e, h]

theorem filter_map_fst {α β γ : Type} (l : List (α × γ)) (q : α → Bool) (v : α → β) :
    (l.filter fun p => q p.1).map (fun p => v p.1) = ((l.map (·.1)).filter q).map v := by
  rw [← filter_fst_map, List.map_map]; rfl

/-- The helper post-filters look at the first record of the trace only. -/
def keepMasked (cfg : Cfg)
    (m : String × List Kevent × Option (Except PyErr String × Option (String × List IR.Val)) × Extra) : Bool :=
  (!addTraceClass cfg || (firstOf m.2.1).eventid >>> 24 != Gen.Consts.DBG_TRACE) &&
  (!addFsClass cfg || (firstOf m.2.1).eventid >>> 24 != Gen.Consts.DBG_FSYSTEM)

theorem traces_traces_eq (env : Env) (obj : Obj) (d : Dump) :
    (traces env obj d).1.traces = postFilter obj.cfg (runAnnot env (startState d) (fedEvents obj.cfg d)) := rfl

theorem traces_err_eq (env : Env) (obj : Obj) (d : Dump) :
    (traces env obj d).1.err = (Trace.run env (startState d) (fedEvents obj.cfg d)).2.1 := rfl

/-- Two requests without process filter on one dump, seen through a view `v` of the traces.  When the run of the first
    is, through `v`, the part `q` of the run of the second, the traces the first delivers are, through `v`, those the
    second delivers that pass `q'` — the first request's helper post-filters being a function `k` of the view, and `q`
    with them selecting what the second's post-filters and `q'` select. -/
theorem traces_commute_of_run {β : Type} (env : Env) (v : TraceOut → β) (q q' : TraceOut → Bool) (k : β → Bool)
    (cfg cfg0 : Cfg) (hp : cfg.filterProcess = none) (hp0 : cfg0.filterProcess = none)
    (hk : ∀ o, keepHelpers cfg o = k (v o)) (hsel : ∀ o, (q o && keepHelpers cfg o) = (keepHelpers cfg0 o && q' o))
    (d : Dump) (obj obj0 : Obj) (hO : obj.cfg = cfg) (h0 : obj0.cfg = cfg0)
    (hrun : (Trace.run env (startState d) (fedEvents cfg d)).1.map v
      = ((Trace.run env (startState d) (fedEvents cfg0 d)).1.filter q).map v) :
    (traces env obj d).1.traces.map (fun p => v p.1)
      = ((traces env obj0 d).1.traces.filter fun p => q' p.1).map (fun p => v p.1) := by
  have step := filter_map_of_map_eq v (keepHelpers cfg) k hk _ _ hrun
  rw [traces_traces_eq, traces_traces_eq, hO, h0, postFilter_noProcess cfg hp, postFilter_noProcess cfg0 hp0,
    filter_map_fst, filter_map_fst _ q', filter_fst_map, runAnnot_map_fst, runAnnot_map_fst, step, List.filter_filter,
    List.filter_filter]
  congr 1
  exact List.filter_congr fun o _ => (Bool.and_comm _ _).trans ((hsel o).trans (Bool.and_comm _ _))

theorem fedEvents_tid_of_none (cfg : Cfg) (hn : cfg.filterTid = none) (t : Nat) (d : Dump) :
    fedEvents { cfg with filterTid := some t } d = (fedEvents cfg d).filter fun e => e.tid == t := by
  have hcfg : ({ cfg with filterTid := none } : Cfg) = cfg := by
    cases cfg; simp only at hn; subst hn; rfl
  rw [fedEvents_tid, hcfg]

/-- Thread filter (with any class / subclass lists, no process filter): when neither request
    is ended by an exception, the request with `filter_tid = t` delivers exactly the traces of the request without thread
    filter that belong to thread `t` (`ktraces[0].tid = t`), in the same order, with the same event lists, payloads and
    text — the text of the handlers that read tables written by other threads excepted (`Trace.excluded`: thread-terminate
    and the four dyld string readers; C05's exclusion).  By `projection_run`, the simulation behind `C05.projection_traces`. -/
theorem traces_commute_tid (env : Env) (hbn : BenignNested env) (cfg : Cfg) (hp : cfg.filterProcess = none) (hn : cfg.filterTid = none)
    (t : Nat) (d : Dump) (objT obj0 : Obj) (hT : objT.cfg = { cfg with filterTid := some t }) (h0 : obj0.cfg = cfg)
    (hneT : (traces env objT d).1.err = none) (hne0 : (traces env obj0 d).1.err = none) :
    (traces env objT d).1.traces.map (fun p => p.1.masked env)
      = ((traces env obj0 d).1.traces.filter fun p => p.1.tid == t).map (fun p => p.1.masked env) := by
  have hfed := fedEvents_tid_of_none cfg hn t d
  rw [traces_err_eq, hT, hfed] at hneT
  rw [traces_err_eq, h0] at hne0
  have hsim : Sim t (startState d) (startState d) := ⟨Pairing.tidInv_empty, fun _ _ => rfl, AgreeT.refl _ _⟩
  exact traces_commute_of_run env (TraceOut.masked env) _ _ (keepMasked cfg) { cfg with filterTid := some t } cfg hp hp
    (fun _ => rfl) (fun _ => Bool.and_comm _ _) d objT obj0 hT h0 (hfed ▸ (projection_run env hbn t _ _ _ hsim hne0 hneT).1.symm)

/-- The same from the unfiltered request alone: with a decoder table whose constructor arguments are `errFree` (the
    regenerated table is, `C05.all_fields_errFree`), a request without thread filter that no exception ends implies that
    the request with the thread filter is not ended by one either. -/
theorem traces_commute_tid_of_unfiltered (env : Env) (hbn : BenignNested env) (hdec : ErrFreeDecoders env) (cfg : Cfg)
    (hp : cfg.filterProcess = none) (hn : cfg.filterTid = none) (t : Nat) (d : Dump) (objT obj0 : Obj)
    (hT : objT.cfg = { cfg with filterTid := some t }) (h0 : obj0.cfg = cfg)
    (hne0 : (traces env obj0 d).1.err = none) :
    (traces env objT d).1.err = none ∧
    (traces env objT d).1.traces.map (fun p => p.1.masked env)
      = ((traces env obj0 d).1.traces.filter fun p => p.1.tid == t).map (fun p => p.1.masked env) := by
  have hneT : (traces env objT d).1.err = none := by
    rw [traces_err_eq, hT, fedEvents_tid_of_none cfg hn]
    rw [traces_err_eq, h0] at hne0
    exact noexc_own env hbn hdec t _ _ _ ⟨Pairing.tidInv_empty, fun _ _ => rfl, AgreeT.refl _ _⟩ hne0
  exact ⟨hneT, traces_commute_tid env hbn cfg hp hn t d objT obj0 hT h0 hneT hne0⟩

/-! Class lists and BSD-subclass lists.

  `traces_commute_class` (below) proves the claim of the property,

      traces cfg d  =  (traces cfg₀ d).filter (requested cfg)      with identical text,

  for `cfg` = class list + BSD-subclass list (no thread / process filter), `cfg₀` = no filter, requests that no exception
  ends — for every dump and every code table that is CLOSED under the event-level filter (`ClassClosed`: kernel trace
  records are fed, VFS_LOOKUP is fed with the lookup-reading decoders, the nested records of the composite traces are fed
  with their window's code; true of the bundled table, where these are class 7, class 3 and same-class facts).  "Identical"
  is `TraceOut.viewC`: handler, first record, payload, text and decoded fields; the event LIST of a trace legitimately
  loses the records of other classes, and the text of thread-terminate shows `threads_pids`, which sampler records of
  class DBG_PERF write (known finding K3b) — these two are not compared.  Ingredients, each a theorem of its own:

  1. `windows_commute_class` — the event windows delivered for the class-filtered stream are the windows of the
     unfiltered stream whose first record passes the event-level filter, each with the records of other classes
     removed (from `Pairing.run_filter`);
  2. `helper_postfilters_exact` — "passes the event-level filter (requested or helper class) and survives the helper
     post-filters" is exactly "requested": the helper classes are consumed but never reported unless requested;
  3. `generated_text_commutes_class_partial` / `handle_filter` — every handler renders the same from a window and
     from the window with other classes removed (reflective: `all_generated_classOnly`, `lookup_users_are_bsd`);
  4. `run_filter_traces` — the simulation of the two runs (`global_strings`, `tids_names`, `pids_names` and the pending
     records stay equal: only DBG_TRACE handlers write them; `threads_pids` may differ).
-/

/-- The event-level predicate of `traces()`: requested or helper class, or requested subclass. -/
def allowed (cfg : Cfg) (eid : Nat) : Bool := isEventidAllowed cfg eid (effectiveClasses cfg)

/-- What the caller asked for. -/
def requested (cfg : Cfg) (eid : Nat) : Bool :=
  cfg.filterClass.contains (eid >>> 24) || cfg.filterSubclass.contains (eid >>> 16)

theorem fed_is_filter (cfg : Cfg) (hn : cfg.filterTid = none)
    (hf : (!cfg.filterClass.isEmpty || !cfg.filterSubclass.isEmpty) = true) (d : Dump) :
    fedEvents cfg d = d.events.filter (Pairing.Pe (allowed cfg)) := by
  have hne : (!(effectiveClasses cfg).isEmpty || !cfg.filterSubclass.isEmpty) = true := by
    simp only [effectiveClasses, addTraceClass, addFsClass, hf, Bool.true_and]
    cases hfc : cfg.filterClass with
    | nil =>
      simp only [hfc, List.isEmpty_nil, Bool.not_true, Bool.false_or] at hf
      simp [hf]
    | cons x xs => split <;> split <;> simp
  simp only [fedEvents, keventsWith, hn, hne, if_true, PyIRFl.filterMap_asEvent_events]
  rfl

theorem fed_unfiltered (d : Dump) : fedEvents {} d = d.events := by
  simp only [fedEvents, keventsWith, PyIRFl.filterMap_asEvent_events]
  rfl

/-- Class / subclass filter (any lists): the event windows handed to the decoders for the
    filtered stream are, in order, the windows of the unfiltered stream whose first record passes the event-level
    filter, each with the records that do not pass removed. -/
theorem windows_commute_class (env : Env) (cfg : Cfg) (hn : cfg.filterTid = none)
    (hf : (!cfg.filterClass.isEmpty || !cfg.filterSubclass.isEmpty) = true) (d : Dump) :
    Pairing.run env.domOf (fedEvents cfg d)
      = ((Pairing.run env.domOf (fedEvents {} d)).filter (Pairing.headP (allowed cfg))).map
          (List.filter (Pairing.Pe (allowed cfg))) := by
  rw [fed_is_filter cfg hn hf, fed_unfiltered]
  exact Pairing.run_filter env.domOf (allowed cfg) d.events

/-- All requested subclasses are BSD subclasses (`sc >> 8 == DBG_BSD`). -/
def BsdSubclasses (cfg : Cfg) : Prop := ∀ sc ∈ cfg.filterSubclass, sc >>> 8 = Gen.Consts.DBG_BSD

theorem contains_append_singleton (l : List Nat) (a x : Nat) :
    (l ++ [a]).contains x = (l.contains x || x == a) := by
  induction l with
  | nil => simp only [List.nil_append, List.contains_cons, List.contains_nil, Bool.or_false, Bool.false_or]
  | cons y ys ih => simp only [List.cons_append, List.contains_cons, ih, Bool.or_assoc]

theorem effectiveClasses_contains (cfg : Cfg) (c : Nat) :
    (effectiveClasses cfg).contains c =
      (cfg.filterClass.contains c || addTraceClass cfg && c == Gen.Consts.DBG_TRACE
        || addFsClass cfg && c == Gen.Consts.DBG_FSYSTEM) := by
  unfold effectiveClasses
  cases addTraceClass cfg <;> cases addFsClass cfg <;>
    simp only [contains_append_singleton, if_true, if_false, Bool.false_eq_true, Bool.false_and, Bool.true_and,
      Bool.or_false]

/-- For class lists and BSD-subclass lists: a trace whose first record has event id `eid`
    is fed to the decoders AND survives the two helper post-filters exactly when the caller requested it — the helper
    classes (`DBG_TRACE`, and `DBG_FSYSTEM` for BSD requests) are read but never reported unless requested themselves. -/
theorem helper_postfilters_exact (cfg : Cfg) (hb : BsdSubclasses cfg)
    (hf : (!cfg.filterClass.isEmpty || !cfg.filterSubclass.isEmpty) = true) (eid : Nat) :
    (allowed cfg eid &&
      ((!addTraceClass cfg || eid >>> 24 != Gen.Consts.DBG_TRACE) &&
       (!addFsClass cfg || eid >>> 24 != Gen.Consts.DBG_FSYSTEM))) = requested cfg eid := by
  have hsub : cfg.filterSubclass.contains (eid >>> 16) = true → eid >>> 24 = Gen.Consts.DBG_BSD := by
    intro h
    have := hb _ (List.contains_iff_mem.1 h)
    rw [← this, ← Nat.shiftRight_add]
  rw [allowed, requested, isEventidAllowed, effectiveClasses_contains, addTraceClass, addFsClass, hf, Bool.true_and,
    Bool.true_and]
  -- by the class of `eid`: a helper class is appended exactly when the list lacks it; a requested subclass puts `eid`
  -- in class `DBG_BSD`, which is neither helper class
  generalize eid >>> 24 = c at hsub
  cases hs : cfg.filterSubclass.contains (eid >>> 16)
  · by_cases h7 : c = Gen.Consts.DBG_TRACE
    · subst h7
      cases cfg.filterClass.contains Gen.Consts.DBG_TRACE <;> cases cfg.filterClass.contains Gen.Consts.DBG_FSYSTEM <;>
        cases hasBsd cfg <;> rfl
    · by_cases h3 : c = Gen.Consts.DBG_FSYSTEM
      · subst h3
        cases cfg.filterClass.contains Gen.Consts.DBG_TRACE <;> cases cfg.filterClass.contains Gen.Consts.DBG_FSYSTEM <;>
          cases hasBsd cfg <;> rfl
      · simp only [bne_iff_ne.2 h7, bne_iff_ne.2 h3, beq_eq_false_iff_ne.2 h7, beq_eq_false_iff_ne.2 h3, Bool.and_false, Bool.or_false,
          Bool.or_true, Bool.and_true]
  · rw [hsub hs]
    cases cfg.filterClass.contains Gen.Consts.DBG_TRACE <;> cases cfg.filterClass.contains Gen.Consts.DBG_FSYSTEM <;>
        cases hasBsd cfg <;> cases cfg.filterClass.contains Gen.Consts.DBG_BSD <;> rfl

/-- No generated decoder reads `threads_pids` (kernel-checked against the regenerated table). -/
theorem all_generated_classOnly : Gen.Decoders.decoders.all classOnly = true := by decide +kernel

/-- The generated decoders that look at lookups are BSD syscall decoders (`BSC_*`), for which `DBG_FSYSTEM` is injected. -/
theorem lookup_users_are_bsd :
    Gen.Decoders.decoders.all (fun d => !usesLookups d || d.kind == 0) = true := by decide +kernel

/-- A generated decoder of the bundled table renders the same text (or
    raises the same exception) from a window `w` and from `w` with the records that do not pass the event-level filter
    removed, provided the filter keeps the window's first and last record and (for a decoder that looks at lookups) its
    VFS_LOOKUP records, and the two runs' `global_strings` / `tids_names` agree.  PARTIAL: one window of one decoder; the
    equation over whole requests is `traces_commute_class`. -/
theorem generated_text_commutes_class_partial (env : Env) (T T' : Tabs) (d : IR.Decoder) (w : List Kevent)
    (cfg : Cfg) (hd : d ∈ Gen.Decoders.decoders)
    (hh : ∀ x, w.head? = some x → allowed cfg x.eventid = true)
    (hl : ∀ x, w.getLast? = some x → allowed cfg x.eventid = true)
    (hlk : usesLookups d = true → ∀ x ∈ w, isLookup env x = true → allowed cfg x.eventid = true)
    (hgs : T.globalStrings.get = T'.globalStrings.get) (htn : T.tidsNames.get = T'.tidsNames.get) :
    runGenerated env T d w = runGenerated env T' d (w.filter (Pairing.Pe (allowed cfg))) :=
  runGenerated_filter_congr env T T' d w _ hh hl hlk hgs htn (List.all_eq_true.1 all_generated_classOnly d hd)

theorem relC_start (env : Env) (P : Nat → Bool) (d : Dump) : RelC env P (startState d) (startState d) :=
  ⟨Pairing.fRel_empty P, Pairing.headInv_empty, domInv_empty env.domOf, Pairing.tidInv_empty, AgreeC.refl _⟩

/-- Class lists and BSD-subclass lists (no thread / process filter), a code table closed
    under the event-level filter, decoders that do not read `threads_pids` (the regenerated table: `all_generated_classOnly`),
    requests that no exception ends: the filtered request delivers exactly the traces of the unfiltered request that the
    caller requested (class of the first record in the class list, or its subclass in the subclass list), in the same
    order, with the same handler, first record, payload, text and decoded fields (`viewC`; thread-terminate's text
    excepted: K3b).  The helper classes are read but never reported unless requested themselves. -/
theorem traces_commute_class (env : Env) (hbn : BenignNested env) (cfg : Cfg) (hn : cfg.filterTid = none)
    (hp : cfg.filterProcess = none) (hf : (!cfg.filterClass.isEmpty || !cfg.filterSubclass.isEmpty) = true)
    (hb : BsdSubclasses cfg) (hcc : ClassClosed env (allowed cfg)) (hco : ∀ d ∈ env.decoders, classOnly d = true)
    (d : Dump) (obj obj0 : Obj) (hO : obj.cfg = cfg) (h0 : obj0.cfg = {})
    (hne : (traces env obj d).1.err = none) (hne0 : (traces env obj0 d).1.err = none) :
    (traces env obj d).1.traces.map (fun p => p.1.viewC)
      = ((traces env obj0 d).1.traces.filter fun p => requested cfg (firstOf p.1.events).eventid).map
          (fun p => p.1.viewC) := by
  rw [traces_err_eq, hO, fed_is_filter cfg hn hf] at hne
  rw [traces_err_eq, h0, fed_unfiltered] at hne0
  have hrun := run_filter_traces env hbn (allowed cfg) hcc hco d.events _ _ (relC_start env (allowed cfg) d) hne0 hne
  rw [← fed_is_filter cfg hn hf, ← fed_unfiltered d] at hrun
  -- the helper post-filters look at the first record only
  exact traces_commute_of_run env TraceOut.viewC _ _
    (fun v => (!addTraceClass cfg || v.2.1.eventid >>> 24 != Gen.Consts.DBG_TRACE) &&
      (!addFsClass cfg || v.2.1.eventid >>> 24 != Gen.Consts.DBG_FSYSTEM)) cfg {} hp rfl (fun _ => rfl)
    (fun o => helper_postfilters_exact cfg hb hf (firstOf o.events).eventid) d obj obj0 hO h0 hrun

/-- The process test of `_filter_process_callback` on declared tables. -/
def declMatches (fp : String) (D : Decl) (tid : Nat) : Bool :=
  let pid : Int := ((D.threadsPids.get tid).map Int.ofNat).getD (-1)
  let name : String := match D.threadsPids.get tid with
    | some p => (D.pidsNames.get p).getD ""
    | none => ""
  fp == toString pid || fp == name

theorem processMatches_ofTabs (fp : String) (T : Tabs) (o : TraceOut) :
    processMatches fp T o = declMatches fp (Decl.ofTabs T) o.tid := rfl

theorem filter_prefix_take {α : Type} (q : α → Bool) (l a b : List α) (h : l.filter q = a ++ b) :
    ∃ n, (l.take n).filter q = a := by
  induction l generalizing a with
  | nil => exact ⟨0, by simp at h; simp [h.1]⟩
  | cons x xs ih =>
    cases a with
    | nil => exact ⟨0, rfl⟩
    | cons y ys =>
      by_cases hx : q x = true
      · simp only [List.filter_cons, hx, if_true, List.cons_append, List.cons.injEq] at h
        obtain ⟨n, hn⟩ := ih ys h.2
        refine ⟨n + 1, ?_⟩
        rw [List.take_succ_cons, List.filter_cons, if_pos hx, hn, h.1]
      · simp only [List.filter_cons, hx, if_false, Bool.false_eq_true] at h
        obtain ⟨n, hn⟩ := ih (y :: ys) h
        exact ⟨n + 1, by simp [List.take_succ_cons, hx, hn]⟩

/-- For every setting of the other three filters: the request with a process filter
    delivers exactly the traces of the request WITHOUT process filter (same thread / class / subclass filters) whose
    thread the tables — as they are when the trace is yielded — attribute to the requested process (by name or by the
    decimal text of the pid). -/
theorem process_filter_is_postfilter (env : Env) (cfg : Cfg) (fp : String) (hfp : cfg.filterProcess = some fp) (d : Dump)
    (objP obj0 : Obj) (hP : objP.cfg = cfg) (h0 : obj0.cfg = { cfg with filterProcess := none }) :
    (traces env objP d).1.traces = (traces env obj0 d).1.traces.filter fun p => processMatches fp p.2 p.1 := by
  rw [traces_traces_eq, traces_traces_eq, hP, h0]
  have hfed : fedEvents { cfg with filterProcess := none } d = fedEvents cfg d := rfl
  rw [hfed, postFilter_noProcess { cfg with filterProcess := none } rfl]
  have hk : keepHelpers { cfg with filterProcess := none } = keepHelpers cfg := rfl
  rw [hk]
  simp only [postFilter, hfp, keepHelpers]
  cases addTraceClass cfg <;> cases addFsClass cfg <;>
  simp only [if_true, if_false, Bool.false_eq_true, List.filter_filter, Bool.not_true, Bool.not_false,
    Bool.false_or, Bool.true_or, Bool.true_and, Bool.and_true] <;>
  (apply List.filter_congr; intro x _; simp only [Bool.and_comm, Bool.and_left_comm])

/-- The process test the request applies to a trace is the test on
    `declaredTables` of the FED stream's prefix up to the event that completed the trace (`tables_are_fold`).  Hence, under
    the explicit hypothesis `hsurv` that the attribution survives the event-level filter — at every point `n` of the
    dump, the thread map superseded by the map-updating records among the first `n` records that PASS the thread / class
    filter `q` attributes every thread like the thread map superseded by ALL map-updating records among the first `n` —
    the test equals the test an unfiltered request applies at the same point of the dump.
    PARTIAL: without `hsurv` the statement is false (known finding K3: the parent's new-thread record removed by
    `filter_tid = child`, a sampler thread-info record removed by `filter_class = [4]`; witness below); and the
    alignment "the unfiltered request yields the corresponding trace at that point" is `traces_commute_tid` for thread
    filters and `traces_commute_class` for class filters. -/
theorem traces_commute_process_partial (env : Env) (hbn : BenignNested env) (cfg : Cfg) (fp : String) (d : Dump) (obj0 : Obj)
    (h0 : obj0.cfg = { cfg with filterProcess := none }) (q : Kevent → Bool) (hq : fedEvents cfg d = d.events.filter q)
    (hsurv : ∀ n tid, declMatches fp (declaredTables env d.threadMap ((d.events.take n).filter q)) tid
                    = declMatches fp (declaredTables env d.threadMap (d.events.take n)) tid)
    (p : TraceOut × Tabs) (hp : p ∈ (traces env obj0 d).1.traces) :
    ∃ n, processMatches fp p.2 p.1 = declMatches fp (declaredTables env d.threadMap (d.events.take n)) p.1.tid := by
  rw [traces_traces_eq, h0, postFilter_noProcess _ rfl] at hp
  have hfed : fedEvents { cfg with filterProcess := none } d = fedEvents cfg d := rfl
  rw [hfed] at hp
  obtain ⟨hmem, _⟩ := List.mem_filter.1 hp
  obtain ⟨pre, e, post, hm, hne, hT, _⟩ := mem_runAnnot env (startState d) _ p.1 p.2 hmem
  have hfold := Declared.tables_are_fold env hbn d.threadMap (pre ++ [e]) hne
  rw [hq] at hm
  have hm' : d.events.filter q = (pre ++ [e]) ++ post := by rw [hm]; simp
  obtain ⟨n, hn⟩ := filter_prefix_take q d.events (pre ++ [e]) post hm'
  refine ⟨n, ?_⟩
  rw [processMatches_ofTabs, ← hsurv n p.1.tid, hn, ← hfold]
  change _ = declMatches fp (Decl.ofTabs (Trace.run env (startState d) (pre ++ [e])).2.2.tabs) p.1.tid
  rw [← hT]

/-- A small code table over the real handlers; the generated table restricted to `BSC_getpid` (by its Nat key). -/
def exEnv : Env :=
  { codes := fun k => [(0x7000004, "TRACE_DATA_NEWTHREAD"), (0x7010004, "TRACE_STRING_NEWTHREAD"),
                       (0x7010010, "TRACE_STRING_PROC_EXIT"), (0x40c0050, "BSC_getpid"), (0x3010090, "VFS_LOOKUP"),
                       (0x1400000, "MACH_SCHED")].lookup k,
    host := Gen.Host.host, tables := Gen.Decoders.tables,
    decoders := Gen.Decoders.decoders.filter (fun d => d.key == 1522137941954752423160164),
    dec := fun bs => .ok (String.ofList (bs.map Char.ofNat)) }

def rec' (ts tid eid q : Nat) (vals : List Nat) (data : List Nat) : Kevent :=
  { timestamp := ts, data := data, values := vals, tid := tid, debugid := eid + q, eventid := eid, qual := q }

/-- Thread 5 (of `parent`, by the thread map) announces thread 6 of pid 2 and names it "child"; thread 6 then exits
    a process, looks a path up and calls getpid (with a scheduler record inside the window). -/
def exDump : Dump :=
  { threadMap := [(5, 1, "parent")],
    events := [rec' 1 5 0x7000004 0 [6, 2, 0, 0] [], rec' 2 5 0x7010004 0 [] [99, 104, 105, 108, 100],
               rec' 3 6 0x7010010 0 [] [120], rec' 4 6 0x3010090 3 [9, 0, 0, 0] [9, 0, 0, 0, 0, 0, 0, 0, 47, 97],
               rec' 5 6 0x40c0050 1 [0, 0, 0, 0] [], rec' 6 6 0x1400000 0 [1, 2, 3, 4] [],
               rec' 7 6 0x40c0050 2 [0, 77, 0, 0] []] }

def view (r : TracesResult) : List (String × Nat × Option String) :=
  r.traces.map fun p => (p.1.name, (firstOf p.1.events).timestamp, p.1.text.toOption)

/-- The decoder table of the example really decodes getpid (the filter by key found it). -/
example : exEnv.decoders.map (·.name) = ["BSC_getpid"] := by decide +kernel

/-- The traces of the unfiltered request on `exDump`, as `view` shows them. -/
def exAll : List (String × Nat × Option String) :=
  [("TRACE_DATA_NEWTHREAD", 1, some "New thread 6 of parent: 2"),
   ("TRACE_STRING_NEWTHREAD", 2, some "New thread of parent: child"),
   ("TRACE_STRING_PROC_EXIT", 3, some "Process exit name: x"), ("VFS_LOOKUP", 4, some "lookup(\"/a\"), vnode id: 9"),
   ("BSC_getpid", 5, some "getpid(), pid: 77")]

/-- The five requests on `exDump` that the examples below quote, evaluated together: they share the evaluation of the
    decoder table and of the handlers.  Each filtered request delivers a final segment of `exAll`. -/
theorem exDump_requests :
    (view (traces exEnv {} exDump).1 = exAll ∧ (traces exEnv {} exDump).1.err = none) ∧
    (view (traces exEnv { cfg := { filterClass := [4] } } exDump).1 = exAll.drop 4 ∧
      (traces exEnv { cfg := { filterClass := [4] } } exDump).1.err = none) ∧
    view (traces exEnv { cfg := { filterTid := some 6 } } exDump).1 = exAll.drop 2 ∧
    view (traces exEnv { cfg := { filterProcess := some "child" } } exDump).1 = exAll.drop 2 ∧
    view (traces exEnv { cfg := { filterTid := some 6, filterProcess := some "child" } } exDump).1 = [] := by
  decide +kernel

/-- Unfiltered: all five traces; class filter [4]: the syscall alone (kernel strings and the lookup are read but not
    reported), with the same text; the object's `filter_class` is still `[4]` after two requests. -/
example :
    view (traces exEnv {} exDump).1 =
      [("TRACE_DATA_NEWTHREAD", 1, some "New thread 6 of parent: 2"), ("TRACE_STRING_NEWTHREAD", 2, some "New thread of parent: child"),
       ("TRACE_STRING_PROC_EXIT", 3, some "Process exit name: x"), ("VFS_LOOKUP", 4, some "lookup(\"/a\"), vnode id: 9"),
       ("BSC_getpid", 5, some "getpid(), pid: 77")] ∧
    view (traces exEnv { cfg := { filterClass := [4] } } exDump).1 = [("BSC_getpid", 5, some "getpid(), pid: 77")] ∧
    (fedEvents { filterClass := [4] } exDump).map (·.timestamp) = [1, 2, 3, 4, 5, 7] ∧
    (performAll exEnv { cfg := { filterClass := [4] } } [.traces exDump, .traces exDump]).cfg.filterClass = [4] ∧
    (traces exEnv { cfg := { filterClass := [4] } } exDump).1.err = none :=
  ⟨exDump_requests.1.1, exDump_requests.2.1.1, by decide +kernel, by decide +kernel, exDump_requests.2.1.2⟩

/-- Thread filter: thread 6's traces. -/
example :
    view (traces exEnv { cfg := { filterTid := some 6 } } exDump).1
      = [("TRACE_STRING_PROC_EXIT", 3, some "Process exit name: x"), ("VFS_LOOKUP", 4, some "lookup(\"/a\"), vnode id: 9"),
         ("BSC_getpid", 5, some "getpid(), pid: 77")] :=
  exDump_requests.2.2.1

/-- KNOWN FINDING K3, negative witness in the model: process filter alone reports thread 6's traces (attributed to
    "child" by thread 5's new-thread pair); combined with `filter_tid = 6` the pair is removed by the event-level filter,
    thread 6 is never attributed, and the request reports nothing. -/
example :
    view (traces exEnv { cfg := { filterProcess := some "child" } } exDump).1
      = [("TRACE_STRING_PROC_EXIT", 3, some "Process exit name: x"), ("VFS_LOOKUP", 4, some "lookup(\"/a\"), vnode id: 9"),
         ("BSC_getpid", 5, some "getpid(), pid: 77")] ∧
    view (traces exEnv { cfg := { filterTid := some 6, filterProcess := some "child" } } exDump).1 = [] :=
  exDump_requests.2.2.2

/-! `traces_commute_class` is not vacuous: its hypotheses hold for the example -/

def exCodes : List (Nat × String) :=
  [(0x7000004, "TRACE_DATA_NEWTHREAD"), (0x7010004, "TRACE_STRING_NEWTHREAD"), (0x7010010, "TRACE_STRING_PROC_EXIT"),
   (0x40c0050, "BSC_getpid"), (0x3010090, "VFS_LOOKUP"), (0x1400000, "MACH_SCHED")]

theorem exEnv_codes (eid : Nat) (n : String) (h : exEnv.codes eid = some n) : (eid, n) ∈ exCodes := by
  obtain ⟨l₁, l₂, hl, -⟩ := List.lookup_eq_some_iff.1 h
  have : exCodes = l₁ ++ (eid, n) :: l₂ := hl
  simp [this]

def cfg4 : Cfg := { filterClass := [4] }

/-- What `ClassClosed` and `BenignNested` ask of a code table, checked on the six codes of the example. -/
theorem exCodes_facts : ∀ p ∈ exCodes,
    ((p.2 = "VFS_LOOKUP" ∨ traceDomainNames.contains p.2 = true ∨ p.2 = "PERF_THD_Data" ∨ p.2 = "PERF_STK_UHdr" ∨
        p.2 = "PERF_STK_UData") → allowed cfg4 p.1 = true) ∧
    p.2 ≠ "MACH_vmfault" ∧ p.2 ≠ "DBG_DYLD_TIMING_LAUNCH_EXECUTABLE" ∧ vmfaultRange p.1 = false := by
  decide +kernel

theorem exEnv_closed : ClassClosed exEnv (allowed cfg4) := by
  refine ⟨?_, ?_, ?_, ?_, ?_, ?_⟩
  · intro eid h
    cases hc : exEnv.codes eid with
    | none => rw [Env.domOf, hc] at h; cases h
    | some n =>
      rw [domOf_of_code exEnv eid n hc] at h
      exact (exCodes_facts _ (exEnv_codes eid n hc)).1 (.inr (.inl h))
  · intro eid n d _ _ _ _ _ eid' h'
    exact (exCodes_facts _ (exEnv_codes eid' _ h')).1 (.inl rfl)
  · intro eid _ _ eid' h'
    exact (exCodes_facts _ (exEnv_codes eid' _ h')).1 (.inl rfl)
  · intro eid _ _ eid' n' h' hn'
    exact (exCodes_facts _ (exEnv_codes eid' n' h')).1 (.inr (.inr hn'))
  · intro eid _ hc
    exact absurd rfl (exCodes_facts _ (exEnv_codes eid _ hc)).2.1
  · intro eid _ hc
    exact absurd rfl (exCodes_facts _ (exEnv_codes eid _ hc)).2.2.1

theorem exEnv_benign : BenignNested exEnv := by
  intro eid n hr hc
  have := (exCodes_facts _ (exEnv_codes eid n hc)).2.2.2
  simp only at this
  rw [hr] at this; cases this

theorem exEnv_classOnly : ∀ d ∈ exEnv.decoders, classOnly d = true := by
  intro d hd
  exact List.all_eq_true.1 all_generated_classOnly d (List.mem_filter.1 hd).1

/-- The theorem applied to the example: the request with `filter_class = [4]` on `exDump` equals the unfiltered request
    restricted to the requested class (both sides are computed in the examples above: the getpid trace alone). -/
example :
    (traces exEnv { cfg := cfg4 } exDump).1.traces.map (fun p => p.1.viewC)
      = ((traces exEnv {} exDump).1.traces.filter fun p => requested cfg4 (firstOf p.1.events).eventid).map
          (fun p => p.1.viewC) :=
  traces_commute_class exEnv exEnv_benign cfg4 rfl rfl (by decide) (by intro sc h; cases h) exEnv_closed
    exEnv_classOnly exDump _ _ rfl rfl exDump_requests.2.1.2 exDump_requests.1.2

/-! Translation tie: the SOURCE TEXT of `traces()` / `_filter_process_callback` (and of `kevents` /
    `_is_eventid_allowed`, which `traces()` feeds the `TracesParser` from), translated by `tools/gen_pyir_fl.py` into the
    IR of `Model/PyIRFl` and run by its interpreter, IS what `TracePipeline.traces` is assembled from -/

/-- What the post-filter stages read of a yielded trace: `trace.ktraces[0]` and the two shared tables as they are when
    the trace is yielded. -/
def irView (p : TraceOut × Tabs) : Kevent × PyIRFl.Tables := (firstOf p.1.events, ⟨p.2.threadsPids, p.2.pidsNames⟩)

/-- The IR that the translator produces from the working tree's `pykdebugparser.py`
    (`Gen/PyIRFl.lean`, regenerated on every run) for `traces`, `_filter_process_callback`, `kevents` and
    `_is_eventid_allowed` is, term for term, the hand-written `Spec/PyIRFlExpected` the refinement proofs were done for,
    and the translator met nothing outside the method bodies that it could not express. -/
theorem source_is_expected_ir :
    Gen.PyIRFl.traces = PyIRFl.Expected.traces ∧
    Gen.PyIRFl.filterProcessCallback = PyIRFl.Expected.filterProcessCallback ∧
    Gen.PyIRFl.kevents = PyIRFl.Expected.kevents ∧
    Gen.PyIRFl.isEventidAllowed = PyIRFl.Expected.isEventidAllowed ∧
    Gen.PyIRFl.notes = [] := ⟨rfl, rfl, rfl, rfl, rfl⟩

/-- `self.traces(kdebug, trace_codes)` of the source, interpreted for EVERY configuration
    (and with or without a caller-supplied code table): the method returns the stream of a fresh `TracesParser` — on
    the caller's code table, else `default_trace_codes()`, and on the parser's two shared tables — fed by
    `self.kevents(kdebug, <list object>)`, where the list object holds `TracePipeline.effectiveClasses cfg` (the COPY of
    `filter_class` with the helper classes appended) when the request is consumed; the parser's filter attributes are
    left as they were (`cfgAfter = cfg`: the helper classes went to the copy); and the stacked post-filter stages,
    evaluated on ANY list of yielded traces (each with the tables at its yield), keep exactly
    `TracePipeline.postFilter cfg` of it, in that order, without an exception. -/
theorem traces_ir_eq_model (cfg : Cfg) (codesGiven : Bool) (l : List (TraceOut × Tabs)) :
    PyIRFl.runTraces irView Gen.PyIRFl.prog cfg codesGiven l
      = .ok { codesGiven := codesGiven, classArg := some (effectiveClasses cfg), cfgAfter := cfg,
              out := postFilter cfg l } :=
  PyIRFl.runTraces_expected irView _ source_is_expected_ir.1 source_is_expected_ir.2.1 cfg codesGiven l

/-- `self._filter_process_callback(trace)` of the source, interpreted on
    every configuration, every pair of tables and every trace: the bool `TracePipeline.processMatches` computes (and
    `False` when no process filter is set: `None` equals no text). -/
theorem filter_process_callback_ir_eq_model (cfg : Cfg) (T : Tabs) (o : TraceOut) :
    PyIRFl.runFilterProcessCallback Gen.PyIRFl.prog cfg ⟨T.threadsPids, T.pidsNames⟩ (firstOf o.events)
      = .ok (.bool (match cfg.filterProcess with
                    | some fp => processMatches fp T o
                    | none => false)) :=
  PyIRFl.runFilterProcessCallback_expected _ source_is_expected_ir.2.1 cfg _ _

/-- The two halves of the hand model of a `traces()` request are the interpreted
    source: (1) the events the `TracesParser` is fed (`fedEvents`) are what the GENERATED `kevents`, handed the class
    list the GENERATED `traces` hands it, lists of the dump's records; (2) what the request delivers
    (`(traces env obj d).1.traces`) is what the GENERATED `traces` sets up and its post-filter stages keep of the
    traces the `TracesParser` model yields for those events.  So every theorem of this file about `TracePipeline.traces`
    is a statement about the translated source, up to the hand models of the container parser and of `TracesParser`. -/
theorem traces_request_rests_on_ir (env : Env) (obj : Obj) (d : Dump) (codesGiven : Bool) :
    PyIRFl.runKevents Gen.PyIRFl.prog obj.cfg (some (effectiveClasses obj.cfg)) (d.events.map Item.event)
        = .ok ((fedEvents obj.cfg d).map Item.event) ∧
    PyIRFl.runTraces irView Gen.PyIRFl.prog obj.cfg codesGiven
        (runAnnot env (startState d) (fedEvents obj.cfg d))
        = .ok { codesGiven := codesGiven, classArg := some (effectiveClasses obj.cfg), cfgAfter := obj.cfg,
                out := (traces env obj d).1.traces } :=
  ⟨PyIRFl.runKevents_expected _ source_is_expected_ir.2.2.1 source_is_expected_ir.2.2.2.1 obj.cfg _ _,
   traces_ir_eq_model obj.cfg codesGiven _⟩

private instance exceptDecEq {ε α : Type} [DecidableEq ε] [DecidableEq α] : DecidableEq (Except ε α)
  | .ok a, .ok b => if h : a = b then isTrue (by rw [h]) else isFalse (by intro e; cases e; exact h rfl)
  | .error a, .error b => if h : a = b then isTrue (by rw [h]) else isFalse (by intro e; cases e; exact h rfl)
  | .ok _, .error _ => isFalse (by intro e; cases e)
  | .error _, .ok _ => isFalse (by intro e; cases e)

private def irEv (ts tid eid : Nat) : Kevent :=
  { timestamp := ts, data := [], values := [], tid := tid, debugid := eid, eventid := eid, qual := 0 }

/-- non-vacuity: the GENERATED `traces` run by the interpreter under `filter_class = [4]` + a process filter, on four
    yielded traces (BSD of the process, a kernel-trace record, BSD of another thread, a lookup): helper classes 7 and 3
    go to the copy handed to `kevents`, the parser keeps `[4]`, the stages keep the first trace only. -/
example :
    (PyIRFl.runTraces (fun k : Kevent => (k, ({ threadsPids := [(7, 42)], pidsNames := [(42, "launchd")] } : PyIRFl.Tables)))
        Gen.PyIRFl.prog { filterClass := [4], filterProcess := some "launchd" } false
        [irEv 1 7 0x040c0004, irEv 2 7 0x07000000, irEv 3 8 0x040c0004, irEv 4 7 0x03010000]).map
      (fun r => (r.codesGiven, r.classArg, r.cfgAfter.filterClass, r.out.map (·.timestamp)))
    = .ok (false, some [4, 7, 3], [4], [1]) := by decide +kernel

/-- … a subclass-only request: `[7, 3]` is handed to `kevents`, the parser's own list stays empty. -/
example :
    (PyIRFl.runTraces (fun k : Kevent => (k, ({} : PyIRFl.Tables))) Gen.PyIRFl.prog { filterSubclass := [0x040c] } true
        [irEv 1 7 0x040c0004, irEv 2 7 0x07000000, irEv 4 7 0x03010000]).map
      (fun r => (r.codesGiven, r.classArg, r.cfgAfter.filterClass, r.out.map (·.timestamp)))
    = .ok (true, some [7, 3], [], [1]) := by decide +kernel

/-- … and the GENERATED `_filter_process_callback`: pid text, name, an undeclared thread (`-1`). -/
example : PyIRFl.runFilterProcessCallback Gen.PyIRFl.prog { filterProcess := some "42" }
    { threadsPids := [(7, 42)], pidsNames := [(42, "launchd")] } (irEv 1 7 0) = .ok (.bool true) := by decide +kernel
example : PyIRFl.runFilterProcessCallback Gen.PyIRFl.prog { filterProcess := some "-1" } {} (irEv 1 7 0)
    = .ok (.bool true) := by decide +kernel
example : PyIRFl.runFilterProcessCallback Gen.PyIRFl.prog { filterProcess := some "launchd" }
    { threadsPids := [(7, 43)], pidsNames := [(42, "launchd")] } (irEv 1 7 0) = .ok (.bool false) := by decide +kernel

/-! Translation tie of `callstacks()`: the request model is the interpreted source

  `PyKdebugParser.callstacks` and `CallstacksParser` (`__init__`, `insert_image`, the whole `feed_generator`) are translated
  from the source text into the IR of `Model/PyIRCs` on every run; `C15.source_is_expected_ir` / `C15.prog_is_expected`
  (checked by the C15 check, which rebuilds them against the working tree) state that the generated program IS
  `PyIRCs.Expected.prog`.  Here: that program, interpreted, is the request model `TracePipeline.callstacks` this file's
  `callstacks_depends_on_cfg_only` / `callstacks_idempotent` are about. -/

/-- For every object state (whatever its two image lists hold from earlier requests)
    and every dump: the expected IR of `callstacks()` — `self.dyld_addresses.clear(); self.dyld_uuids.clear();
    callstacks_parser = CallstacksParser(self.dyld_addresses, self.dyld_uuids); return
    callstacks_parser.feed_generator(self.traces(kdebug, trace_codes))` with the translated `feed_generator` — run by the
    interpreter over the trace objects of what the `traces` model yields for this request (`PyIRCs.csTraceOf`) delivers
    exactly the callstacks of `TracePipeline.callstacks`, ends with the same exception (the callstack parser's, else the
    trace generator's own) and leaves the object's two lists as the model says.  So "the image lists are reset per
    request" of the model is the two `clear()` calls of the source, and `callstackFeed` is the translated `feed_generator`. -/
theorem callstacks_request_rests_on_ir (env : Env) (obj : Obj) (d : Dump) :
    PyIRCs.runRequest PyIRCs.Expected.prog ((traces env obj d).1.traces.map (fun p => PyIRCs.csTraceOf p.1))
        (traces env obj d).1.err obj.images =
      ((callstacks env obj d).1.callstacks.map (fun c => PyIRCs.Val.callstack (PyIRCs.ofCallstack c)),
       match (callstacks env obj d).1.err with
       | some e => .error e
       | none => .ok (callstacks env obj d).2.images) :=
  PyIRCs.runRequest_expected_pipeline env obj d

/-- A code table with the image announcement and the sampler's records (the generated decoder of `DYLD_uuid_map_a`). -/
def csEnv : Env :=
  { codes := fun k => [(0x1f050008, "DYLD_uuid_map_a"), (0x25010000, "PERF_Event"), (0x2502000c, "PERF_STK_UHdr"),
                       (0x25020010, "PERF_STK_UData")].lookup k,
    host := Gen.Host.host, tables := Gen.Decoders.tables,
    decoders := Gen.Decoders.decoders.filter (fun d => d.name == "DYLD_uuid_map_a"),
    dec := fun bs => .ok (String.ofList (bs.map Char.ofNat)) }

/-- Two images announced in descending order (0x30, 0x10), then a sample with the frames 0x5, 0x11, 0x31. -/
def csDump : Dump :=
  { threadMap := [(5, 1, "p")],
    events := [rec' 1 5 0x1f050008 0 [0, 0, 0x30, 0] [3], rec' 2 5 0x1f050008 0 [0, 0, 0x10, 0] [1],
               rec' 3 5 0x25010000 1 [8, 0, 0, 0] [], rec' 4 5 0x2502000c 0 [0, 3, 0, 0] [],
               rec' 5 5 0x25020010 0 [0x5, 0x11, 0x31, 0] [], rec' 6 5 0x25010000 2 [0, 0, 0, 0] []] }

/-- an object that still holds two images of an earlier request (0x4 and 0x12 would attribute all three frames) -/
def staleObj : Obj := { images := ⟨[0x4, 0x12], [[0xaa], [0xbb]]⟩ }

/-- non-vacuity: the model's request on the stale object delivers the callstack attributed against THIS dump's images
    only; the trace objects the interpreter is run on; and the interpreted `callstacks()` gives exactly that (computed,
    not via the theorem). -/
example :
    (callstacks csEnv staleObj csDump).1.callstacks =
      [⟨3, 5, [⟨0x5, none⟩, ⟨0x11, some ([1], 1)⟩, ⟨0x31, some ([3], 1)⟩]⟩] ∧
    (callstacks csEnv staleObj csDump).2.images = ⟨[0x10, 0x30], [[1], [3]]⟩ ∧
    (traces csEnv staleObj csDump).1.traces.map (fun p => PyIRCs.csTraceOf p.1) =
      [.image 0x30 [3], .image 0x10 [1], .sample [⟨3, 5⟩, ⟨4, 5⟩, ⟨5, 5⟩, ⟨6, 5⟩] (some [0x5, 0x11, 0x31])] ∧
    PyIRCs.runRequest PyIRCs.Expected.prog
        [.image 0x30 [3], .image 0x10 [1], .sample [⟨3, 5⟩, ⟨4, 5⟩, ⟨5, 5⟩, ⟨6, 5⟩] (some [0x5, 0x11, 0x31])] none
        staleObj.images =
      ([.callstack ⟨3, 5, [⟨0x5, none, none⟩, ⟨0x11, some [1], some 1⟩, ⟨0x31, some [3], some 1⟩]⟩],
       .ok ⟨[0x10, 0x30], [[1], [3]]⟩) := by
  decide +kernel

end KdVerif.C13

/-! Translation tie: the `traces` / `callstacks` / `logs` commands in front of the trace filters

  (`tools/gen_pyir_cli.py` → `Gen/PyIRCli.lean`; IR and interpreter `Model/PyIRCli`; expected terms `Spec/PyIRCliExpected`;
  see `Props/C12` for the `kevents` and table commands.)  The command callbacks of `pykdebugparser/__main__.py`, translated
  from the source text on every run and interpreted from what click hands over (`Given`): which option goes to which
  attribute of a fresh parser object (`__init__`, translated too, supplies every attribute a command does not assign),
  which `formatted_*` method is called on the dump, that its result goes through `print_with_count(…, count)`.  `World` is
  the meaning of the `formatted_*` methods as a function of the object's attributes and the dump; `configOf` is the filter
  configuration (`Filters.Cfg`) the hand models `TracePipeline.traces` / `callstacks` / `Filters.osLogEvents` take. -/
namespace KdVerif.C13
open KdVerif.Filters KdVerif.PyIRCli

/-- **The terms the translator generates for the glue of this property are the expected ones** (`Spec/PyIRCliExpected`,
    quoting the Python): `print_with_count`, the three commands with their option declarations, `__init__`, the maps;
    nothing met that the translator could not express. -/
theorem cli_source_is_expected_ir :
    Gen.PyIRCli.printWithCount = PyIRCli.Expected.printWithCount ∧
    Gen.PyIRCli.traces = PyIRCli.Expected.traces ∧
    Gen.PyIRCli.callstacks = PyIRCli.Expected.callstacks ∧
    Gen.PyIRCli.logs = PyIRCli.Expected.logs ∧
    Gen.PyIRCli.init = PyIRCli.Expected.init ∧
    Gen.PyIRCli.formattedKevents = PyIRCli.Expected.formattedKevents ∧
    Gen.PyIRCli.formattedTraces = PyIRCli.Expected.formattedTraces ∧
    Gen.PyIRCli.formattedCallstacks = PyIRCli.Expected.formattedCallstacks ∧
    Gen.PyIRCli.formattedLogs = PyIRCli.Expected.formattedLogs ∧
    Gen.PyIRCli.notes = [] := ⟨rfl, rfl, rfl, rfl, rfl, rfl, rfl, rfl, rfl, rfl⟩

theorem cli_prog_is_expected : Gen.PyIRCli.prog = PyIRCli.Expected.prog := by
  obtain ⟨h1, _, _, _, h2, h3, h4, h5, h6, _⟩ := cli_source_is_expected_ir
  simp only [Gen.PyIRCli.prog, PyIRCli.Expected.prog, h1, h2, h3, h4, h5, h6]

/-- **The `traces` command of the source, interpreted** (any meaning `W` of `formatted_traces`; every combination of the
    seven options): it prints `print_with_count(parser.formatted_traces(dump), count)` for the parser object
    `tracesObj o` — `o` the option values in force with the declared defaults (`count = -1`, no thread / process filter,
    no class / subclass value, `show_tid = False`, `color = True`) —, whose attributes read as EXACTLY `configOf o`
    (`--tid` → `filter_tid`, `--process` → `filter_process`, `-cf` → `filter_class`, `-sf` → `filter_subclass`, both as
    fresh lists in the order given), `showOf o`, colour `o.color`; no wall-clock parameter, empty tables. -/
theorem traces_command_ir_eq_model {δ τ : Type} (W : World δ τ) (g : Given) (dump : δ) :
    run Gen.PyIRCli.prog W Gen.PyIRCli.traces g.args dump =
      pwcResult (W.formatted "formatted_traces" (tracesObj (Opts.ofGiven g)) dump) (Opts.ofGiven g).count ∧
    cfgOfObj (tracesObj (Opts.ofGiven g)) = some (configOf (Opts.ofGiven g)) ∧
    showOfObj (tracesObj (Opts.ofGiven g)) = some (showOf (Opts.ofGiven g)) ∧
    colorOfObj (tracesObj (Opts.ofGiven g)) = some (Opts.ofGiven g).color ∧
    wallClockUnset (tracesObj (Opts.ofGiven g)) = true ∧ tablesEmpty (tracesObj (Opts.ofGiven g)) = true := by
  refine ⟨?_, cfg_tracesObj _, show_objWith .., color_objWith .., (unset_objWith ..).1, (unset_objWith ..).2⟩
  rw [cli_prog_is_expected, cli_source_is_expected_ir.2.1]; exact run_traces_expected W g dump

/-- `formatted_traces` as the composed hand model has it (`EndToEnd.formattedTraces`: container parser → event filter →
    `TracesParser` → post-filters → `_format_trace`, colour OFF): configured by the object's filter attributes and column
    switches, on a parser whose tables are empty; with colour on the lines go through pygments, outside that model. -/
def tracesWorld (env : Trace.Env) (plist : Bytes → Option PView) : World Bytes Unit :=
  { formatted := fun m o file =>
      if m = "formatted_traces" then
        match cfgOfObj o, showOfObj o, colorOfObj o, tablesEmpty o with
        | some cfg, some sh, some false, true => EndToEnd.formattedTraces env { cfg := cfg } sh plist file
        | _, _, _, _ => ([], some .unmodelled)
      else ([], some .attributeError)
    parseAll := fun _ => .error .unmodelled
    jsonDumps := fun _ _ _ => .error .unmodelled }

/-- **`traces --no-color` = `print_with_count` of the end-to-end hand model under `configOf`**: for every dump (any byte
    string) the command prints the first `count` lines (all for `count < 0`) of
    `EndToEnd.formattedTraces env {cfg := configOf o} (showOf o) plist file`, and the exception that model ends with
    surfaces unless the loop broke first. -/
theorem traces_command_ir_eq_e2e (env : Trace.Env) (plist : Bytes → Option PView) (g : Given) (hc : g.color = some false)
    (file : Bytes) :
    run Gen.PyIRCli.prog (tracesWorld env plist) Gen.PyIRCli.traces g.args file =
      pwcResult (EndToEnd.formattedTraces env { cfg := configOf (Opts.ofGiven g) } (showOf (Opts.ofGiven g)) plist file)
        (Opts.ofGiven g).count := by
  obtain ⟨h, hcfg, hsh, hcol, _, htab⟩ := traces_command_ir_eq_model (tracesWorld env plist) g file
  have hcol' : colorOfObj (tracesObj (Opts.ofGiven g)) = some false := by rw [hcol]; simp [Opts.ofGiven, hc]
  rw [h]
  simp only [tracesWorld, hcfg, hsh, hcol', htab, if_true]

/-- **The `callstacks` command of the source, interpreted**: `--tid`, `--process`, `--show-tid`, `-c` (no class /
    subclass / colour option: given one, click rejects the command line); the object handed to `formatted_callstacks`
    reads as `configOf o` with the EMPTY class and subclass lists of `__init__`, `showOf o`, colour on. -/
theorem callstacks_command_ir_eq_model {δ τ : Type} (W : World δ τ) (g : Given) (hcf : g.classFilters = [])
    (hsf : g.subclassFilters = []) (hc : g.color = none) (dump : δ) :
    run Gen.PyIRCli.prog W Gen.PyIRCli.callstacks g.args dump =
      pwcResult (W.formatted "formatted_callstacks" (plainObj (Opts.ofGiven g)) dump) (Opts.ofGiven g).count ∧
    cfgOfObj (plainObj (Opts.ofGiven g)) = some (configOf (Opts.ofGiven g)) ∧
    showOfObj (plainObj (Opts.ofGiven g)) = some (showOf (Opts.ofGiven g)) ∧
    colorOfObj (plainObj (Opts.ofGiven g)) = some true ∧
    wallClockUnset (plainObj (Opts.ofGiven g)) = true ∧ tablesEmpty (plainObj (Opts.ofGiven g)) = true := by
  refine ⟨?_, ?_, show_objWith .., color_objWith .., (unset_objWith ..).1, (unset_objWith ..).2⟩
  · rw [cli_prog_is_expected, cli_source_is_expected_ir.2.2.1]; exact run_callstacks_expected W g hcf hsf hc dump
  · rw [cfg_plainObj]; simp [configOf, Opts.ofGiven, hcf, hsf]

/-- **The `logs` command of the source, interpreted**: the same four options, `formatted_logs`. -/
theorem logs_command_ir_eq_model {δ τ : Type} (W : World δ τ) (g : Given) (hcf : g.classFilters = [])
    (hsf : g.subclassFilters = []) (hc : g.color = none) (dump : δ) :
    run Gen.PyIRCli.prog W Gen.PyIRCli.logs g.args dump =
      pwcResult (W.formatted "formatted_logs" (plainObj (Opts.ofGiven g)) dump) (Opts.ofGiven g).count ∧
    cfgOfObj (plainObj (Opts.ofGiven g)) = some (configOf (Opts.ofGiven g)) ∧
    showOfObj (plainObj (Opts.ofGiven g)) = some (showOf (Opts.ofGiven g)) ∧
    colorOfObj (plainObj (Opts.ofGiven g)) = some true := by
  refine ⟨?_, ?_, show_objWith .., color_objWith ..⟩
  · rw [cli_prog_is_expected, cli_source_is_expected_ir.2.2.2.1]; exact run_logs_expected W g hcf hsf hc dump
  · rw [cfg_plainObj]; simp [configOf, Opts.ofGiven, hcf, hsf]

/-- **`formatted_traces` of the source, interpreted** (any meaning `M` of `self.traces` / `self._format_trace`): `map` of
    `self._format_trace(t)` over `self.traces(kdebug, trace_codes)` — the code table handed on AS GIVEN (`None` when
    omitted: `traces()` picks the default) —, ending with the first exception of the formatter or with that of the
    listing. -/
theorem formatted_traces_ir_eq_model {δ ι κ : Type} (M : Methods δ ι κ) (o : Obj) (tc : Option κ) (dump : δ) :
    runFormatted M Gen.PyIRCli.formattedTraces o tc dump =
      mapGen (fun t => M.formatter "_format_trace" o t [])
        (M.source "traces" o [.kdebug, givenArg tc] dump).1 (M.source "traces" o [.kdebug, givenArg tc] dump).2 := by
  rw [cli_source_is_expected_ir.2.2.2.2.2.2.1]; exact runFormatted_traces M o tc dump

/-- **`formatted_callstacks`**: `map` of `self._format_callstack(t)` over `self.callstacks(kdebug, trace_codes)`. -/
theorem formatted_callstacks_ir_eq_model {δ ι κ : Type} (M : Methods δ ι κ) (o : Obj) (tc : Option κ) (dump : δ) :
    runFormatted M Gen.PyIRCli.formattedCallstacks o tc dump =
      mapGen (fun t => M.formatter "_format_callstack" o t [])
        (M.source "callstacks" o [.kdebug, givenArg tc] dump).1
        (M.source "callstacks" o [.kdebug, givenArg tc] dump).2 := by
  rw [cli_source_is_expected_ir.2.2.2.2.2.2.2.1]; exact runFormatted_callstacks M o tc dump

/-- **`formatted_logs`**: `map` of `self._format_log(t)` over `self.os_log_events(kdebug)`; it takes no code table. -/
theorem formatted_logs_ir_eq_model {δ ι κ : Type} (M : Methods δ ι κ) (o : Obj) (dump : δ) :
    runFormatted M Gen.PyIRCli.formattedLogs o none dump =
      mapGen (fun t => M.formatter "_format_log" o t [])
        (M.source "os_log_events" o [.kdebug] dump).1 (M.source "os_log_events" o [.kdebug] dump).2 := by
  rw [cli_source_is_expected_ir.2.2.2.2.2.2.2.2.1]; exact runFormatted_logs M o dump

/-- a world that answers only when the object reads as the filter configuration `want`: every line is `<method>|<item>` -/
private def probe (want : Cfg) : World (List String × Option PyErr) Unit :=
  { formatted := fun m o d =>
      if cfgOfObj o = some want then (d.1.map fun x => m ++ "|" ++ x, d.2) else ([], some .unmodelled)
    parseAll := fun _ => .error .unmodelled
    jsonDumps := fun _ _ _ => .error .unmodelled }

-- non-vacuity: the GENERATED commands on concrete option sets and abstract generators
example : run Gen.PyIRCli.prog (probe { filterTid := some 7, filterProcess := some "launchd", filterClass := [4, 0x31] })
    Gen.PyIRCli.traces
    ({ tid := some 7, process := some "launchd", classFilters := [4, 0x31], count := some 1 } : Given).args
    (["a", "b"], some .eof) = .ran ["formatted_traces|a"] none := by decide +kernel
example : run Gen.PyIRCli.prog (probe { filterProcess := some "42" }) Gen.PyIRCli.callstacks
    ({ process := some "42", count := some 2 } : Given).args (["a", "b"], some .eof) =
    .ran ["formatted_callstacks|a", "formatted_callstacks|b"] (some .eof) := by decide +kernel
example : run Gen.PyIRCli.prog (probe { filterTid := some 9 }) Gen.PyIRCli.logs ({ tid := some 9 } : Given).args
    (["x"], none) = .ran ["formatted_logs|x"] none := by decide +kernel
example : run Gen.PyIRCli.prog (probe {}) Gen.PyIRCli.callstacks ({ classFilters := [4] } : Given).args (["x"], none) =
    .usage := by decide +kernel
example : configOf (Opts.ofGiven { tid := some (-3), subclassFilters := [0x040c], process := some "7" }) =
    { filterTid := some (2 ^ 70 + 3), filterSubclass := [0x040c], filterProcess := some "7" } := by decide +kernel

end KdVerif.C13
