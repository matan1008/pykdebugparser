import KdVerif.Model.Format
import KdVerif.Gen.Enums
import KdVerif.Proofs.Declared
import KdVerif.Gen.Decoders
import KdVerif.Gen.Host
import KdVerif.Proofs.EndToEnd
import KdVerif.Gen.PyIRFm
import KdVerif.Proofs.PyIRFm
import KdVerif.Gen.PyIRCli
import KdVerif.Proofs.PyIRCli
/-
  C14 (column half) — every formatted line is the concatenation, in a fixed order, of the enabled
  columns; switching one column off removes exactly that column and alters no other; colouring
  never changes the text; the process column names the process the two lookup tables hold for the
  emitting thread, and a thread absent from the table is reported as `Error: tid N`.

  Subject: `Format.formatKevent / formatTrace / formatCallstack / formatLog` (Model/Format.lean), the
  line builders written statement by statement like `_format_kevent / _format_trace /
  _format_callstack / _format_log`.

  Scope notes.
  * `_format_timestamp`: only the tick branch (`str(ts) + ' '`) — the wall-clock branch (all five
    time parameters set; float arithmetic, `datetime`) is outside the model, the command-line tool
    never enables it.
  * pygments (`highlight`) and termcolor (`colored`) are external: they are parameters (`Colour`).
    The text theorems are stated with colour off; `*_colour_transparent` hold for any eraser `strip`
    under explicit assumptions about `strip` and the highlighter.  The correspondence checks the
    conclusion on every generated line by stripping ANSI escapes from the real coloured output.
    Note `_format_trace` additionally `.strip()`s the highlighted text: `Colour.hlTrace` stands for
    the composite.  For pygments the assumption is FALSE on bodies with `\r` or leading / trailing
    newlines (known finding K7), hence `trace_colour_transparent_partial`.
  * `_format_kevent` and `_format_callstack` never consult `self.color` (their models take no
    `Colour`), `_format_log` consults none of the `show_*` switches (its model takes no `Show`).

  PROCESS-COLUMN HALF (second part of this file, `tables_are_fold`, `process_column_spec`): in the
  first part the tables are a parameter and `process_column_lookup` states what the column shows
  for given tables; the second part proves that the tables the pipeline holds when a line is
  formatted are the thread map superseded, in stream order, by the new-thread / exec /
  terminate-pid / sampler records of the prefix UP TO AND INCLUDING THE EVENT THAT COMPLETED THE
  TRACE (`formatted_traces` is a lazy `map` over the generator: a trace is formatted before the
  next event is fed).  Event lines (`formatted_kevents`) never run the trace decoders: their
  tables are the thread map alone, whatever records the stream holds (`kevent_process_column_spec`).
-/
namespace KdVerif.C14
open KdVerif.Format
open KdVerif.Filters (LogRec)

inductive Switch
  | timestamp | name | funcQual | tid | process | args
  deriving DecidableEq, Repr

def get (sh : Show) : Switch → Bool
  | .timestamp => sh.timestamp | .name => sh.name | .funcQual => sh.funcQual
  | .tid => sh.tid | .process => sh.process | .args => sh.args

def set (sh : Show) (c : Switch) (b : Bool) : Show :=
  match c with
  | .timestamp => { sh with timestamp := b } | .name => { sh with name := b }
  | .funcQual => { sh with funcQual := b } | .tid => { sh with tid := b }
  | .process => { sh with process := b } | .args => { sh with args := b }

theorem get_set (sh : Show) (c c' : Switch) (b : Bool) :
    get (set sh c b) c' = if c' = c then b else get sh c' := by
  cases c <;> cases c' <;> rfl

/-- A column: the switch that controls it (`none`: always printed) and its text. -/
abbrev Col := Option Switch × String

def enabled (sh : Show) : Option Switch → Bool
  | none => true
  | some c => get sh c

/-- The concatenation, in list order, of the enabled columns. -/
def joinCols (sh : Show) (cols : List Col) : String :=
  String.join ((cols.filter (fun c => enabled sh c.1)).map (·.2))

def without (c : Switch) (cols : List Col) : List Col := cols.filter (fun x => x.1 ≠ some c)

def before (c : Switch) (cols : List Col) : List Col := cols.takeWhile (fun x => x.1 ≠ some c)
def after (c : Switch) (cols : List Col) : List Col := (cols.dropWhile (fun x => x.1 ≠ some c)).drop 1
def textOf (c : Switch) (cols : List Col) : String := ((cols.find? (fun x => x.1 = some c)).map (·.2)).getD ""

/-! The column texts: each a function of its own field only. -/

def colTimestamp (timestamp : Nat) : String := toString timestamp ++ " "

def eventName (codes : List (Nat × String)) (eventid : Nat) : String :=
  match codes.lookup eventid with
  | some n => n ++ (" (" ++ pyHex eventid ++ ")")
  | none => pyHex eventid

def colName (codes : List (Nat × String)) (eventid : Nat) : String := padRight 58 (eventName codes eventid)

def colQual (qe : EnumDef) (qual : Nat) : String :=
  match qe.ofValue qual with
  | some m => padRight 15 m.name
  | none => padRight 16 "Error"

def colTidHex (tid : Nat) : String := padRight 12 (pyHex tid)
def colTidDec (tid : Nat) : String := padLeft 11 (toString tid) ++ " "
def colProcess (w : Nat) (t : Format.Tables) (tid : Nat) : String := padRight w (formatProcess t tid)
def colArgs (data : Bytes) : String := padRight 34 (bytesRepr data)

/-- Event line: timestamp, name, qualifier, thread id (hex), process (27), argument bytes. -/
def keventCols (qe : EnumDef) (codes : List (Nat × String)) (t : Format.Tables) (e : Kevent) : List Col :=
  [(some .timestamp, colTimestamp e.timestamp), (some .name, colName codes e.eventid),
   (some .funcQual, colQual qe e.qual), (some .tid, colTidHex e.tid),
   (some .process, colProcess 27 t e.tid), (some .args, colArgs e.data)]

/-- Header shared by trace and callstack lines: timestamp, thread id (decimal), process (34). -/
def headerCols (t : Format.Tables) (timestamp tid : Nat) : List Col :=
  [(some .timestamp, colTimestamp timestamp), (some .tid, colTidDec tid), (some .process, colProcess 34 t tid)]

/-- Trace line: header, then the body (always printed). -/
def traceCols (t : Format.Tables) (tr : TraceRec) : List Col := headerCols t tr.timestamp tr.tid ++ [(none, tr.body)]

/-- Log line: timestamp text (27), the process between two spaces when the record has a process
    name, the message.  No column is switchable. -/
def logCols (t : Format.Tables) (timeString : String) (l : LogRec) : List Col :=
  [(none, padRight 27 timeString)]
    ++ (if l.process ≠ "" then [(none, " " ++ colProcess 27 t l.threadIdentifier ++ " ")] else [])
    ++ [(none, l.message)]

theorem joinCols_nil (sh : Show) : joinCols sh [] = "" := rfl

theorem joinCols_cons (sh : Show) (c : Col) (cols : List Col) :
    joinCols sh (c :: cols) = (if enabled sh c.1 then c.2 else "") ++ joinCols sh cols := by
  unfold joinCols
  by_cases h : enabled sh c.1 <;> simp [h, String.join_cons]

theorem joinCols_append (sh : Show) (a b : List Col) :
    joinCols sh (a ++ b) = joinCols sh a ++ joinCols sh b := by
  simp [joinCols, List.filter_append, String.join_append]

theorem joinCols_off (sh : Show) (c : Switch) (cols : List Col) :
    joinCols (set sh c false) cols = joinCols sh (without c cols) := by
  unfold joinCols without
  rw [List.filter_filter]
  congr 2
  apply List.filter_congr
  intro x _
  rcases x with ⟨_ | c', txt⟩
  · simp [enabled]
  · by_cases h : c' = c <;> simp [enabled, get_set, h]

/-- A switch that labels no column of the list does not affect the join (the hypothesis is a Boolean so that `rfl`
    checks it on a concrete list of labelled texts). -/
theorem joinCols_unrelated (sh : Show) (c : Switch) (cols : List Col) (h : (cols.all fun x => x.1 != some c) = true)
    (b : Bool) : joinCols (set sh c b) cols = joinCols sh cols := by
  unfold joinCols
  congr 2
  apply List.filter_congr
  intro x hx
  rcases x with ⟨_ | c', txt⟩
  · rfl
  · have : c' ≠ c := fun e => bne_iff_ne.mp (List.all_eq_true.mp h _ hx) (by rw [e])
    simp [enabled, get_set, this]

/-- Splice form: if the column list is `l1 ++ [(c, txt)] ++ l2` and `c` labels nothing else, the line is
    `pre ++ txt ++ post` with the column on and `pre ++ post` — the same `pre` and `post` — with it off. -/
theorem joinCols_splice (sh : Show) (c : Switch) (l1 l2 : List Col) (txt : String)
    (h1 : (l1.all fun x => x.1 != some c) = true) (h2 : (l2.all fun x => x.1 != some c) = true) :
    joinCols sh (l1 ++ (some c, txt) :: l2)
        = joinCols sh l1 ++ (if get sh c then txt else "") ++ joinCols sh l2 ∧
    joinCols (set sh c false) (l1 ++ (some c, txt) :: l2) = joinCols sh l1 ++ joinCols sh l2 := by
  constructor
  · rw [joinCols_append, joinCols_cons, String.append_assoc]; rfl
  · rw [joinCols_append, joinCols_cons, joinCols_unrelated sh c l1 h1, joinCols_unrelated sh c l2 h2]
    simp [enabled, get_set]

/-- An event line is the concatenation, in the fixed order timestamp, name,
    qualifier, thread id, process, arguments, of the enabled columns (all 2^6 settings). -/
theorem kevent_is_join (sh : Show) (qe : EnumDef) (codes : List (Nat × String)) (t : Format.Tables) (e : Kevent) :
    formatKevent sh qe codes t e = joinCols sh (keventCols qe codes t e) := by
  rw [PyIRFm.formatKevent_eq]
  simp only [keventCols, joinCols_cons, joinCols_nil, enabled, get, String.append_assoc, String.empty_append,
    String.append_empty]
  rfl

theorem joinCols_header (sh : Show) (t : Format.Tables) (timestamp tid : Nat) :
    joinCols sh (headerCols t timestamp tid) = PyIRFm.headerText sh t timestamp tid := by
  simp only [headerCols, joinCols_cons, joinCols_nil, enabled, get, PyIRFm.headerText, String.append_assoc,
    String.empty_append, String.append_empty]
  rfl

/-- Colour off: header columns timestamp, thread id, process, then the body. -/
theorem trace_is_join (sh : Show) (t : Format.Tables) (tr : TraceRec) :
    formatTrace sh Colour.off t tr = joinCols sh (traceCols t tr) := by
  rw [PyIRFm.formatTrace_eq, traceCols, joinCols_append, joinCols_header]
  simp only [joinCols_cons, joinCols_nil, enabled, Colour.off, Bool.false_eq_true, if_false, if_true, String.append_empty]

/-- The trace line for any colour setting: the same header, then the (possibly highlighted) body. -/
theorem trace_is_header_body (sh : Show) (c : Colour) (t : Format.Tables) (tr : TraceRec) :
    formatTrace sh c t tr
      = joinCols sh (headerCols t tr.timestamp tr.tid) ++ (if c.on then c.hlTrace tr.body else tr.body) := by
  rw [PyIRFm.formatTrace_eq, joinCols_header]

theorem frameLines_eq (i : Nat) (fs : List Frame) :
    frameLines i fs = fs.mapIdx (fun k f => spaces (i + k) ++ frameText f) := by
  induction fs generalizing i with
  | nil => rfl
  | cons f fs ih =>
    simp only [frameLines, ih, List.mapIdx_cons, Nat.add_zero, Nat.add_assoc, Nat.add_comm 1]

/-- A callstack text is the header (join of the enabled header columns)
    and one line per frame, `i` spaces of indent for frame `i`, joined by newlines. -/
theorem callstack_is_join (sh : Show) (t : Format.Tables) (cs : Callstack) :
    formatCallstack sh t cs
      = "\n".intercalate (joinCols sh (headerCols t cs.timestamp cs.tid)
          :: cs.frames.mapIdx (fun i f => spaces i ++ frameText f)) := by
  rw [PyIRFm.formatCallstack_eq, joinCols_header, frameLines_eq]
  simp only [Nat.zero_add]

/-- Colour off: timestamp text padded to 27, the process padded to 27 between
    two spaces when the record carries a process name, the message; independent of every switch. -/
theorem log_is_join (sh : Show) (t : Format.Tables) (timeString : String) (l : LogRec) :
    formatLog Colour.off t timeString l = joinCols sh (logCols t timeString l) := by
  simp only [formatLog, logCols, Colour.off, colProcess]
  by_cases h : l.process = "" <;>
    simp [h, joinCols_cons, joinCols_nil, enabled, String.append_assoc]

/-- Event lines: for every one of the 2^6 settings and every column `c`, disabling
    `c` yields exactly the join of the other enabled columns. -/
theorem column_off (sh : Show) (c : Switch) (qe : EnumDef) (codes : List (Nat × String)) (t : Format.Tables)
    (e : Kevent) :
    formatKevent (set sh c false) qe codes t e = joinCols sh (without c (keventCols qe codes t e)) := by
  rw [kevent_is_join, joinCols_off]

theorem trace_column_off (sh : Show) (c : Switch) (t : Format.Tables) (tr : TraceRec) :
    formatTrace (set sh c false) Colour.off t tr = joinCols sh (without c (traceCols t tr)) := by
  rw [trace_is_join, joinCols_off]

theorem callstack_column_off (sh : Show) (c : Switch) (t : Format.Tables) (cs : Callstack) :
    formatCallstack (set sh c false) t cs
      = "\n".intercalate (joinCols sh (without c (headerCols t cs.timestamp cs.tid))
          :: cs.frames.mapIdx (fun i f => spaces i ++ frameText f)) := by
  rw [callstack_is_join, joinCols_off]

/-- Log lines have no switchable column: every switch setting gives the same line. -/
theorem log_column_off (sh : Show) (c : Switch) (t : Format.Tables) (timeString : String) (l : LogRec) :
    joinCols (set sh c false) (logCols t timeString l) = joinCols sh (logCols t timeString l) := by
  rw [← log_is_join, ← log_is_join]

/-- **Removing exactly that column** (event lines): with `pre`/`post` the joins of the enabled
    columns before/after `c`, the line is `pre ++ text_c ++ post` when `c` is on and `pre ++ post`
    when it is switched off — nothing else moves or changes. -/
theorem kevent_column_removed (sh : Show) (c : Switch) (qe : EnumDef) (codes : List (Nat × String))
    (t : Format.Tables) (e : Kevent) :
    let cols := keventCols qe codes t e
    formatKevent sh qe codes t e
        = joinCols sh (before c cols) ++ (if get sh c then textOf c cols else "") ++ joinCols sh (after c cols) ∧
    formatKevent (set sh c false) qe codes t e = joinCols sh (before c cols) ++ joinCols sh (after c cols) := by
  intro cols
  rw [kevent_is_join, kevent_is_join]
  cases c
  · exact joinCols_splice sh .timestamp [] _ _ rfl rfl
  · exact joinCols_splice sh .name [_] _ _ rfl rfl
  · exact joinCols_splice sh .funcQual [_, _] _ _ rfl rfl
  · exact joinCols_splice sh .tid [_, _, _] _ _ rfl rfl
  · exact joinCols_splice sh .process [_, _, _, _] _ _ rfl rfl
  · exact joinCols_splice sh .args [_, _, _, _, _] [] _ rfl rfl

/-- The same for the header of trace and callstack lines (columns timestamp, thread id, process);
    the other three switches are not columns of these lines and change nothing. -/
theorem header_column_removed (sh : Show) (c : Switch) (t : Format.Tables) (timestamp tid : Nat) :
    let cols := headerCols t timestamp tid
    (c = .timestamp ∨ c = .tid ∨ c = .process →
      joinCols sh cols
          = joinCols sh (before c cols) ++ (if get sh c then textOf c cols else "") ++ joinCols sh (after c cols) ∧
      joinCols (set sh c false) cols = joinCols sh (before c cols) ++ joinCols sh (after c cols)) ∧
    (c = .name ∨ c = .funcQual ∨ c = .args → ∀ b, joinCols (set sh c b) cols = joinCols sh cols) := by
  intro cols
  constructor
  · rintro (h | h | h) <;> subst h
    · exact joinCols_splice sh .timestamp [] _ _ rfl rfl
    · exact joinCols_splice sh .tid [_] _ _ rfl rfl
    · exact joinCols_splice sh .process [_, _] [] _ rfl rfl
  · rintro (h | h | h) b <;> subst h <;> exact joinCols_unrelated sh _ _ rfl b

theorem trace_column_removed (sh : Show) (c : Switch) (t : Format.Tables) (tr : TraceRec)
    (hc : c = .timestamp ∨ c = .tid ∨ c = .process) :
    let cols := headerCols t tr.timestamp tr.tid
    formatTrace sh Colour.off t tr
        = joinCols sh (before c cols) ++ (if get sh c then textOf c cols else "") ++ joinCols sh (after c cols)
          ++ tr.body ∧
    formatTrace (set sh c false) Colour.off t tr
        = joinCols sh (before c cols) ++ joinCols sh (after c cols) ++ tr.body := by
  intro cols
  have h := (header_column_removed sh c t tr.timestamp tr.tid).1 hc
  rw [trace_is_header_body, trace_is_header_body]
  simp only [Colour.off, Bool.false_eq_true, if_false]
  exact ⟨by rw [h.1], by rw [h.2]⟩

/-- The three switches that are not columns of a trace line do not affect it. -/
theorem trace_ignores_other_switches (sh : Show) (c : Switch) (b : Bool) (col : Colour) (t : Format.Tables)
    (tr : TraceRec) (hc : c = .name ∨ c = .funcQual ∨ c = .args) :
    formatTrace (set sh c b) col t tr = formatTrace sh col t tr := by
  rw [trace_is_header_body, trace_is_header_body, (header_column_removed sh c t tr.timestamp tr.tid).2 hc b]

/-- The process text is `name(pid)` for the pid the thread table holds
    for that tid (name = the entry of the name table, empty when it has none), and `Error: tid N`
    when the tid is absent — and also when the table holds the pid −1, which the code uses as its
    "absent" marker. -/
theorem process_column_lookup (t : Format.Tables) (tid : Nat) :
    (∀ pid, t.threadsPids.lookup tid = some pid → pid ≠ -1 →
        formatProcess t tid = (t.pidsNames.lookup pid).getD "" ++ "(" ++ toString pid ++ ")") ∧
    (t.threadsPids.lookup tid = none → formatProcess t tid = "Error: tid " ++ toString tid) ∧
    (t.threadsPids.lookup tid = some (-1) → formatProcess t tid = "Error: tid " ++ toString tid) := by
  refine ⟨?_, ?_, ?_⟩
  · intro pid h hne; simp [formatProcess, h, hne]
  · intro h; simp [formatProcess, h]
  · intro h; simp [formatProcess, h]

/-- In every builder the process column is that text, padded (27 for event and log lines, 34 for
    trace and callstack headers), looked up for the record's own thread id. -/
theorem process_column_of_builders (qe : EnumDef) (codes : List (Nat × String)) (t : Format.Tables) (e : Kevent)
    (tr : TraceRec) (l : LogRec) (ts : String) :
    textOf .process (keventCols qe codes t e) = padRight 27 (formatProcess t e.tid) ∧
    textOf .process (traceCols t tr) = padRight 34 (formatProcess t tr.tid) ∧
    (l.process ≠ "" → (" " ++ padRight 27 (formatProcess t l.threadIdentifier) ++ " ") ∈ (logCols t ts l).map (·.2)) := by
  refine ⟨rfl, rfl, ?_⟩
  intro h; simp [logCols, h, colProcess]

/-- For any eraser `strip` that distributes over
    concatenation: if erasing the highlighted body gives the same as erasing the plain body — an
    assumption about pygments *for this body* (`hlTrace` = highlight followed by `.strip()`) — the
    coloured line and the plain line erase to the same text.
    Partial: for the real pygments the assumption fails when the body contains `\r` or begins/ends
    with a newline (known finding K7); the unconditional statement
    `∀ body, strip (formatTrace sh on …) = strip (formatTrace sh off …)` is false for it. -/
theorem trace_colour_transparent_partial (strip : String → String) (c : Colour) (sh : Show) (t : Format.Tables)
    (tr : TraceRec) (happ : ∀ a b, strip (a ++ b) = strip a ++ strip b)
    (hhl : strip (c.hlTrace tr.body) = strip tr.body) :
    strip (formatTrace sh c t tr) = strip (formatTrace sh Colour.off t tr) := by
  rw [trace_is_header_body, trace_is_header_body, happ, happ]
  cases h : c.on <;> simp [Colour.off, hhl]

/-- The form with `strip (hl s) = s`: when moreover the header is plain text (erasing leaves it
    unchanged), erasing the coloured line gives exactly the colour-off line. -/
theorem trace_colour_transparent_plain_partial (strip : String → String) (c : Colour) (sh : Show) (t : Format.Tables)
    (tr : TraceRec) (happ : ∀ a b, strip (a ++ b) = strip a ++ strip b)
    (hplain : strip (joinCols sh (headerCols t tr.timestamp tr.tid)) = joinCols sh (headerCols t tr.timestamp tr.tid))
    (hon : c.on = true) (hhl : strip (c.hlTrace tr.body) = tr.body) :
    strip (formatTrace sh c t tr) = formatTrace sh Colour.off t tr := by
  rw [trace_is_header_body, trace_is_header_body, happ, hplain]
  simp [Colour.off, hon, hhl]

/-- For any eraser that distributes over concatenation and erases
    `colored` (`strip (colored s c) = strip s`), the coloured log line and the plain one erase to the
    same text: the padding is computed on the plain process text, so colouring cannot move it. -/
theorem log_colour_transparent (strip : String → String) (c : Colour) (t : Format.Tables) (ts : String) (l : LogRec)
    (happ : ∀ a b, strip (a ++ b) = strip a ++ strip b)
    (hcol : ∀ s k, strip (c.colored s k) = strip s) :
    strip (formatLog c t ts l) = strip (formatLog Colour.off t ts l) := by
  simp only [formatLog, Colour.off]
  cases h : c.on <;> by_cases hp : l.process = "" <;> simp [hp, happ, hcol]

/-- An eraser that distributes over concatenation erases the empty text to itself
    (`strip "" = strip "" ++ strip ""`: compare lengths). -/
theorem strip_empty (strip : String → String) (happ : ∀ a b, strip (a ++ b) = strip a ++ strip b) : strip "" = "" := by
  have hlen := congrArg String.length (happ "" "")
  simp only [String.append_empty, String.length_append] at hlen
  exact String.length_eq_zero_iff.mp (by omega)

/-- … and leaves a join of columns unchanged when it leaves every column text unchanged. -/
theorem strip_joinCols (strip : String → String) (happ : ∀ a b, strip (a ++ b) = strip a ++ strip b) (sh : Show)
    (cols : List Col) (hplain : ∀ s ∈ cols.map (·.2), strip s = s) : strip (joinCols sh cols) = joinCols sh cols := by
  induction cols with
  | nil => exact strip_empty strip happ
  | cons x xs ih =>
    rw [joinCols_cons, happ, ih fun s hs => hplain s (List.mem_cons_of_mem _ hs)]
    cases enabled sh x.1 with
    | true => rw [if_pos rfl, hplain x.2 List.mem_cons_self]
    | false => rw [if_neg Bool.false_ne_true, strip_empty strip happ]

/-- With `strip (colored s c) = s` on plain pieces: erasing the coloured log line gives exactly the colour-off line,
    provided the eraser leaves the (plain) pieces and single spaces unchanged. -/
theorem log_colour_transparent_plain (strip : String → String) (c : Colour) (t : Format.Tables) (ts : String) (l : LogRec)
    (happ : ∀ a b, strip (a ++ b) = strip a ++ strip b)
    (hcol : ∀ s k, strip (c.colored s k) = strip s)
    (hplain : ∀ s ∈ (logCols t ts l).map (·.2), strip s = s) :
    strip (formatLog c t ts l) = formatLog Colour.off t ts l := by
  rw [log_colour_transparent strip c t ts l happ hcol, log_is_join {}, strip_joinCols strip happ _ _ hplain]

/-! Non-vacuity.  The evaluations are named theorems as well: the examples of the translation tie below reuse them. -/

private def qe := Gen.Enums.DgbFuncQual
private def tabs : Format.Tables := { threadsPids := [(7, 42), (9, -1)], pidsNames := [(42, "launchd")] }
private def ev : Kevent :=
  { timestamp := 1234, data := [39, 0, 255, 92, 10, 65], values := [], tid := 7, debugid := 0x040c0005,
    eventid := 0x040c0004, qual := 1 }

private theorem kevent_line : formatKevent { tid := true } qe [(0x040c0004, "BSC_getpid")] tabs ev
    = "1234 " ++ "BSC_getpid (0x40c0004)" ++ spaces 36 ++ "DBG_FUNC_START " ++ "0x7" ++ spaces 9
      ++ "launchd(42)" ++ spaces 16 ++ "b\"'\\x00\\xff\\\\\\nA\"" ++ spaces 17 := by decide +kernel
example : formatKevent { tid := true } qe [(0x040c0004, "BSC_getpid")] tabs ev
    = "1234 " ++ "BSC_getpid (0x40c0004)" ++ spaces 36 ++ "DBG_FUNC_START " ++ "0x7" ++ spaces 9
      ++ "launchd(42)" ++ spaces 16 ++ "b\"'\\x00\\xff\\\\\\nA\"" ++ spaces 17 := kevent_line
private theorem kevent_error_line :
    formatKevent { timestamp := false, name := false, process := true, args := false } qe [] tabs
    { ev with tid := 8, qual := 5 } = "Error" ++ spaces 11 ++ "Error: tid 8" ++ spaces 15 := by decide +kernel
example : formatKevent { timestamp := false, name := false, process := true, args := false } qe [] tabs
    { ev with tid := 8, qual := 5 } = "Error" ++ spaces 11 ++ "Error: tid 8" ++ spaces 15 := kevent_error_line
private theorem process_marker_text : formatProcess tabs 9 = "Error: tid 9" := by decide +kernel
example : formatProcess tabs 9 = "Error: tid 9" := process_marker_text
private theorem trace_line : formatTrace { tid := true } Colour.off tabs ⟨5, 7, "getpid(), pid: 42"⟩
    = "5 " ++ "          7 " ++ "launchd(42)" ++ spaces 23 ++ "getpid(), pid: 42" := by decide +kernel
example : formatTrace { tid := true } Colour.off tabs ⟨5, 7, "getpid(), pid: 42"⟩
    = "5 " ++ "          7 " ++ "launchd(42)" ++ spaces 23 ++ "getpid(), pid: 42" := trace_line
private theorem callstack_text :
    formatCallstack {} tabs ⟨5, 7, [⟨0x1000, some "UUID", 0x10⟩, ⟨0xffffffffffffffff1, none, 0⟩]⟩
    = "5 launchd(42)" ++ spaces 23 ++ "\nUUID:0x0000000000000010\n 0xffffffffffffffff1" := by decide +kernel
example : formatCallstack {} tabs ⟨5, 7, [⟨0x1000, some "UUID", 0x10⟩, ⟨0xffffffffffffffff1, none, 0⟩]⟩
    = "5 launchd(42)" ++ spaces 23 ++ "\nUUID:0x0000000000000010\n 0xffffffffffffffff1" := callstack_text
private theorem log_line : formatLog Colour.termcolor tabs "2024-01-01 00:00:00.000001" ⟨7, "launchd", 42, "hi"⟩
    = "\x1b[32m2024-01-01 00:00:00.000001 \x1b[0m \x1b[35mlaunchd(42)" ++ spaces 16 ++ "\x1b[0m \x1b[97mhi\x1b[0m" := by
  decide +kernel
example : formatLog Colour.termcolor tabs "2024-01-01 00:00:00.000001" ⟨7, "launchd", 42, "hi"⟩
    = "\x1b[32m2024-01-01 00:00:00.000001 \x1b[0m \x1b[35mlaunchd(42)" ++ spaces 16 ++ "\x1b[0m \x1b[97mhi\x1b[0m" :=
  log_line

/-- The colour assumptions are satisfiable by a non-trivial eraser: markers U+E000/U+E001 around
    the coloured text, `strip` deletes the markers. -/
private def mark : Colour := ⟨true, fun s => "\uE000" ++ s ++ "\uE001", fun s _ => "\uE000" ++ s ++ "\uE001"⟩
private def unmark (s : String) : String :=
  String.ofList (s.toList.filter (fun ch => ch ≠ '\uE000' ∧ ch ≠ '\uE001'))
private theorem unmark_append (a b : String) : unmark (a ++ b) = unmark a ++ unmark b := by
  simp [unmark, String.toList_append, List.filter_append, String.ofList_append]
example (t : Format.Tables) (ts : String) (l : LogRec) :
    unmark (formatLog mark t ts l) = unmark (formatLog Colour.off t ts l) :=
  log_colour_transparent unmark mark t ts l unmark_append (by
    intro s k
    simp only [mark, unmark_append]
    have h0 : unmark "\uE000" = "" := by decide +kernel
    have h1 : unmark "\uE001" = "" := by decide +kernel
    rw [h0, h1]; simp)

/-- Shape of known finding K7: a highlighter that rewrites a carriage return to a newline (as the
    pygments lexer does) violates the assumption of `trace_colour_transparent_partial`, and the
    conclusion then fails even for the identity eraser — the hypothesis cannot be dropped. -/
private def crToNl : Colour :=
  ⟨true, fun s => String.ofList (s.toList.map fun ch => if ch = '\r' then '\n' else ch), fun s _ => s⟩
example : formatTrace {} crToNl {} ⟨1, 2, "a\rb"⟩ ≠ formatTrace {} Colour.off {} ⟨1, 2, "a\rb"⟩ := by decide +kernel
example : formatTrace {} crToNl {} ⟨1, 2, "ab"⟩ = formatTrace {} Colour.off {} ⟨1, 2, "ab"⟩ := by decide +kernel

end KdVerif.C14

/-! ## Second part: which tables a line is formatted with (the process-column half)

  Subject: `Trace.run` / `Trace.runAnnot` (Model/Trace, Model/TraceWrites: the whole `TracesParser` as driven by
  `PyKdebugParser.traces` on the tables `set_thread_map` filled) and `Declared.declaredTables` (Model/Declared: a
  plain fold over the prefix whose only state is the two lookup tables and the per-thread pending records; the
  event list an event delivers comes from the declarative pairing specification `Spec/Pairing.emitSpec`).
  Pids are naturals here (the thread map stores unsigned 32-bit pids, records unsigned 64-bit words): the
  formatter's "absent" marker −1 never occurs in the pipeline's tables.
-/
namespace KdVerif.C14
open KdVerif.Trace KdVerif.Declared KdVerif.Format

/-- A fresh `TracesParser` on the tables the thread map filled. -/
def start (tm : ThreadMap) : Trace.PState := { pairing := Pairing.PState.empty, tabs := mapTabs tm }

/-- The thread map declares, for a thread, the pid of its LAST entry, and names a
    pid by the last entry that carries it. -/
theorem thread_map_later_wins (tm : ThreadMap) (tid pid : Nat) :
    (Decl.ofMap tm).threadsPids.get tid = ((tm.filter fun e => e.1 == tid).getLast?).map (·.2.1) ∧
    (Decl.ofMap tm).pidsNames.get pid = ((tm.filter fun e => e.2.1 == pid).getLast?).map (·.2.2) := by
  constructor
  · have := lookup_reverse_append (tm.map fun e => (e.1, e.2.1)) [] tid
    simp only [List.append_nil, List.lookup_nil, Option.or_none] at this
    simp only [Decl.ofMap, Dict.get, this, List.filter_map, List.getLast?_map, Option.map_map]
    rfl
  · have := lookup_reverse_append (tm.map fun e => (e.2.1, e.2.2)) [] pid
    simp only [List.append_nil, List.lookup_nil, Option.or_none] at this
    simp only [Decl.ofMap, Dict.get, this, List.filter_map, List.getLast?_map, Option.map_map]
    rfl

/-- After any prefix on which `feed_generator` raises no exception, the two lookup tables
    (and the per-thread pending records) of the pipeline equal `declaredTables`: the thread map superseded, in
    stream order, by the new-thread records (`threads_pids[new tid] = pid`; the name string of the same thread
    teaches `pids_names[pid]`), exec pairs, terminate-pid records (`threads_pids[emitting tid] = pid`) and sampler
    thread-info records (`threads_pids[tid] = pid`) of the prefix that are delivered to their handler.
    (`hbn`: the code table names no table-writing handler for the page-fault sub-record ids that `handle_mach_vmfault`
    parses in a nested call — true of the bundled table, `C05.bundled_nested_rows`.) -/
theorem tables_are_fold (env : Env) (hbn : BenignNested env) (tm : ThreadMap) (pre : List Kevent)
    (h : (Trace.run env (start tm) pre).2.1 = none) :
    Decl.ofTabs (Trace.run env (start tm) pre).2.2.tabs = declaredTables env tm pre :=
  Declared.tables_are_fold env hbn tm pre h

/-- Every trace `formatted_traces` yields was completed by some event `e` of the stream
    (`m = pre ++ e :: post`), and the process text of its line — `_format_process` on the tables as they are when
    the trace is yielded — is `name(pid)` for the pid that `declaredTables` of the prefix up to and including `e`
    holds for the trace's thread, and `Error: tid N` when that thread was never declared (`processSpec`). -/
theorem process_column_spec (env : Env) (hbn : BenignNested env) (tm : ThreadMap) (m : List Kevent) (o : TraceOut)
    (T : Tabs)
    (h : (o, T) ∈ runAnnot env (start tm) m) :
    ∃ pre e post, m = pre ++ e :: post ∧ o ∈ (Trace.run env (start tm) (pre ++ [e])).1 ∧
      Format.formatProcess (fmtTables T.threadsPids T.pidsNames) o.tid
        = processSpec (declaredTables env tm (pre ++ [e])) o.tid := by
  obtain ⟨pre, e, post, hm, hne, hT, ho⟩ := mem_runAnnot env (start tm) m o T h
  refine ⟨pre, e, post, hm, ho, ?_⟩
  have := Declared.tables_are_fold env hbn tm (pre ++ [e]) hne
  rw [← this]
  change _ = processSpec (Decl.ofTabs (Trace.run env (start tm) (pre ++ [e])).2.2.tabs) o.tid
  rw [← hT]
  exact formatProcess_eq_spec (Decl.ofTabs T) o.tid

/-- The same for the list the correspondence compares: every entry of `traceProcessColumns` carries the specified
    text for the prefix that ends with the trace's trigger event. -/
theorem trace_process_columns_spec (env : Env) (hbn : BenignNested env) (tm : ThreadMap) (m : List Kevent)
    (x : Nat × Nat × String)
    (h : x ∈ traceProcessColumns env tm m) :
    ∃ pre e post, m = pre ++ e :: post ∧ x.2.2 = processSpec (declaredTables env tm (pre ++ [e])) x.2.1 := by
  simp only [traceProcessColumns, List.mem_map] at h
  obtain ⟨⟨o, T⟩, hmem, rfl⟩ := h
  obtain ⟨pre, e, post, hm, _, hp⟩ := process_column_spec env hbn tm m o T hmem
  exact ⟨pre, e, post, hm, hp⟩

/-- What the specified text is, in the property's words. -/
theorem process_spec_declared (d : Decl) (tid pid : Nat) (h : d.threadsPids.get tid = some pid) :
    processSpec d tid = (d.pidsNames.get pid).getD "" ++ "(" ++ toString pid ++ ")" := by
  simp [processSpec, h]

theorem process_spec_undeclared (d : Decl) (tid : Nat) (h : d.threadsPids.get tid = none) :
    processSpec d tid = "Error: tid " ++ toString tid := by
  simp [processSpec, h]

/-- The process column of the trace line itself (colour off, column enabled): the specified text padded to 34. -/
theorem trace_line_process_column (d : Decl) (tr : TraceRec) :
    textOf .process (traceCols (fmtTables d.threadsPids d.pidsNames) tr) = padRight 34 (processSpec d tr.tid) := by
  rw [(process_column_of_builders Gen.Enums.DgbFuncQual [] _ default tr default "").2.1, formatProcess_eq_spec]

/-- Event lines are printed without running the trace decoders: whatever
    records the stream holds, their process column is the specified text for the THREAD MAP ALONE
    (`declaredTables` of the empty prefix), padded to 27. -/
theorem kevent_process_column_spec (env : Env) (qe : EnumDef) (codes : List (Nat × String)) (tm : ThreadMap) (e : Kevent) :
    textOf .process (keventCols qe codes (fmtTables (mapTabs tm).threadsPids (mapTabs tm).pidsNames) e)
      = padRight 27 (processSpec (declaredTables env tm []) e.tid) := by
  rw [(process_column_of_builders qe codes _ e default default "").1]
  exact congrArg (padRight 27) (formatProcess_eq_spec (Decl.ofMap tm) e.tid)

theorem find_sampler_enum :
    (Gen.Decoders.tables.enums.find? (·.name == "SamplerAction")).map (·.iter) = some Gen.Enums.SamplerAction_iter := by
  decide +kernel

/-- With the enum tables reflected from the repository, "the sampler window carries thread information" is
    bit 0 of the first word of its START record (`SAMPLER_TH_INFO = 0x01`). -/
theorem samples_thread_info_is_bit0 (env : Env) (henv : env.tables = Gen.Decoders.tables) (e : Kevent) :
    samplesThreadInfo env e = decide (arg e 0 &&& 1 ≠ 0) := by
  unfold samplesThreadInfo enumNamesOf
  rw [henv]
  have hf := find_sampler_enum
  cases hfind : Gen.Decoders.tables.enums.find? (·.name == "SamplerAction") with
  | none => rw [hfind] at hf; cases hf
  | some d =>
    rw [hfind] at hf
    simp only [Option.map_some, Option.some.injEq] at hf
    simp only [EnumDef.flagsOf, hf, contains_map_filter]
    simp [Gen.Enums.SamplerAction_iter, Gen.Enums.SamplerAction_iter_0]
    have := Nat.mod_two_eq_zero_or_one (arg e 0)
    rcases this with h | h <;> simp [h]

private def exEnv : Env :=
  { codes := fun k => [(0x7000004, "TRACE_DATA_NEWTHREAD"), (0x7010004, "TRACE_STRING_NEWTHREAD"),
                       (0x7000010, "TRACE_DATA_THREAD_TERMINATE_PID"), (0x7010010, "TRACE_STRING_PROC_EXIT")].lookup k,
    host := Gen.Host.host, tables := Gen.Decoders.tables, decoders := [],
    dec := fun bs => .ok (String.ofList (bs.map Char.ofNat)) }

private def rec' (ts tid eid : Nat) (vals : List Nat) (data : List Nat) : Kevent :=
  { timestamp := ts, data := data, values := vals, tid := tid, debugid := eid, eventid := eid, qual := 0 }

/-- thread 7 is declared by the map (twice: the later entry wins); thread 7 announces thread 9 of pid 50 and names
    it "new"; thread 9 then reports itself as pid 60; thread 8 is never declared. -/
private def exMap : ThreadMap := [(7, 41, "old"), (7, 42, "launchd")]
private def exStream : List Kevent :=
  [rec' 1 7 0x7010010 [] [120], rec' 2 7 0x7000004 [9, 50, 0, 0] [], rec' 3 9 0x7010010 [] [121],
   rec' 4 7 0x7010004 [] [110, 101, 119], rec' 5 9 0x7010010 [] [122], rec' 6 9 0x7000010 [60, 1, 0, 0] [],
   rec' 7 8 0x7010010 [] [123]]

/-- A code table that is a list none of whose ids is a page-fault sub-record id names no handler for one. -/
theorem benign_of_list (env : Env) (l : List (Nat × String)) (hc : env.codes = fun k => l.lookup k)
    (hl : l.all (fun p => !vmfaultRange p.1) = true) : BenignNested env := by
  intro eid n hr hn
  rw [hc] at hn
  obtain ⟨l₁, l₂, rfl, _⟩ := List.lookup_eq_some_iff.1 hn
  simp [hr] at hl

private theorem exEnv_benign : BenignNested exEnv := benign_of_list _ _ rfl (by decide)

example : traceProcessColumns exEnv exMap exStream =
    [(1, 7, "launchd(42)"), (2, 7, "launchd(42)"), (3, 9, "(50)"), (4, 7, "launchd(42)"), (5, 9, "new(50)"),
     (6, 9, "(60)"), (7, 8, "Error: tid 8")] := by decide +kernel

example : (Trace.run exEnv (start exMap) exStream).2.1 = none ∧
    processSpec (declaredTables exEnv exMap (exStream.take 3)) 9 = "(50)" ∧
    processSpec (declaredTables exEnv exMap (exStream.take 4)) 9 = "new(50)" ∧
    processSpec (declaredTables exEnv exMap exStream) 9 = "(60)" ∧
    processSpec (declaredTables exEnv exMap exStream) 8 = "Error: tid 8" := by decide +kernel


/-! End to end: the lines of `formatted_traces` on the bytes of a dump (`Model/EndToEnd.lean`) -/

/-- What `_format_trace` reads of a trace whose `str()` is `body`. -/
def recOf (o : TraceOut) (body : String) : TraceRec :=
  { timestamp := (firstOf o.events).timestamp, tid := (firstOf o.events).tid, body := body }

/-- For every readable dump (any bytes `dumpOf` accepts: version 2 or version 3, under any
    reading `plist` of the property lists), every filter configuration, environment
    and column setting: line `i` of `formatted_traces` is `_format_trace` — colour off, on the lookup tables AS THEY ARE
    WHEN TRACE `i` IS YIELDED — of (first record's timestamp, first record's thread id, `str(trace)`) for trace `i` of
    `traces`, in order: `formatted_traces` adds nothing, reorders nothing and drops nothing but the traces from the first
    rendering exception on.  The list ends either with the traces (then the exception, if any, is the trace layer's or
    else the container's) or at the first trace whose text raises (then that exception is reported). -/
theorem e2e_line_shape (env : Env) (obj : TracePipeline.Obj) (sh : Show) (plist : Bytes → Option PView) (file : Bytes)
    (d : TracePipeline.Dump) (cerr : Option PyErr) (hd : EndToEnd.dumpOf plist file = .ok (d, cerr)) :
    let tr := (TracePipeline.traces env obj d).1.traces
    let out := EndToEnd.formattedTraces env obj sh plist file
    (∀ (i : Nat) line, out.1[i]? = some line → ∃ o T body, tr[i]? = some (o, T) ∧ o.text = .ok body ∧
        line = formatTrace sh Colour.off (EndToEnd.fmtTables T) (recOf o body)) ∧
    ((out.1.length = tr.length ∧
        out.2 = match (TracePipeline.traces env obj d).1.err with
                | some e => some e
                | none => cerr) ∨
     (∃ o T e, tr[out.1.length]? = some (o, T) ∧ o.text = .error e ∧ out.2 = some e)) := by
  intro tr out
  obtain ⟨s1, s2⟩ := EndToEnd.formatAll_shape sh tr
  simp only [out, EndToEnd.formattedTraces_lines env obj sh plist file d cerr hd,
    EndToEnd.formattedTraces_err env obj sh plist file d cerr hd]
  refine ⟨fun i line hl => ?_, ?_⟩
  · obtain ⟨⟨o, T⟩, body, hp, ht, hline⟩ := s1 i line hl
    exact ⟨o, T, body, hp, ht, hline⟩
  · rcases s2 with ⟨hlen, herr⟩ | ⟨⟨o, T⟩, e, hp, ht, herr⟩
    · exact .inl ⟨hlen, by rw [herr]; rfl⟩
    · exact .inr ⟨o, T, e, hp, ht, by rw [herr]⟩

/-- … and an unreadable dump (neither version 2 nor version 3, or a header / thread-map chunk that does not parse) yields
    no line, only its exception. -/
theorem e2e_unreadable (env : Env) (obj : TracePipeline.Obj) (sh : Show) (plist : Bytes → Option PView) (file : Bytes)
    (e : PyErr) (h : EndToEnd.dumpOf plist file = .error e) : EndToEnd.formattedTraces env obj sh plist file = ([], some e) :=
  EndToEnd.formattedTraces_unreadable env obj sh plist file e h

/-- Line `i` of `formatted_traces` is the concatenation of the enabled columns of its trace, and
    its process column names the process the dump declares for the trace's thread AT THE TRIGGER EVENT: there is an
    event `e` of the stream fed to the decoders (`fedEvents = pre ++ e :: post`) whose `feed` completed trace `i`, and
    the column is `processSpec` — `name(pid)` / `Error: tid N` — of `declaredTables` (thread map superseded by the
    new-thread, exec, terminate-pid and sampler records) of the prefix up to and including `e`, padded to 34.
    The stream is the one the decoders are fed: with a thread / class / subclass filter the declaring records of other
    threads or classes are not seen (known finding K3 for the process filter); without one it is the whole dump
    (`e2e_process_column_unfiltered`). -/
theorem e2e_process_column (env : Env) (hbn : BenignNested env) (obj : TracePipeline.Obj) (sh : Show)
    (plist : Bytes → Option PView) (file : Bytes)
    (d : TracePipeline.Dump) (cerr : Option PyErr) (hd : EndToEnd.dumpOf plist file = .ok (d, cerr))
    (i : Nat) (line : String) (hl : (EndToEnd.formattedTraces env obj sh plist file).1[i]? = some line) :
    ∃ o T body pre e post,
      (TracePipeline.traces env obj d).1.traces[i]? = some (o, T) ∧ o.text = .ok body ∧
      TracePipeline.fedEvents obj.cfg d = pre ++ e :: post ∧
      o ∈ (Trace.run env (start d.threadMap) (pre ++ [e])).1 ∧
      line = joinCols sh (traceCols (EndToEnd.fmtTables T) (recOf o body)) ∧
      textOf .process (traceCols (EndToEnd.fmtTables T) (recOf o body))
        = padRight 34 (processSpec (declaredTables env d.threadMap (pre ++ [e])) o.tid) := by
  obtain ⟨o, T, body, hp, ht, hline⟩ := (e2e_line_shape env obj sh plist file d cerr hd).1 i line hl
  have hmem : (o, T) ∈ runAnnot env (start d.threadMap) (TracePipeline.fedEvents obj.cfg d) :=
    EndToEnd.mem_traces env obj d (o, T) (List.mem_of_getElem? hp)
  obtain ⟨pre, e, post, hm, ho, hproc⟩ := process_column_spec env hbn d.threadMap _ o T hmem
  refine ⟨o, T, body, pre, e, post, hp, ht, hm, ho, ?_, ?_⟩
  · rw [hline, trace_is_join]
  · rw [(process_column_of_builders Gen.Enums.DgbFuncQual [] _ default (recOf o body) default "").2.1,
      EndToEnd.fmtTables_eq]
    exact congrArg (padRight 34) hproc

/-- The same without thread / class / subclass filter (any process filter): the trigger event splits THE DUMP's events,
    i.e. the column is what the whole dump declares up to and including that event. -/
theorem e2e_process_column_unfiltered (env : Env) (hbn : BenignNested env) (obj : TracePipeline.Obj) (sh : Show)
    (plist : Bytes → Option PView) (file : Bytes) (d : TracePipeline.Dump) (cerr : Option PyErr)
    (hd : EndToEnd.dumpOf plist file = .ok (d, cerr))
    (h1 : obj.cfg.filterTid = none) (h2 : obj.cfg.filterClass = []) (h3 : obj.cfg.filterSubclass = [])
    (i : Nat) (line : String) (hl : (EndToEnd.formattedTraces env obj sh plist file).1[i]? = some line) :
    ∃ o T body pre e post,
      (TracePipeline.traces env obj d).1.traces[i]? = some (o, T) ∧ o.text = .ok body ∧
      d.events = pre ++ e :: post ∧
      line = joinCols sh (traceCols (EndToEnd.fmtTables T) (recOf o body)) ∧
      textOf .process (traceCols (EndToEnd.fmtTables T) (recOf o body))
        = padRight 34 (processSpec (declaredTables env d.threadMap (pre ++ [e])) o.tid) := by
  obtain ⟨o, T, body, pre, e, post, hp, ht, hm, _, hline, hcol⟩ :=
    e2e_process_column env hbn obj sh plist file d cerr hd i line hl
  rw [EndToEnd.fedEvents_nofilter obj.cfg d h1 h2 h3] at hm
  exact ⟨o, T, body, pre, e, post, hp, ht, hm, hline, hcol⟩

/-! Non-vacuity: the 740-byte example dump of `Proofs/EndToEnd` -/

theorem e2e_exEnv_benign : BenignNested EndToEnd.exEnv := benign_of_list _ _ rfl (by decide)

/-- six lines; thread 9 is shown as `(50)` once thread 7's new-thread record has declared it and as `new(50)` once the
    name string has arrived; thread 8 is never declared; with the process column off and the thread column on. -/
example :
    EndToEnd.formattedTraces EndToEnd.exEnv {} {} EndToEnd.noPlist (Spec.encodeV2 EndToEnd.exFile) =
      (["1 launchd(42)                       Process exit name: x",
        "2 launchd(42)                       New thread 9 of parent: 50",
        "3 (50)                              Process exit name: y",
        "4 launchd(42)                       New thread of parent: new",
        "5 new(50)                           Process exit name: z",
        "6 Error: tid 8                      Process exit name: {"], none) ∧
    (EndToEnd.formattedTraces EndToEnd.exEnv {} { process := false, tid := true } EndToEnd.noPlist (Spec.encodeV2 EndToEnd.exFile)).1.take 2 =
      ["1           7 Process exit name: x", "2           7 New thread 9 of parent: 50"] ∧
    (EndToEnd.dumpOf EndToEnd.noPlist (Spec.encodeV2 EndToEnd.exFile)).toOption.map (fun p =>
        (processSpec (declaredTables EndToEnd.exEnv p.1.threadMap (p.1.events.take 3)) 9,
         processSpec (declaredTables EndToEnd.exEnv p.1.threadMap (p.1.events.take 5)) 9,
         processSpec (declaredTables EndToEnd.exEnv p.1.threadMap (p.1.events.take 6)) 8))
      = some ("(50)", "new(50)", "Error: tid 8") := by
  decide +kernel

end KdVerif.C14

/-! ## Third part: translation tie — the source text of the line builders, interpreted, is the model

  `tools/gen_pyir_fm.py` translates `_format_timestamp`, `_format_process`, `_format_kevent`, `_format_trace`,
  `_format_callstack`, `_format_log` of `pykdebugparser/pykdebugparser.py` (pure `ast`, on every run) into the
  Python-subset IR of `Model/PyIRFm` (`Gen/PyIRFm.lean`): f-strings as lists of pieces with the format specifications
  `<N` / `>N` / `016x`, `+`, `str()`, `hex()`, `' ' * i`, `'\n'.join(…)`, conditional expressions, the two dict lookups with
  their defaults, the trace-code map, `DgbFuncQual(q).name` under `try/except ValueError`, the `enumerate` loop, the calls
  `self._format_timestamp(…)` / `self._format_process(…)` (answered by interpreting the translated callee), the two colour
  operations as the abstract `Colour`.  Both spellings of a conditional append (`x += E if c else ''` / `if c: x += E`) are
  one node; the alias `tid = event.tid` is inlined.  `PyIRFm.runKevent` … interpret a method on a `Ctx`
  (switches, colour, tables, the reflected `DgbFuncQual`, which wall-clock attributes are set).

  So the subject of `kevent_is_join`, `column_off`, `process_column_lookup`, `process_column_spec`, `e2e_line_shape` … —
  `Format.formatKevent / formatTrace / formatCallstack / formatLog / formatProcess / formatTimestamp` — is the translated
  source, for every setting and argument.  OUTSIDE the tie (as outside the model): the wall-clock branch of
  `_format_timestamp` (the opaque statement `.wallClock`, answered `.error .unmodelled`), `str(trace)`, `str(uuid)`,
  `strftime`, pygments and termcolor; the Python format primitives are the functions of `Model/Format`. -/
namespace KdVerif.C14
open KdVerif.Format KdVerif.PyIRFm
open KdVerif.Filters (LogRec)

/-- **The methods generated from the source text are, node for node, the ones the theorems below were proved for**
    (`Spec/PyIRFmExpected`, quoting the Python), and the translator met nothing outside the subset. -/
theorem source_is_expected_ir :
    Gen.PyIRFm.formatTimestamp = PyIRFm.Expected.formatTimestamp ∧
    Gen.PyIRFm.formatProcess = PyIRFm.Expected.formatProcess ∧
    Gen.PyIRFm.formatKevent = PyIRFm.Expected.formatKevent ∧
    Gen.PyIRFm.formatTrace = PyIRFm.Expected.formatTrace ∧
    Gen.PyIRFm.formatCallstack = PyIRFm.Expected.formatCallstack ∧
    Gen.PyIRFm.formatLog = PyIRFm.Expected.formatLog ∧
    Gen.PyIRFm.notes = [] := ⟨rfl, rfl, rfl, rfl, rfl, rfl, rfl⟩

theorem source_prog_is_expected : Gen.PyIRFm.prog = PyIRFm.Expected.prog := by
  obtain ⟨h1, h2, h3, h4, h5, h6, _⟩ := source_is_expected_ir
  simp only [Gen.PyIRFm.prog, PyIRFm.Expected.prog, h1, h2, h3, h4, h5, h6]

/-- **`_format_timestamp` of the source, interpreted**: when at least one of the five wall-clock attributes is `None`
    (the model's assumption; `tm` says which are set) it is `formatTimestamp` = `str(ts) + ' '`; when all five are set the
    interpreter reaches the opaque wall-clock branch and answers `unmodelled` — that branch is outside the model. -/
theorem format_timestamp_ir_eq_model (sh : Show) (c : Colour) (t : Format.Tables) (qe : EnumDef) (tm : TimeSet) (ts : Nat) :
    runTimestamp Gen.PyIRFm.prog ⟨sh, c, t, qe, tm⟩ ts =
      if tm.anyNone then .ok (formatTimestamp ts) else .error .unmodelled := by
  rw [source_prog_is_expected]; exact runTimestamp_expected ⟨sh, c, t, qe, tm⟩ ts

/-- **`_format_process` of the source, interpreted, is `formatProcess`** — for every pair of tables and every thread id
    (so `process_column_lookup`, `process_column_spec`, `e2e_process_column` speak about the translated source). -/
theorem format_process_ir_eq_model (sh : Show) (c : Colour) (t : Format.Tables) (qe : EnumDef) (tm : TimeSet) (tid : Nat) :
    runProcess Gen.PyIRFm.prog ⟨sh, c, t, qe, tm⟩ tid = .ok (formatProcess t tid) := by
  rw [source_prog_is_expected]; exact runProcess_expected ⟨sh, c, t, qe, tm⟩ tid

/-- **`_format_kevent` of the source, interpreted, is `formatKevent`** — for all 2^6 switch settings, every enum, code
    map, pair of tables and event (`_format_timestamp` on its tick branch). -/
theorem format_kevent_ir_eq_model (sh : Show) (c : Colour) (t : Format.Tables) (qe : EnumDef) (tm : TimeSet)
    (htm : tm.anyNone = true) (codes : List (Nat × String)) (e : Kevent) :
    runKevent Gen.PyIRFm.prog ⟨sh, c, t, qe, tm⟩ codes e = .ok (formatKevent sh qe codes t e) := by
  rw [source_prog_is_expected]; exact runKevent_expected ⟨sh, c, t, qe, tm⟩ htm codes e

/-- **`_format_trace` of the source, interpreted, is `formatTrace`** — every switch setting, every colour machinery
    (`highlight(…).strip()` = `c.hlTrace`), every pair of tables, every trace. -/
theorem format_trace_ir_eq_model (sh : Show) (c : Colour) (t : Format.Tables) (qe : EnumDef) (tm : TimeSet)
    (htm : tm.anyNone = true) (tr : TraceRec) :
    runTrace Gen.PyIRFm.prog ⟨sh, c, t, qe, tm⟩ tr = .ok (formatTrace sh c t tr) := by
  rw [source_prog_is_expected]; exact runTrace_expected ⟨sh, c, t, qe, tm⟩ htm tr

/-- **`_format_callstack` of the source, interpreted, is `formatCallstack`** — every switch setting, pair of tables and
    callstack (any number of frames: the `enumerate` loop by induction). -/
theorem format_callstack_ir_eq_model (sh : Show) (c : Colour) (t : Format.Tables) (qe : EnumDef) (tm : TimeSet)
    (htm : tm.anyNone = true) (cs : Callstack) :
    runCallstack Gen.PyIRFm.prog ⟨sh, c, t, qe, tm⟩ cs = .ok (formatCallstack sh t cs) := by
  rw [source_prog_is_expected]; exact runCallstack_expected ⟨sh, c, t, qe, tm⟩ htm cs

/-- **`_format_log` of the source, interpreted, is `formatLog`** — every colour machinery (`colored(s, c)` = `c.colored`),
    pair of tables, time text and log record; whatever the switches and the wall-clock attributes are (the method
    consults none of them). -/
theorem format_log_ir_eq_model (sh : Show) (c : Colour) (t : Format.Tables) (qe : EnumDef) (tm : TimeSet)
    (timeString : String) (l : LogRec) :
    runLog Gen.PyIRFm.prog ⟨sh, c, t, qe, tm⟩ timeString l = .ok (formatLog c t timeString l) := by
  rw [source_prog_is_expected]; exact runLog_expected ⟨sh, c, t, qe, tm⟩ timeString l

/-- The column theorems, read on the translated source: the interpreted `_format_kevent` is the join of the enabled
    columns (`kevent_is_join` through `format_kevent_ir_eq_model`). -/
theorem kevent_ir_is_join (sh : Show) (c : Colour) (t : Format.Tables) (qe : EnumDef) (tm : TimeSet)
    (htm : tm.anyNone = true) (codes : List (Nat × String)) (e : Kevent) :
    runKevent Gen.PyIRFm.prog ⟨sh, c, t, qe, tm⟩ codes e = .ok (joinCols sh (keventCols qe codes t e)) := by
  rw [format_kevent_ir_eq_model sh c t qe tm htm, kevent_is_join]

/-- … and the interpreted `_format_trace` is the join of the enabled header columns followed by the body. -/
theorem trace_ir_is_header_body (sh : Show) (c : Colour) (t : Format.Tables) (qe : EnumDef) (tm : TimeSet)
    (htm : tm.anyNone = true) (tr : TraceRec) :
    runTrace Gen.PyIRFm.prog ⟨sh, c, t, qe, tm⟩ tr =
      .ok (joinCols sh (headerCols t tr.timestamp tr.tid) ++ (if c.on then c.hlTrace tr.body else tr.body)) := by
  rw [format_trace_ir_eq_model sh c t qe tm htm, trace_is_header_body]

private instance exceptDecEq {ε α : Type} [DecidableEq ε] [DecidableEq α] : DecidableEq (Except ε α)
  | .ok a, .ok b => if h : a = b then isTrue (by rw [h]) else isFalse (by intro e; cases e; exact h rfl)
  | .error a, .error b => if h : a = b then isTrue (by rw [h]) else isFalse (by intro e; cases e; exact h rfl)
  | .ok _, .error _ => isFalse (by intro e; cases e)
  | .error _, .ok _ => isFalse (by intro e; cases e)

private def irTabs : Format.Tables := { threadsPids := [(7, 42), (9, -1)], pidsNames := [(42, "launchd")] }
private def irCx (sh : Show) (c : Colour) : Ctx := ⟨sh, c, irTabs, Gen.Enums.DgbFuncQual, { numer := true, denom := true }⟩
private def irEv : Kevent :=
  { timestamp := 1234, data := [39, 0, 255, 92, 10, 65], values := [], tid := 7, debugid := 0x040c0005,
    eventid := 0x040c0004, qual := 1 }

/-- the hypothesis `anyNone` is met by the command-line tool's setting (none of the five set) and by partial settings -/
example : ({} : TimeSet).anyNone = true ∧ ({ numer := true, denom := true } : TimeSet).anyNone = true := by decide

/-- an event line through the generated `_format_kevent` (known code, qualifier name, hex tid, declared process, bytes
    with quote / escape characters) … -/
example : runKevent Gen.PyIRFm.prog (irCx { tid := true } Colour.off) [(0x040c0004, "BSC_getpid")] irEv
    = .ok ("1234 " ++ "BSC_getpid (0x40c0004)" ++ spaces 36 ++ "DBG_FUNC_START " ++ "0x7" ++ spaces 9
      ++ "launchd(42)" ++ spaces 16 ++ "b\"'\\x00\\xff\\\\\\nA\"" ++ spaces 17) :=
  (format_kevent_ir_eq_model _ _ _ _ _ (by decide) _ _).trans (congrArg _ kevent_line)

/-- … the `except ValueError` branch and an undeclared thread … -/
example : runKevent Gen.PyIRFm.prog (irCx { timestamp := false, name := false, process := true, args := false } Colour.off) []
    { irEv with tid := 8, qual := 5 } = .ok ("Error" ++ spaces 11 ++ "Error: tid 8" ++ spaces 15) :=
  (format_kevent_ir_eq_model _ _ _ _ _ (by decide) _ _).trans (congrArg _ kevent_error_line)

/-- … `_format_process` on the `-1` marker, `_format_timestamp` on both of its branches … -/
example : runProcess Gen.PyIRFm.prog (irCx {} Colour.off) 9 = .ok "Error: tid 9" ∧
    runTimestamp Gen.PyIRFm.prog (irCx {} Colour.off) 77 = .ok "77 " ∧
    runTimestamp Gen.PyIRFm.prog ⟨{}, Colour.off, irTabs, Gen.Enums.DgbFuncQual, ⟨true, true, true, true, true⟩⟩ 77
      = .error .unmodelled :=
  ⟨(format_process_ir_eq_model ..).trans (congrArg _ process_marker_text),
   (format_timestamp_ir_eq_model ..).trans (by decide +kernel), (format_timestamp_ir_eq_model ..).trans (by decide +kernel)⟩

/-- … a trace line, a callstack of two frames (attributed / unattributed, the second indented by one space) and a
    coloured log line through the generated methods. -/
example : runTrace Gen.PyIRFm.prog (irCx { tid := true } Colour.off) ⟨5, 7, "getpid(), pid: 42"⟩
    = .ok ("5 " ++ "          7 " ++ "launchd(42)" ++ spaces 23 ++ "getpid(), pid: 42") :=
  (format_trace_ir_eq_model _ _ _ _ _ (by decide) _).trans (congrArg _ trace_line)
example : runCallstack Gen.PyIRFm.prog (irCx {} Colour.off) ⟨5, 7, [⟨0x1000, some "UUID", 0x10⟩, ⟨0xffffffffffffffff1, none, 0⟩]⟩
    = .ok ("5 launchd(42)" ++ spaces 23 ++ "\nUUID:0x0000000000000010\n 0xffffffffffffffff1") :=
  (format_callstack_ir_eq_model _ _ _ _ _ (by decide) _).trans (congrArg _ callstack_text)
example : runLog Gen.PyIRFm.prog (irCx {} Colour.termcolor) "2024-01-01 00:00:00.000001" ⟨7, "launchd", 42, "hi"⟩
    = .ok ("\x1b[32m2024-01-01 00:00:00.000001 \x1b[0m \x1b[35mlaunchd(42)" ++ spaces 16 ++ "\x1b[0m \x1b[97mhi\x1b[0m") :=
  (format_log_ir_eq_model ..).trans (congrArg _ log_line)

end KdVerif.C14

/-! Translation tie: `--show-tid` / `--color` reach the line builders

  (`tools/gen_pyir_cli.py` → `Gen/PyIRCli.lean`; IR and interpreter `Model/PyIRCli`; expected terms `Spec/PyIRCliExpected`;
  see `Props/C12` / `C13` for the filter side.)  From the command line to the printed line, everything in between
  translated from the source text: the command callback of `__main__.py` assigns the options to a fresh parser object
  (`__init__` supplies the rest), calls `parser.formatted_x(dump)` — the `map` of `pykdebugparser.py` — which calls
  `self._format_x(item…)` — the line builders of the first tie above —, and `print_with_count` prints.  Only the listing
  `self.<source>(…)` stays a parameter (`src`: what it delivers as a function of the object and the dump — C12 / C13), and
  the tables `t` at the moment a line is built (C14 above).  `c` is the colour machinery (pygments / termcolor), switched
  by the object's `color` attribute. -/
namespace KdVerif.C14
open KdVerif.Format KdVerif.PyIRCli
open KdVerif.Filters (LogRec)

/-- **The terms the translator generates for the glue of this property are the expected ones**: `print_with_count`, the
    four printing commands with their option declarations (`--show-tid` / `--no-show-tid` default `False`,
    `--color` / `--no-color` default `True`, on `traces` only), `__init__` (`show_*`, `color` and the wall-clock defaults),
    the four maps; nothing met that the translator could not express. -/
theorem cli_source_is_expected_ir :
    Gen.PyIRCli.printWithCount = PyIRCli.Expected.printWithCount ∧
    Gen.PyIRCli.kevents = PyIRCli.Expected.kevents ∧
    Gen.PyIRCli.traces = PyIRCli.Expected.traces ∧
    Gen.PyIRCli.callstacks = PyIRCli.Expected.callstacks ∧
    Gen.PyIRCli.logs = PyIRCli.Expected.logs ∧
    Gen.PyIRCli.init = PyIRCli.Expected.init ∧
    Gen.PyIRCli.formattedKevents = PyIRCli.Expected.formattedKevents ∧
    Gen.PyIRCli.formattedTraces = PyIRCli.Expected.formattedTraces ∧
    Gen.PyIRCli.formattedCallstacks = PyIRCli.Expected.formattedCallstacks ∧
    Gen.PyIRCli.formattedLogs = PyIRCli.Expected.formattedLogs ∧
    Gen.PyIRCli.notes = [] := ⟨rfl, rfl, rfl, rfl, rfl, rfl, rfl, rfl, rfl, rfl, rfl⟩

theorem cli_prog_is_expected : Gen.PyIRCli.prog = PyIRCli.Expected.prog := by
  obtain ⟨h1, _, _, _, _, h2, h3, h4, h5, h6, _⟩ := cli_source_is_expected_ir
  simp only [Gen.PyIRCli.prog, PyIRCli.Expected.prog, h1, h2, h3, h4, h5, h6]

/-- What the translated line builders read of the parser object: the six column switches, `color` (switching the given
    colour machinery `c`), and that no wall-clock parameter is set; `t` / `qe` are the tables at that moment and the
    reflected `DgbFuncQual`. -/
def ctxOf (c : Colour) (t : Format.Tables) (qe : EnumDef) (o : Obj) : Option PyIRFm.Ctx :=
  match showOfObj o, colorOfObj o with
  | some sh, some col => if wallClockUnset o then some ⟨sh, { c with on := col }, t, qe, {}⟩ else none
  | _, _ => none

theorem ctxOf_objWith (c : Colour) (t : Format.Tables) (qe : EnumDef) (tid proc cls sub : Val) (st col : Bool) :
    ctxOf c t qe (objWith tid proc cls sub (.bool st) (.bool col)) = some ⟨{ tid := st }, { c with on := col }, t, qe, {}⟩ := by
  simp only [ctxOf, show_objWith, color_objWith, (unset_objWith ..).1, if_true]

/-- `self.kevents(kdebug)` = `src`, `self._format_kevent(e, codes)` = the TRANSLATED builder; `dc` is what
    `default_trace_codes()` returns. -/
def keventMethods {δ : Type} (dc : List (Nat × String)) (c : Colour) (t : Format.Tables) (qe : EnumDef)
    (src : Obj → δ → List Kevent × Option PyErr) : Methods δ Kevent (List (Nat × String)) :=
  { source := fun m o args dump =>
      if m = "kevents" then (match args with | [.kdebug] => src o dump | _ => ([], some .unmodelled))
      else ([], some .attributeError)
    formatter := fun m o e args =>
      if m = "_format_kevent" then
        match ctxOf c t qe o, args with
        | some cx, [.codes k] => PyIRFm.runKevent Gen.PyIRFm.prog cx k e
        | some cx, [.defaultCodes] => PyIRFm.runKevent Gen.PyIRFm.prog cx dc e
        | _, _ => .error .unmodelled
      else .error .attributeError }

/-- `self.traces(kdebug, None)` = `src`, `self._format_trace(t)` = the translated builder. -/
def traceMethods {δ : Type} (c : Colour) (t : Format.Tables) (qe : EnumDef)
    (src : Obj → δ → List TraceRec × Option PyErr) : Methods δ TraceRec Unit :=
  { source := fun m o args dump =>
      if m = "traces" then (match args with | [.kdebug, .none] => src o dump | _ => ([], some .unmodelled))
      else ([], some .attributeError)
    formatter := fun m o tr args =>
      if m = "_format_trace" then
        match ctxOf c t qe o, args with
        | some cx, [] => PyIRFm.runTrace Gen.PyIRFm.prog cx tr
        | _, _ => .error .unmodelled
      else .error .attributeError }

/-- `self.callstacks(kdebug, None)` = `src`, `self._format_callstack(t)` = the translated builder. -/
def callstackMethods {δ : Type} (c : Colour) (t : Format.Tables) (qe : EnumDef)
    (src : Obj → δ → List Callstack × Option PyErr) : Methods δ Callstack Unit :=
  { source := fun m o args dump =>
      if m = "callstacks" then (match args with | [.kdebug, .none] => src o dump | _ => ([], some .unmodelled))
      else ([], some .attributeError)
    formatter := fun m o cs args =>
      if m = "_format_callstack" then
        match ctxOf c t qe o, args with
        | some cx, [] => PyIRFm.runCallstack Gen.PyIRFm.prog cx cs
        | _, _ => .error .unmodelled
      else .error .attributeError }

/-- `self.os_log_events(kdebug)` = `src` (each record with its `strftime` text), `self._format_log(t)` = the translated
    builder. -/
def logMethods {δ : Type} (c : Colour) (t : Format.Tables) (qe : EnumDef)
    (src : Obj → δ → List (String × LogRec) × Option PyErr) : Methods δ (String × LogRec) Unit :=
  { source := fun m o args dump =>
      if m = "os_log_events" then (match args with | [.kdebug] => src o dump | _ => ([], some .unmodelled))
      else ([], some .attributeError)
    formatter := fun m o l args =>
      if m = "_format_log" then
        match ctxOf c t qe o, args with
        | some cx, [] => PyIRFm.runLog Gen.PyIRFm.prog cx l.1 l.2
        | _, _ => .error .unmodelled
      else .error .attributeError }

theorem lookup_formatted :
    PyIRCli.Expected.prog.formatted.lookup "formatted_kevents" = some PyIRCli.Expected.formattedKevents ∧
    PyIRCli.Expected.prog.formatted.lookup "formatted_traces" = some PyIRCli.Expected.formattedTraces ∧
    PyIRCli.Expected.prog.formatted.lookup "formatted_callstacks" = some PyIRCli.Expected.formattedCallstacks ∧
    PyIRCli.Expected.prog.formatted.lookup "formatted_logs" = some PyIRCli.Expected.formattedLogs := by
  decide +kernel

/-- `parser.formatted_x(dump)` runs the map the program holds under that name. -/
theorem formattedVia_of_lookup {δ ι κ τ : Type} {P : Prog} {m : String} {f : Formatted} (h : P.formatted.lookup m = some f)
    (M : Methods δ ι κ) (pa : δ → Except PyErr τ) (jd : τ → String → Int → Except PyErr String) (o : Obj) (dump : δ) :
    (P.formattedVia M pa jd).formatted m o dump = runFormatted M f o none dump := by
  simp only [Prog.formattedVia, h]

/-- **`kevents [--show-tid]`: every printed line is `formatKevent` with the thread-id column exactly as the option says**
    (all other columns on, as `__init__` leaves them; the default code table): the translated command, the translated
    `formatted_kevents` and the translated `_format_kevent`, composed, print `print_with_count` of the `formatKevent` lines
    of whatever `self.kevents` lists for the object the command built; the listing's exception surfaces unless the loop
    broke first. -/
theorem kevents_lines_ir_eq_model {δ τ : Type} (dc : List (Nat × String)) (c : Colour) (t : Format.Tables) (qe : EnumDef)
    (src : Obj → δ → List Kevent × Option PyErr) (pa : δ → Except PyErr τ) (jd : τ → String → Int → Except PyErr String)
    (g : Given) (hp : g.process = none) (hc : g.color = none) (dump : δ) :
    run Gen.PyIRCli.prog (Gen.PyIRCli.prog.formattedVia (keventMethods dc c t qe src) pa jd) Gen.PyIRCli.kevents g.args dump =
      pwcResult ((src (keventsObj (Opts.ofGiven g)) dump).1.map (formatKevent (showOf (Opts.ofGiven g)) qe dc t),
                 (src (keventsObj (Opts.ofGiven g)) dump).2) (Opts.ofGiven g).count := by
  rw [cli_prog_is_expected, cli_source_is_expected_ir.2.1, run_kevents_expected _ g hp hc,
    formattedVia_of_lookup lookup_formatted.1, runFormatted_kevents, mapGen_ok _ (formatKevent (showOf (Opts.ofGiven g)) qe dc t)]
  · simp only [keventMethods, if_true]
  · intro e
    simp only [keventMethods, if_true]
    rw [keventsObj, ctxOf_objWith]
    exact format_kevent_ir_eq_model _ _ t qe {} (by decide) dc e

/-- **`traces [--show-tid] [--no-color]`: every printed line is `formatTrace` with the thread-id column and the colour
    switch exactly as the options say** (`--color` is the default: the body goes through the highlighter `c.hlTrace`). -/
theorem traces_lines_ir_eq_model {δ τ : Type} (c : Colour) (t : Format.Tables) (qe : EnumDef)
    (src : Obj → δ → List TraceRec × Option PyErr) (pa : δ → Except PyErr τ) (jd : τ → String → Int → Except PyErr String)
    (g : Given) (dump : δ) :
    run Gen.PyIRCli.prog (Gen.PyIRCli.prog.formattedVia (traceMethods c t qe src) pa jd) Gen.PyIRCli.traces g.args dump =
      pwcResult ((src (tracesObj (Opts.ofGiven g)) dump).1.map
                   (formatTrace (showOf (Opts.ofGiven g)) { c with on := (Opts.ofGiven g).color } t),
                 (src (tracesObj (Opts.ofGiven g)) dump).2) (Opts.ofGiven g).count := by
  rw [cli_prog_is_expected, cli_source_is_expected_ir.2.2.1, run_traces_expected _ g,
    formattedVia_of_lookup lookup_formatted.2.1, runFormatted_traces,
    mapGen_ok _ (formatTrace (showOf (Opts.ofGiven g)) { c with on := (Opts.ofGiven g).color } t)]
  · simp only [traceMethods, if_true, givenArg]
  · intro tr
    simp only [traceMethods, if_true]
    rw [tracesObj, ctxOf_objWith]
    exact format_trace_ir_eq_model _ _ t qe {} (by decide) tr

/-- **`callstacks [--show-tid]`: every printed text is `formatCallstack` with the thread-id column as the option says.** -/
theorem callstacks_lines_ir_eq_model {δ τ : Type} (c : Colour) (t : Format.Tables) (qe : EnumDef)
    (src : Obj → δ → List Callstack × Option PyErr) (pa : δ → Except PyErr τ) (jd : τ → String → Int → Except PyErr String)
    (g : Given) (hcf : g.classFilters = []) (hsf : g.subclassFilters = []) (hc : g.color = none) (dump : δ) :
    run Gen.PyIRCli.prog (Gen.PyIRCli.prog.formattedVia (callstackMethods c t qe src) pa jd) Gen.PyIRCli.callstacks g.args dump =
      pwcResult ((src (plainObj (Opts.ofGiven g)) dump).1.map (formatCallstack (showOf (Opts.ofGiven g)) t),
                 (src (plainObj (Opts.ofGiven g)) dump).2) (Opts.ofGiven g).count := by
  rw [cli_prog_is_expected, cli_source_is_expected_ir.2.2.2.1, run_callstacks_expected _ g hcf hsf hc,
    formattedVia_of_lookup lookup_formatted.2.2.1, runFormatted_callstacks, mapGen_ok _ (formatCallstack (showOf (Opts.ofGiven g)) t)]
  · simp only [callstackMethods, if_true, givenArg]
  · intro cs
    simp only [callstackMethods, if_true]
    rw [plainObj, ctxOf_objWith]
    exact format_callstack_ir_eq_model _ _ t qe {} (by decide) cs

/-- **`logs`: every printed line is `formatLog` with colour ON** — the command has no colour option and `__init__` sets
    `color = True`; `--show-tid` is accepted and assigned, but `_format_log` consults no column switch. -/
theorem logs_lines_ir_eq_model {δ τ : Type} (c : Colour) (t : Format.Tables) (qe : EnumDef)
    (src : Obj → δ → List (String × LogRec) × Option PyErr) (pa : δ → Except PyErr τ)
    (jd : τ → String → Int → Except PyErr String)
    (g : Given) (hcf : g.classFilters = []) (hsf : g.subclassFilters = []) (hc : g.color = none) (dump : δ) :
    run Gen.PyIRCli.prog (Gen.PyIRCli.prog.formattedVia (logMethods c t qe src) pa jd) Gen.PyIRCli.logs g.args dump =
      pwcResult ((src (plainObj (Opts.ofGiven g)) dump).1.map (fun l => formatLog { c with on := true } t l.1 l.2),
                 (src (plainObj (Opts.ofGiven g)) dump).2) (Opts.ofGiven g).count := by
  rw [cli_prog_is_expected, cli_source_is_expected_ir.2.2.2.2.1, run_logs_expected _ g hcf hsf hc,
    formattedVia_of_lookup lookup_formatted.2.2.2, runFormatted_logs, mapGen_ok _ (fun l => formatLog { c with on := true } t l.1 l.2)]
  · simp only [logMethods, if_true]
  · intro l
    simp only [logMethods, if_true]
    rw [plainObj, ctxOf_objWith]
    exact format_log_ir_eq_model _ _ t qe {} l.1 l.2

private instance resultDecEq : DecidableEq Result := inferInstance

-- non-vacuity: generated command + generated map + generated builder on concrete options and items
example : run Gen.PyIRCli.prog (Gen.PyIRCli.prog.formattedVia
      (traceMethods Colour.termcolor irTabs Gen.Enums.DgbFuncQual fun _ (d : List TraceRec) => (d, some .eof))
      (fun _ => Except.error (ε := PyErr) (α := Unit) .unmodelled) (fun _ _ _ => .error .unmodelled))
    Gen.PyIRCli.traces ({ showTid := some true, color := some false, count := some 1 } : Given).args
    [⟨5, 7, "getpid(), pid: 42"⟩, ⟨6, 7, "x"⟩]
    = .ran ["5 " ++ "          7 " ++ "launchd(42)" ++ spaces 23 ++ "getpid(), pid: 42"] none := by
  rw [traces_lines_ir_eq_model]
  show pwcResult ([formatTrace { tid := true } Colour.off tabs ⟨5, 7, "getpid(), pid: 42"⟩, _], _) _ = _
  rw [trace_line]
  rfl
example : run Gen.PyIRCli.prog (Gen.PyIRCli.prog.formattedVia
      (logMethods Colour.termcolor irTabs Gen.Enums.DgbFuncQual fun _ (d : List (String × LogRec)) => (d, none))
      (fun _ => Except.error (ε := PyErr) (α := Unit) .unmodelled) (fun _ _ _ => .error .unmodelled))
    Gen.PyIRCli.logs ({} : Given).args [("2024-01-01 00:00:00.000001", ⟨7, "launchd", 42, "hi"⟩)]
    = .ran ["\x1b[32m2024-01-01 00:00:00.000001 \x1b[0m \x1b[35mlaunchd(42)" ++ spaces 16 ++ "\x1b[0m \x1b[97mhi\x1b[0m"] none := by
  rw [logs_lines_ir_eq_model _ _ _ _ _ _ _ rfl rfl rfl]
  show pwcResult ([formatLog Colour.termcolor tabs "2024-01-01 00:00:00.000001" ⟨7, "launchd", 42, "hi"⟩], _) _ = _
  rw [log_line]
  rfl

end KdVerif.C14
