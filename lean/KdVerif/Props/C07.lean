import KdVerif.Proofs.TraceTotal
import KdVerif.Gen.Decoders
import KdVerif.Gen.Host
/-
  C07 — missing or unexpected context never aborts the trace stream.

  Subject: the whole `TracesParser` model `Trace.run` (`Model/Trace.lean`: pairing + context tables + the 15
  hand-written handlers + dispatch to the generated decoder IR `Gen.Decoders.decoders`, regenerated from
  bsd.py / mach.py / dyld.py / … on every run), tied to the real `TracesParser.feed_generator` by the
  correspondence sections `pipeline`, `context-drop`, `indomain` of `tools/kdv/props/C07.py`.

  Shape of the argument.
  * A small type discipline for the IR (`Model/IRTyping.lean`): `infer Γ e = some (τ, cs)`; the checker
    (i) types every operator, (ii) tracks a lower bound of the lookup count through the guards
    `if nodes` / `len(nodes) > k` (also negated, mirrored, under `and` / `or`) so that `parse_vnodes(events)[i]` is accepted only when provably in range,
    (iii) rejects `global_strings[x]` and `unsupported`, (iv) collects the *own-field side conditions* `cs`:
    `E(x)` is a member, `Signals(x)` is known to the host, `DICT[x]` is a key (ioctl direction bits),
    `chr(x)` is a code point — each under the path condition of the enclosing conditionals.
    Soundness (`wt_sound`, by structural induction, once): a well-typed expression evaluates whenever
    its side conditions hold — whatever the lookups and the context tables are.
  * Reflective facts about the generated table (`decide +kernel`): every translated decoder is well
    typed — constructor arguments with NO lookup assumed, `__str__` under the argument types, yielding a
    string; every side condition reads the START record only or the END record only (never a lookup or a
    context table); everything the translator could not express is one of the 15 hand-modelled handlers.
  * Totality of every hand-written handler (`handle_good`, `Proofs/TraceTotal.lean`), the pairing invariant (delivered windows
    are non-empty, made of history records, first/last record of the same code), induction over the
    history.

  "Individually well-formed event" = `Trace.wordsOK env e` (+ text, below): four argument words, 32 data
  bytes, and the side conditions of the decoder registered for the event's code hold on the event alone — as START record
  unless it is END-qualified, as END record unless it is START-qualified.  Known exclusion kept by the
  property itself: the ioctl direction bits `request & 0xe0000000` must be a key of IOC_REQUEST_PARAMS
  (a `dictKey` side condition — `BscIoctl.__str__` raises KeyError otherwise).

  "Strings are valid text".  A record stream can lose chunks; a lost (or foreign) chunk can split a
  multi-byte character, so validity of the ORIGINAL strings does not imply validity of what the code
  reassembles.  Two statements are proved:
  * `no_abort_reassembled` (the stronger one): hypothesis on the reassembled byte strings — for every window
    the pairing delivers, the bytes its handler joins and decodes are valid text (`Trace.textOK`).
  * `no_abort`: per-record hypothesis — the text bytes of every string-carrying record lie in an alphabet
    `B` on which `bytes.decode` is total (`DecTotalOn`; ASCII for strict UTF-8: `asciiDec_total`), which is
    closed under dropping, repeating and interleaving.  No hypothesis on the shape of the history at all.
    (Defect F17: a `handle_trace_string_threadname` that joins the data of EVERY record of its window decodes a
    `TRACE_DATA_*` record between two chunks of a name as text, and UnicodeDecodeError aborts the stream; the
    statement then holds only under a guard "name windows hold records of their own code only".  The example
    `foreign_record_between_name_chunks` is that history.)
  `no_abort` is the weaker theorem (its hypothesis implies the other's, `textOK_of_payload`); it is stated
  because its hypotheses are about single records.
  Explicit guard on the code table: `vmfaultCodesOK` (ids 0x1320008..0x1320014 name real-fault records or
  nothing decodable; true of the bundled trace.codes, `bundled_vmfault_ids`).
-/
namespace KdVerif.C07
open KdVerif.IR KdVerif.Trace

abbrev decoders := Gen.Decoders.decoders

/-- **Soundness of the IR checker** (structural induction, once).  If `e` has type `τ` under field types
    `fts` with `n` lookups known to exist, then in every context whose fields have those types, whose window
    holds at least `n` lookups (and four START / four END words) and in which the collected side conditions
    hold, `eval` succeeds with a value of type `τ` — no assumption on the context tables, on further
    lookups, or on the host tables beyond the side conditions. -/
theorem wt_sound (c : Ctx) (fts : List Ty) (n : Nat) (e : Expr) (τ : Ty) (h : wt fts n e = some τ)
    (hf : ∀ (i : Nat) (τ : Ty), fts[i]? = some τ → ∃ v, c.fields[i]? = some v ∧ hasTy v τ = true)
    (hn : n ≤ c.win.lookups.length) (hs : c.win.startArgs.length = 4) (he : c.win.endArgs.length = 4)
    (hc : ∀ cd ∈ conds fts n e, cd.ok c = true) : ∃ v, eval c e = .ok v ∧ hasTy v τ = true := by
  unfold wt at h
  unfold conds at hc
  cases hi : infer { fts := fts, bound := n } e with
  | none => simp [hi] at h
  | some r =>
    obtain ⟨τ', cs⟩ := r
    simp only [hi, Option.map_some, Option.some.injEq] at h
    subst h
    simp only [hi, Option.map_some, Option.getD_some] at hc
    exact infer_sound c e _ _ _ hi
      { fields := hf, bound := hn, facts := by intro t x hm; simp at hm, start := hs, endA := he } hc

/-- One pass of the kernel over the generated table.  Every translated decoder (`supported`) passes the checker:
    each constructor argument is well typed with NO lookup assumed and no field in scope, and `__str__` is well
    typed under the arguments' types and yields `str`; every side condition it collects reads the START record only
    (its words, thread id, data) or the END record's words only, plus host tables — never a lookup, never a context
    table; the three `RealFaultAddress*` decoders have the shape `handle_mach_vmfault` relies on when it reads
    `.pid` and `.caller_prot` of the nested object (`rfShapeOK`).  What the translator could not express is exactly
    what `Model/Trace.lean` models by hand. -/
theorem decoders_checked : decoders.all (fun d =>
    if d.supported then typed d && condsOwn d && (!realFaultClasses.contains d.name || rfShapeOK d)
    else handNames.contains d.name) = true := by decide +kernel

theorem supported_checked (d : Decoder) (hd : d ∈ decoders) (hs : d.supported = true) :
    typed d = true ∧ condsOwn d = true ∧ (realFaultClasses.contains d.name = true → rfShapeOK d = true) := by
  have h := List.all_eq_true.mp decoders_checked d hd
  simp only [hs, if_true, Bool.and_eq_true, Bool.or_eq_true, Bool.not_eq_true'] at h
  exact ⟨h.1.1, h.1.2, fun hn => h.2.resolve_left (by rw [hn]; exact Bool.noConfusion)⟩

/-- The checker does reject the raise sites the property is about (the shapes of defects F13/F14/F15): an
    unguarded second lookup, a second lookup under an `if nodes` guard only, `nodes[-1]` unguarded, the
    `global_strings[x]` subscript; and it accepts their guarded forms. -/
theorem checker_rejects_unguarded_context :
    wt [] 0 (.lookupPath (.idx 1)) = none ∧
    wt [] 0 (.ite (.cmp .gt .lookupCount (.int 0)) (.lookupPath (.idx 1)) (.strLit [])) = none ∧
    wt [] 0 (.lookupPath (.idx (-1))) = none ∧
    wt [] 0 (.globalStr (.startArg 1)) = none ∧
    wt [] 0 (.ite (.cmp .gt .lookupCount (.int 1)) (.lookupPath (.idx 1)) (.strLit [])) = some .str ∧
    wt [] 0 (.ite (.cmp .gt .lookupCount (.int 0)) (.lookupPath (.idx (-1))) (.strLit [])) = some .str ∧
    wt [] 0 (.globalStrGet (.startArg 1) (.strLit [])) = some .str ∧
    -- harmless restylings of the guards are accepted: `'' if not nodes else nodes[0].path`, `2 <= len(nodes)`
    wt [] 0 (.ite (.notE (.cmp .gt .lookupCount (.int 0))) (.strLit []) (.lookupPath (.idx 0))) = some .str ∧
    wt [] 0 (.ite (.cmp .le (.int 2) .lookupCount) (.lookupPath (.idx 1)) (.strLit [])) = some .str := by decide

theorem goodEnv_of_subset (env : Env) (h : ∀ d ∈ env.decoders, d ∈ decoders) : GoodEnv env where
  typed d hd hs := ⟨(supported_checked d (h d hd) hs).1, (supported_checked d (h d hd) hs).2.1⟩
  hand d hd hs := by simpa [hs] using List.all_eq_true.mp decoders_checked d (h d hd)
  realFault d hd hs := (supported_checked d (h d hd) hs).2.2

/-- **No generated decoder depends on context.**  For every translated decoder `d`, every host, every
    tables, every window `w` (ANY lookups, ANY context tables) with four START and four END words in which
    `d`'s side conditions hold: the handler call and `__str__` both succeed. -/
theorem generated_no_abort (d : Decoder) (hd : d ∈ decoders) (hs : d.supported = true) (h : Host) (t : Tables)
    (w : Window) (hsa : w.startArgs.length = 4) (hea : w.endArgs.length = 4)
    (hc : condsHold h t d w = true) : ∃ text, render h t d w = .ok text := by
  obtain ⟨k, hk⟩ := Option.isSome_iff_exists.mp (supported_checked d hd hs).1
  simp only [condsHold, hk, List.all_eq_true] at hc
  obtain ⟨_, text, _, _, hr, _⟩ := render_ok h t d w k hk hsa hea hc
  exact ⟨text, hr⟩

/-- The same in terms of records: if the side conditions hold on the START record `f` alone and on the END
    record `l` alone, the decoder renders on EVERY window whose START words / thread id / data are `f`'s and
    whose END words are `l`'s — whatever lookups and context tables the window carries. -/
theorem generated_no_abort_records (d : Decoder) (hd : d ∈ decoders) (hs : d.supported = true) (h : Host)
    (t : Tables) (f l : Kevent) (hf4 : f.values.length = 4) (hl4 : l.values.length = 4)
    (hf : condsHoldAs .start h t d (ownWindow f) = true) (hl : condsHoldAs .end_ h t d (ownWindow l) = true)
    (w : Window) (h1 : w.startArgs = f.values) (h2 : w.startTid = f.tid) (h3 : w.startData = f.data)
    (h4 : w.endArgs = l.values) : ∃ text, render h t d w = .ok text := by
  obtain ⟨hty, hown, _⟩ := supported_checked d hd hs
  obtain ⟨k, hk⟩ := Option.isSome_iff_exists.mp hty
  have hc := conds_transfer h t d k hk hown w f l h1 h2 h3 h4 hf hl
  obtain ⟨_, text, _, _, hr, _⟩ := render_ok h t d w k hk (by rw [h1]; exact hf4) (by rw [h4]; exact hl4) hc
  exact ⟨text, hr⟩

/-- An individually well-formed event: own-field word conditions + text bytes in the alphabet `B`. -/
def InDomain (env : Env) (B : Nat → Bool) (e : Kevent) : Bool := wordsOK env e && payloadOK env B e

/-- **The pipeline never aborts (hypothesis on the reassembled strings).**  For every environment whose
    decoders are the generated ones (any code table satisfying the vmfault guard, any host, any tables, any
    `bytes.decode`), every parser state `s₀` reachable by in-domain records, every history `h`: if every
    event is `wordsOK` and, for every window the pairing delivers, the byte strings its handler reassembles
    decode (`textOK`), then no exception escapes `feed_generator` and every emitted trace renders. -/
theorem no_abort_reassembled (env : Env) (hd : ∀ d ∈ env.decoders, d ∈ decoders) (hg : vmfaultCodesOK env = true)
    (s₀ : PState) (hs₀ : PInv (fun e => wordsOK env e = true) s₀.pairing) (h : List Kevent)
    (hw : ∀ e ∈ h, wordsOK env e = true) (ht : ∀ w ∈ windowsFrom env s₀ h, textOK env w = true) :
    (run env s₀ h).2.1 = none ∧ ∀ t ∈ (run env s₀ h).1, ∃ s, t.text = .ok s :=
  run_good env (goodEnv_of_subset env hd) hg _ (fun _ h => h) h s₀ hs₀ hw fun w hwm _ => ht w hwm

/-- **The pipeline never aborts (per-record hypotheses).**  As above with text validity stated per record:
    the text bytes of every string-carrying record (lookup path chunks, global-string chunks, name records)
    lie in an alphabet `B` on which `bytes.decode` is total.  Whichever other records are missing, repeated,
    nested or interleaved — no hypothesis on the history beyond its records one by one. -/
theorem no_abort (env : Env) (hd : ∀ d ∈ env.decoders, d ∈ decoders) (hg : vmfaultCodesOK env = true)
    (B : Nat → Bool) (hdec : DecTotalOn env B)
    (s₀ : PState) (hs₀ : PInv (fun e => InDomain env B e = true) s₀.pairing) (h : List Kevent)
    (hin : ∀ e ∈ h, InDomain env B e = true) :
    (run env s₀ h).2.1 = none ∧ ∀ t ∈ (run env s₀ h).1, ∃ s, t.text = .ok s :=
  have hP : ∀ e, InDomain env B e = true → wordsOK env e = true ∧ payloadOK env B e = true := fun e h => by
    simpa only [InDomain, Bool.and_eq_true] using h
  run_good env (goodEnv_of_subset env hd) hg _ (fun e h => (hP e h).1) h s₀ hs₀ hin fun w _ hwin =>
    textOK_of_payload env B hdec w hwin.ne fun x hx => (hP x (hwin.all x hx)).2

/-- A fresh parser (empty pairing tables, any context tables): the form the property is stated in. -/
theorem no_abort_fresh (env : Env) (hd : ∀ d ∈ env.decoders, d ∈ decoders) (hg : vmfaultCodesOK env = true)
    (B : Nat → Bool) (hdec : DecTotalOn env B) (tabs : Tabs) (h : List Kevent)
    (hin : ∀ e ∈ h, InDomain env B e = true) :
    (run env ⟨Pairing.PState.empty, tabs⟩ h).2.1 = none ∧
    ∀ t ∈ (run env ⟨Pairing.PState.empty, tabs⟩ h).1, ∃ s, t.text = .ok s :=
  no_abort env hd hg B hdec ⟨Pairing.PState.empty, tabs⟩ (PInv_empty _) h hin

/-- Strict decoding restricted to ASCII (what strict UTF-8 does on bytes < 128). -/
def asciiDec (bs : Bytes) : Except PyErr String :=
  if bs.all (· < 128) then .ok (String.ofList (bs.map Char.ofNat)) else .error .unicodeError

def isAscii (b : Nat) : Bool := b < 128

/-- Any decoder that accepts ASCII is total on the ASCII alphabet — the instance of `no_abort` for
    `bytes.decode()` (strict UTF-8). -/
theorem asciiDec_total (env : Env) (h : env.dec = asciiDec) : DecTotalOn env isAscii := by
  intro bs hb
  have : bs.all (· < 128) = true := by simpa [isAscii] using hb
  exact ⟨String.ofList (bs.map Char.ofNat), by simp [h, asciiDec, this]⟩

def ev (eid q tid : Nat) (values : List Nat) (data : Bytes := List.replicate 32 0) (ts : Nat := 0) : Kevent :=
  { timestamp := ts, data := data, values := values, tid := tid, debugid := eid + q, eventid := eid, qual := q }

def pad32 (bs : Bytes) : Bytes := bs ++ List.replicate (32 - bs.length) 0

/-- A small environment: three generated decoders taken from the generated table by key, the bundled ids. -/
def miniDecoders : List Decoder :=
  decoders.filter fun d => d.key == 99754832164739281677214638452      -- BSC_renameat
    || d.key == 5945851335769508246636                                -- BSC_ioctl
    || d.key == 8297446213357080657423513651894782640461648674432790454636   -- RealFaultAddressInternal

def miniCodes : List (Nat × String) :=
  [(0x3010090, "VFS_LOOKUP"), (0x40c0744, "BSC_renameat"), (0x40c00d8, "BSC_ioctl"),
   (0x7000004, "TRACE_DATA_NEWTHREAD"), (0x7010004, "TRACE_STRING_NEWTHREAD"),
   (0x7010010, "TRACE_STRING_THREADNAME"), (0x1300008, "MACH_vmfault"), (0x1320008, "RealFaultAddressInternal"),
   (0x132000c, "RealFaultAddressPurgeable")]

def miniEnv : Env :=
  { codes := fun k => List.lookup k miniCodes, host := Gen.Host.host, tables := Gen.Decoders.tables,
    decoders := miniDecoders, dec := asciiDec }

theorem mini_sub : ∀ d ∈ miniEnv.decoders, d ∈ decoders := fun _ hd => (List.mem_filter.mp hd).1

/-- The vmfault guard holds for the ids the bundled table assigns in the hard-coded range. -/
theorem bundled_vmfault_ids : vmfaultCodesOK miniEnv = true := by decide +kernel

/-- A dump that starts in the middle: a stray END of renameat, a stray continuation chunk of a lookup, a
    name record whose new-thread data record is missing; then renameat with ONE lookup instead of two, an
    ioctl with in-domain direction bits, a page fault with a nested record of an undecoded kind and one of a
    decoded kind. -/
def droppedHistory : List Kevent :=
  [ ev 0x40c0744 2 5 [0, 0, 0, 0],
    ev 0x3010090 0 5 [0, 0, 0, 0] (pad32 [47, 120]),
    ev 0x7010004 0 5 [0, 0, 0, 0] (pad32 [105, 110, 105, 116]),
    ev 0x40c0744 1 5 [3, 0, 4, 0],
    ev 0x3010090 3 5 [7, 0, 0, 0] (pad32 [7, 0, 0, 0, 0, 0, 0, 0, 47, 97]),
    ev 0x40c0744 2 5 [2, 0, 0, 0],
    ev 0x40c00d8 1 6 [3, 0x20006601, 0, 0],
    ev 0x40c00d8 2 6 [0, 0, 0, 0],
    ev 0x1300008 1 6 [0, 0x7000, 0, 0],
    ev 0x132000c 0 6 [0x1000, 0x503, 9, 9],
    ev 0x1320008 0 6 [0x1000, 0x50302, 9, 44],
    ev 0x1300008 2 6 [0, 0, 0, 2] ]

/-- Non-vacuity of `no_abort`: the history above is in-domain, and therefore (by the theorem, not by
    evaluation) it runs to the end and every trace renders. -/
example : (run miniEnv ⟨Pairing.PState.empty, {}⟩ droppedHistory).2.1 = none ∧
    ∀ t ∈ (run miniEnv ⟨Pairing.PState.empty, {}⟩ droppedHistory).1, ∃ s, t.text = .ok s :=
  no_abort_fresh miniEnv mini_sub bundled_vmfault_ids isAscii (asciiDec_total miniEnv rfl) {} droppedHistory
    (by decide +kernel)

/-- … and it does deliver traces (name record, lookup, renameat, ioctl, two nested records, the fault). -/
example : ((run miniEnv ⟨Pairing.PState.empty, {}⟩ droppedHistory).1.map (·.name)) =
    ["TRACE_STRING_NEWTHREAD", "VFS_LOOKUP", "BSC_renameat", "BSC_ioctl", "RealFaultAddressInternal", "MACH_vmfault"] := by
  decide +kernel

/-- Non-vacuity of the side conditions: the ioctl request word with direction bits 0 is NOT in-domain, the
    word `_IO('f', 1)` is. -/
example : wordsOK miniEnv (ev 0x40c00d8 1 6 [3, 0x6601, 0, 0]) = false ∧
    wordsOK miniEnv (ev 0x40c00d8 1 6 [3, 0x20006601, 0, 0]) = true := by decide +kernel

/-- A record of another code between the chunks of a thread name (START chunk, a `TRACE_DATA_NEWTHREAD` record
    of the same thread whose first word holds the byte 0xff, END chunk): every record is in-domain, so the stream
    runs to the end — and the name is the name (under defect F17 this history aborts with UnicodeDecodeError). -/
def foreignRecordHistory : List Kevent :=
  [ ev 0x7010010 1 5 [0, 0, 0, 0] (List.replicate 32 97),
    ev 0x7000004 0 5 [0xff, 1, 0, 0] (pad32 [0xff, 0, 0, 0, 0, 0, 0, 0, 1]),
    ev 0x7010010 2 5 [0, 0, 0, 0] (pad32 [98, 98]) ]

theorem foreign_record_between_name_chunks :
    (∀ e ∈ foreignRecordHistory, InDomain miniEnv isAscii e = true) ∧
    (run miniEnv ⟨Pairing.PState.empty, {}⟩ foreignRecordHistory).2.1 = none ∧
    ((run miniEnv ⟨Pairing.PState.empty, {}⟩ foreignRecordHistory).1.map (·.name)) =
      ["TRACE_DATA_NEWTHREAD", "TRACE_STRING_THREADNAME"] := by decide +kernel

end KdVerif.C07
