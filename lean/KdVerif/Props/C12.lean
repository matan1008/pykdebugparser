import KdVerif.Model.Filters
import KdVerif.Proofs.PyIRFl
import KdVerif.Gen.PyIRFl
import KdVerif.Gen.Enums
import KdVerif.Gen.PyIRCli
import KdVerif.Proofs.PyIRCli
/-
  C12 — event filters select exactly the matching subsequence.

  Subject: `Filters.kevents` / `Filters.osLogEvents` (Model/Filters.lean), written as the same chain of
  conditional `filter()` stages as `PyKdebugParser.kevents` / `os_log_events`.  The theorems replace the
  chain by ONE declarative predicate and `List.filter` (order and multiplicity are those of
  `List.filter`), for every stream (events and log records interleaved arbitrarily) and every
  configuration (any tid, any class / subclass lists: empty, overlapping, absent, out of range).
-/
namespace KdVerif.C12
open KdVerif.Filters

/-- The events of the stream, in stream order (the unfiltered event listing). -/
def events (items : List Item) : List Kevent := items.filterMap asEvent

/-- The log records of the stream, in stream order (the unfiltered log listing). -/
def logs (items : List Item) : List LogRec := items.filterMap asLog

/-- The declarative selection predicate for events, for an explicit class list `fc`:
    thread id equal to the requested one (when one is requested) and, when a class or subclass
    filter is given, class (`eventid / 2^24`, the top byte of a 32-bit id) in the class list or
    subclass (`eventid / 2^16`, the top 16 bits) in the subclass list. -/
def SelWith (cfg : Cfg) (fc : List Nat) (e : Kevent) : Prop :=
  (cfg.filterTid = none ∨ cfg.filterTid = some e.tid) ∧
  ((fc = [] ∧ cfg.filterSubclass = []) ∨ e.eventid / 2 ^ 24 ∈ fc ∨ e.eventid / 2 ^ 16 ∈ cfg.filterSubclass)

instance (cfg : Cfg) (fc : List Nat) (e : Kevent) : Decidable (SelWith cfg fc e) :=
  inferInstanceAs (Decidable (_ ∧ _))

/-- The predicate of the public listing (`filter_class` argument omitted: the parser's own list). -/
def Sel (cfg : Cfg) (e : Kevent) : Prop := SelWith cfg cfg.filterClass e

instance (cfg : Cfg) (e : Kevent) : Decidable (Sel cfg e) :=
  inferInstanceAs (Decidable (SelWith _ _ _))

/-- The declarative selection predicate for log records: thread equal when requested, and the
    process filter equal to the record's process name or to the decimal text of its pid. -/
def SelLog (cfg : Cfg) (l : LogRec) : Prop :=
  (cfg.filterTid = none ∨ cfg.filterTid = some l.threadIdentifier) ∧
  (cfg.filterProcess = none ∨ cfg.filterProcess = some l.process
    ∨ cfg.filterProcess = some (toString l.processIdentifier))

instance (cfg : Cfg) (l : LogRec) : Decidable (SelLog cfg l) :=
  inferInstanceAs (Decidable (_ ∧ _))

theorem allowed_iff (cfg : Cfg) (fc : List Nat) (eid : Nat) :
    isEventidAllowed cfg eid fc = true ↔ eid / 2 ^ 24 ∈ fc ∨ eid / 2 ^ 16 ∈ cfg.filterSubclass := by
  simp [isEventidAllowed, Nat.shiftRight_eq_div_pow]

theorem filter_all {α} {l : List α} {p : α → Bool} (h : ∀ x ∈ l, p x = true) : l = l.filter p :=
  (List.filter_eq_self.mpr h).symm

/-- The declarative predicate as the conjunction of the two stage tests. -/
theorem sel_bool (cfg : Cfg) (fc : List Nat) (e : Kevent) :
    decide (SelWith cfg fc e)
      = ((match cfg.filterTid with | some t => e.tid == t | none => true)
         && (!(!fc.isEmpty || !cfg.filterSubclass.isEmpty) || isEventidAllowed cfg e.eventid fc)) := by
  rw [Bool.eq_iff_iff, decide_eq_true_iff]
  simp only [Bool.and_eq_true, Bool.or_eq_true, Bool.not_eq_true', SelWith, allowed_iff]
  cases cfg.filterTid <;> simp [eq_comm (a := e.tid)]

/-- The event listing for an explicit class list (what `traces()` requests): exactly the events of
    the stream that satisfy the declarative predicate, in stream order, with multiplicity. -/
theorem keventsWith_eq_filter (cfg : Cfg) (fc : List Nat) (items : List Item) :
    keventsWith cfg fc items = (events items).filter (fun e => decide (SelWith cfg fc e)) := by
  unfold keventsWith events
  refine Eq.trans ?_ (List.filter_congr fun e _ => (sel_bool cfg fc e).symm)
  cases cfg.filterTid <;> cases (!fc.isEmpty || !cfg.filterSubclass.isEmpty) <;>
    simp [List.filter_filter, Bool.and_comm]
  exact filter_all fun _ _ => rfl

/-- The filtered event listing equals the unfiltered listing restricted to
    the events that satisfy the filter — thread id equal to the requested one and, when class or
    subclass filters are given, class in the class list or subclass in the subclass list —
    preserving order and multiplicity (those of `List.filter`). -/
theorem kevents_eq_filter (cfg : Cfg) (items : List Item) :
    kevents cfg none items = (events items).filter (fun e => decide (Sel cfg e)) :=
  keventsWith_eq_filter cfg cfg.filterClass items

/-- The same with the class list passed as an argument (it then *replaces* the parser's list,
    even when it is empty). -/
theorem kevents_arg_eq_filter (cfg : Cfg) (fc : List Nat) (items : List Item) :
    kevents cfg (some fc) items = (events items).filter (fun e => decide (SelWith cfg fc e)) :=
  keventsWith_eq_filter cfg fc items

/-- With no filter set the listing is the whole event sequence of the stream. -/
theorem kevents_unfiltered (items : List Item) : kevents {} none items = events items := by
  rw [kevents_eq_filter]
  have : ∀ e, decide (Sel {} e) = true := by intro e; simp [Sel, SelWith]
  simp [this]

/-- The filtered listing is a subsequence (order and multiplicity kept, nothing invented) of the
    unfiltered listing. -/
theorem kevents_sublist (cfg : Cfg) (fc : Option (List Nat)) (items : List Item) :
    (kevents cfg fc items).Sublist (kevents {} none items) := by
  rw [kevents_unfiltered]
  cases fc with
  | none => rw [kevents_eq_filter]; exact List.filter_sublist
  | some l => rw [kevents_arg_eq_filter]; exact List.filter_sublist

/-- Membership form: an event is listed iff it occurs in the stream and satisfies the predicate. -/
theorem mem_kevents (cfg : Cfg) (items : List Item) (e : Kevent) :
    e ∈ kevents cfg none items ↔ Item.event e ∈ items ∧ Sel cfg e := by
  rw [kevents_eq_filter]
  simp only [List.mem_filter, decide_eq_true_eq, events, List.mem_filterMap]
  constructor
  · rintro ⟨⟨it, hit, he⟩, hs⟩
    cases it with
    | event e' => simp [asEvent] at he; subst he; exact ⟨hit, hs⟩
    | log l => simp [asEvent] at he
  · rintro ⟨h, hs⟩
    exact ⟨⟨_, h, rfl⟩, hs⟩

/-- Multiplicity: every selected event is listed exactly as often as it occurs in the stream,
    every other event zero times. -/
theorem count_kevents (cfg : Cfg) (items : List Item) (e : Kevent) :
    (kevents cfg none items).count e = if Sel cfg e then (events items).count e else 0 := by
  rw [kevents_eq_filter]
  by_cases h : Sel cfg e
  · rw [if_pos h, List.count_filter (by simpa using h)]
  · rw [if_neg h]
    apply List.count_eq_zero_of_not_mem
    simp [List.mem_filter, h]

theorem sellog_bool (cfg : Cfg) (l : LogRec) :
    decide (SelLog cfg l)
      = ((match cfg.filterTid with | some t => l.threadIdentifier == t | none => true)
         && (match cfg.filterProcess with | some p => p == l.process || p == pidText l | none => true)) := by
  rw [Bool.eq_iff_iff, decide_eq_true_iff]
  simp only [Bool.and_eq_true, SelLog, pidText]
  cases cfg.filterTid <;> cases cfg.filterProcess <;> simp [eq_comm (a := l.threadIdentifier)]

/-- The log listing honours the thread and process filters in the same
    exact-subsequence sense. -/
theorem logs_eq_filter (cfg : Cfg) (items : List Item) :
    osLogEvents cfg items = (logs items).filter (fun l => decide (SelLog cfg l)) := by
  unfold osLogEvents logs
  refine Eq.trans ?_ (List.filter_congr fun l _ => (sellog_bool cfg l).symm)
  cases cfg.filterTid <;> cases cfg.filterProcess <;> simp [List.filter_filter, Bool.and_comm]
  exact filter_all fun _ _ => rfl

theorem logs_unfiltered (items : List Item) : osLogEvents {} items = logs items := by
  rw [logs_eq_filter]
  have : ∀ l, decide (SelLog {} l) = true := by intro l; simp [SelLog]
  simp [this]

theorem logs_sublist (cfg : Cfg) (items : List Item) :
    (osLogEvents cfg items).Sublist (osLogEvents {} items) := by
  rw [logs_unfiltered, logs_eq_filter]; exact List.filter_sublist

/-- The two listings as sub-streams of the heterogeneous stream. -/
def keventItems (cfg : Cfg) (items : List Item) : List Item := (kevents cfg none items).map Item.event
def logItems (cfg : Cfg) (items : List Item) : List Item := (osLogEvents cfg items).map Item.log

theorem filterMap_asEvent_map (items : List Item) (p : Kevent → Bool) :
    ((items.filterMap asEvent).filter p).map Item.event
      = items.filter (fun it => match it with | .event e => p e | .log _ => false) := by
  rw [PyIRFl.map_event_filter, PyIRFl.filterMap_asEvent_map, List.filter_filter]
  exact List.filter_congr fun it _ => by cases it <;> simp [PyIRFl.evP]

theorem filterMap_asLog_map (items : List Item) (p : LogRec → Bool) :
    ((items.filterMap asLog).filter p).map Item.log
      = items.filter (fun it => match it with | .event _ => false | .log l => p l) := by
  rw [PyIRFl.map_log_filter, PyIRFl.filterMap_asLog_map, List.filter_filter]
  exact List.filter_congr fun it _ => by cases it <;> simp [PyIRFl.logP]

/-- The event listing is the stream restricted to "is an event and satisfies the predicate":
    log records are dropped whatever the configuration. -/
theorem keventItems_eq_filter (cfg : Cfg) (items : List Item) :
    keventItems cfg items
      = items.filter (fun it => match it with | .event e => decide (Sel cfg e) | .log _ => false) := by
  unfold keventItems; rw [kevents_eq_filter]; exact filterMap_asEvent_map items _

/-- The log listing is the stream restricted to "is a log record and satisfies the predicate". -/
theorem logItems_eq_filter (cfg : Cfg) (items : List Item) :
    logItems cfg items
      = items.filter (fun it => match it with | .event _ => false | .log l => decide (SelLog cfg l)) := by
  unfold logItems; rw [logs_eq_filter]; exact filterMap_asLog_map items _

/-- Log records never appear in the event listing and events never
    appear in the log listing (for any two configurations), so no stream element is in both. -/
theorem events_logs_disjoint (cfg cfg' : Cfg) (items : List Item) :
    (∀ l, Item.log l ∉ keventItems cfg items) ∧ (∀ e, Item.event e ∉ logItems cfg' items) ∧
    (∀ it, it ∈ keventItems cfg items → it ∉ logItems cfg' items) := by
  refine ⟨?_, ?_, ?_⟩
  · intro l h; rw [keventItems_eq_filter] at h; simp at h
  · intro e h; rw [logItems_eq_filter] at h; simp at h
  · intro it h h'
    rw [keventItems_eq_filter] at h; rw [logItems_eq_filter] at h'
    cases it <;> simp at h h'

/-- Nothing is lost: unfiltered, the two listings partition the stream. -/
theorem listings_partition (items : List Item) :
    (∀ it, it ∈ items ↔ it ∈ keventItems {} items ∨ it ∈ logItems {} items) ∧
    (keventItems {} items).length + (logItems {} items).length = items.length := by
  constructor
  · intro it
    rw [keventItems_eq_filter, logItems_eq_filter]
    cases it <;> simp [Sel, SelWith, SelLog]
  · unfold keventItems logItems
    rw [kevents_unfiltered, logs_unfiltered, List.length_map, List.length_map]
    unfold events logs
    induction items with
    | nil => rfl
    | cons it rest ih => cases it <;> simp_all [asEvent, asLog, List.filterMap_cons] <;> omega

theorem events_map_event (l : List Kevent) : events (l.map Item.event) = l :=
  PyIRFl.filterMap_asEvent_events l

/-- Filtering an already filtered listing again with the same configuration changes nothing. -/
theorem filter_idempotent (cfg : Cfg) (items : List Item) :
    kevents cfg none (keventItems cfg items) = kevents cfg none items := by
  unfold keventItems
  rw [kevents_eq_filter, events_map_event, kevents_eq_filter, List.filter_filter]
  simp

theorem logs_filter_idempotent (cfg : Cfg) (items : List Item) :
    osLogEvents cfg (logItems cfg items) = osLogEvents cfg items := by
  have hev : ∀ l : List LogRec, logs (l.map Item.log) = l := by
    intro l; induction l with
    | nil => rfl
    | cons a t ih => simp_all [logs, asLog]
  unfold logItems
  rw [logs_eq_filter, hev, logs_eq_filter, List.filter_filter]
  simp

/-- The thread filter and the class/subclass filter are independent stages: applying them one after
    the other, in either order, gives the listing of the combined configuration. -/
theorem filter_compose (cfg : Cfg) (items : List Item) :
    let tidOnly : Cfg := { filterTid := cfg.filterTid }
    let classOnly : Cfg := { filterClass := cfg.filterClass, filterSubclass := cfg.filterSubclass }
    kevents classOnly none (keventItems tidOnly items) = kevents cfg none items ∧
    kevents tidOnly none (keventItems classOnly items) = kevents cfg none items := by
  refine ⟨?_, ?_⟩ <;>
  · unfold keventItems
    rw [kevents_eq_filter, events_map_event, kevents_eq_filter, kevents_eq_filter, List.filter_filter]
    apply List.filter_congr
    intro e _
    rw [Bool.eq_iff_iff, Bool.and_eq_true, decide_eq_true_iff, decide_eq_true_iff, decide_eq_true_iff]
    simp only [Sel, SelWith]
    constructor
    · rintro ⟨⟨a1, a2⟩, ⟨b1, b2⟩⟩
      first | exact ⟨a1, by simpa using b2⟩ | exact ⟨b1, by simpa using a2⟩
    · rintro ⟨a, b⟩
      first | exact ⟨⟨a, by simp⟩, ⟨by simp, b⟩⟩ | exact ⟨⟨by simp, b⟩, ⟨a, by simp⟩⟩

/-- A class that no 32-bit event id can have (≥ 256) still counts as "a filter is given": on its own
    it selects nothing (it does not mean "no filter"). -/
theorem out_of_range_class_selects_nothing (cfg : Cfg) (items : List Item)
    (hne : cfg.filterClass ≠ []) (hc : ∀ c ∈ cfg.filterClass, 256 ≤ c) (hs : cfg.filterSubclass = [])
    (h32 : ∀ e ∈ events items, e.eventid < 2 ^ 32) :
    kevents cfg none items = [] := by
  rw [kevents_eq_filter, List.filter_eq_nil_iff]
  intro e he
  have := h32 e he
  simp only [Sel, SelWith, hs, decide_eq_true_eq, hne, false_and, List.not_mem_nil, or_false, false_or, not_and]
  intro _ hm
  have := hc _ hm
  omega

/-! Non-vacuity: a concrete mixed stream and overlapping / absent / out-of-range lists. -/

private def ev (ts tid eid : Nat) : Kevent :=
  { timestamp := ts, data := [], values := [], tid := tid, debugid := eid, eventid := eid, qual := 0 }
private def lg (tid : Nat) (p : String) (pid : Int) : LogRec :=
  { threadIdentifier := tid, process := p, processIdentifier := pid, message := "m" }
private def stream : List Item :=
  [.event (ev 1 7 0x040c0004), .log (lg 7 "launchd" 1), .event (ev 2 0 0x01400000),
   .event (ev 3 7 0x03010090), .log (lg 9 "" 44), .event (ev 4 7 0x040c0004), .event (ev 5 8 0x040c0008)]

example : kevents { filterTid := some 7, filterClass := [4, 300], filterSubclass := [0x040c, 0x0301] } none stream
    = [ev 1 7 0x040c0004, ev 3 7 0x03010090, ev 4 7 0x040c0004] := by decide +kernel
example : kevents { filterTid := some 0 } none stream = [ev 2 0 0x01400000] := by decide +kernel
example : kevents { filterClass := [4] } (some []) stream = events stream := by decide +kernel
example : osLogEvents { filterProcess := some "44" } stream = [lg 9 "" 44] := by decide +kernel
example : osLogEvents { filterTid := some 7, filterProcess := some "launchd" } stream = [lg 7 "launchd" 1] := by decide +kernel
example : kevents { filterClass := [300] } none stream = [] :=
  out_of_range_class_selects_nothing _ _ (by decide) (by decide) rfl (by decide)

/-! Translation tie: the SOURCE TEXT of `kevents` / `os_log_events` / `_is_eventid_allowed`, translated by
    `tools/gen_pyir_fl.py` into the IR of `Model/PyIRFl` and run by its interpreter, IS the model above -/

/-- The IR that the translator produces from the working tree's `pykdebugparser.py`
    (`Gen/PyIRFl.lean`, regenerated on every run) for `_is_eventid_allowed`, `kevents` and `os_log_events` is, term for
    term, the hand-written `Spec/PyIRFlExpected` the refinement proofs were done for, and the translator met nothing
    outside the method bodies that it could not express.  (False as soon as one of the three methods is changed in any
    way that is not a harmless restyling: the build of this module breaks and the check reports it.) -/
theorem source_is_expected_ir :
    Gen.PyIRFl.isEventidAllowed = PyIRFl.Expected.isEventidAllowed ∧
    Gen.PyIRFl.kevents = PyIRFl.Expected.kevents ∧
    Gen.PyIRFl.osLogEvents = PyIRFl.Expected.osLogEvents ∧
    Gen.PyIRFl.notes = [] := ⟨rfl, rfl, rfl, rfl⟩

/-- `self._is_eventid_allowed(event_id, filter_class)` of the source, interpreted
    for EVERY configuration, event id and optional class-list argument (`none` = the argument omitted / `None`), returns
    the bool `Filters.isEventidAllowed` computes on the parser's own list resp. the argument. -/
theorem is_eventid_allowed_ir_eq_model (cfg : Cfg) (eventid : Nat) (arg : Option (List Nat)) :
    PyIRFl.runIsEventidAllowed Gen.PyIRFl.prog cfg eventid arg
      = .ok (.bool (isEventidAllowed cfg eventid (match arg with | none => cfg.filterClass | some l => l))) :=
  PyIRFl.runIsEventidAllowed_expected _ source_is_expected_ir.1 cfg eventid arg

/-- `self.kevents(kdebug, filter_class)` of the source, interpreted — the stream the method
    returns consumed to its end, every stacked `filter(lambda e: …)` stage evaluated in the frame's final variables —
    for EVERY configuration, EVERY optional class-list argument and EVERY stream of events and log records: no
    exception, and exactly the events `Filters.kevents` lists, in that order.  Together with `kevents_eq_filter` the
    source text itself selects the declarative subsequence. -/
theorem kevents_ir_eq_model (cfg : Cfg) (arg : Option (List Nat)) (items : List Item) :
    PyIRFl.runKevents Gen.PyIRFl.prog cfg arg items = .ok ((kevents cfg arg items).map Item.event) :=
  PyIRFl.runKevents_expected _ source_is_expected_ir.2.1 source_is_expected_ir.1 cfg arg items

/-- `self.os_log_events(kdebug)` of the source, interpreted on every configuration and
    stream: no exception, and exactly the log records `Filters.osLogEvents` lists, in that order. -/
theorem os_log_events_ir_eq_model (cfg : Cfg) (items : List Item) :
    PyIRFl.runOsLogEvents Gen.PyIRFl.prog cfg items = .ok ((osLogEvents cfg items).map Item.log) :=
  PyIRFl.runOsLogEvents_expected _ source_is_expected_ir.2.2.1 cfg items

/-- The source text selects the declarative subsequence (the tie composed with `kevents_eq_filter`). -/
theorem kevents_ir_eq_filter (cfg : Cfg) (items : List Item) :
    PyIRFl.runKevents Gen.PyIRFl.prog cfg none items
      = .ok (((events items).filter fun e => decide (Sel cfg e)).map Item.event) := by
  rw [kevents_ir_eq_model, kevents_eq_filter]

private instance exceptDecEq {ε α : Type} [DecidableEq ε] [DecidableEq α] : DecidableEq (Except ε α)
  | .ok a, .ok b => if h : a = b then isTrue (by rw [h]) else isFalse (by intro e; cases e; exact h rfl)
  | .error a, .error b => if h : a = b then isTrue (by rw [h]) else isFalse (by intro e; cases e; exact h rfl)
  | .ok _, .error _ => isFalse (by intro e; cases e)
  | .error _, .ok _ => isFalse (by intro e; cases e)

/-- non-vacuity: the GENERATED methods run by the interpreter on the mixed stream above — thread + overlapping class /
    subclass lists, an explicit empty class-list argument, a process filter by pid text, one event id. -/
example : PyIRFl.runKevents Gen.PyIRFl.prog
      { filterTid := some 7, filterClass := [4, 300], filterSubclass := [0x040c, 0x0301] } none stream
    = .ok [.event (ev 1 7 0x040c0004), .event (ev 3 7 0x03010090), .event (ev 4 7 0x040c0004)] := by decide +kernel
example : (PyIRFl.runKevents Gen.PyIRFl.prog { filterClass := [4] } (some []) stream).map List.length = .ok 5 := by decide +kernel
example : PyIRFl.runOsLogEvents Gen.PyIRFl.prog { filterProcess := some "44" } stream = .ok [.log (lg 9 "" 44)] := by
  decide +kernel
example : PyIRFl.runIsEventidAllowed Gen.PyIRFl.prog { filterClass := [4], filterSubclass := [0x0301] } 0x03010090 none
    = .ok (.bool true) := by decide +kernel
example : PyIRFl.runIsEventidAllowed Gen.PyIRFl.prog { filterClass := [4] } 0x040c0004 (some [1]) = .ok (.bool false) := by
  decide +kernel

end KdVerif.C12

/-! Translation tie: the command-line glue in front of the filters

  (`tools/gen_pyir_cli.py` → `Gen/PyIRCli.lean`; IR and interpreter `Model/PyIRCli`; expected terms `Spec/PyIRCliExpected`.)
  Between the user and `kevents()` stand `pykdebugparser/__main__.py` — the option declarations, the command callbacks that
  assign option values to attributes of a fresh parser object, `print_with_count` — and `PyKdebugParser.__init__` (what an
  attribute is when no command assigns it) and the `formatted_*` maps.  All of it is translated from the source text on
  every run.  The interpreter starts from what click hands to a callback (`Given`: per option, the converted value if the
  user gave it), fills in the DECLARED defaults, calls the callback by keyword and runs its body; what a `formatted_*`
  method does is a parameter (`World`: a function of the object's attributes and the dump).  `configOf` / `showOf` are the
  records the hand models take; negative filter numbers are sent where no thread id / class / subclass is (`natOf`, as
  the harness does). -/
namespace KdVerif.C12
open KdVerif.Filters KdVerif.PyIRCli

/-- **Every term the translator generates from `__main__.py` and from `__init__` / `formatted_*` is the expected one**
    (`Spec/PyIRCliExpected`, quoting the Python), and the translator met nothing it could not express: `print_with_count`,
    `BASED_INT`, the seven commands with their option declarations (names, spellings, kinds, defaults, `multiple`), every
    attribute default of `__init__`, the four maps. -/
theorem cli_source_is_expected_ir :
    Gen.PyIRCli.printWithCount = PyIRCli.Expected.printWithCount ∧
    Gen.PyIRCli.basedInt = PyIRCli.Expected.basedInt ∧
    Gen.PyIRCli.kevents = PyIRCli.Expected.kevents ∧
    Gen.PyIRCli.traces = PyIRCli.Expected.traces ∧
    Gen.PyIRCli.callstacks = PyIRCli.Expected.callstacks ∧
    Gen.PyIRCli.processes = PyIRCli.Expected.processes ∧
    Gen.PyIRCli.kexts = PyIRCli.Expected.kexts ∧
    Gen.PyIRCli.images = PyIRCli.Expected.images ∧
    Gen.PyIRCli.logs = PyIRCli.Expected.logs ∧
    Gen.PyIRCli.init = PyIRCli.Expected.init ∧
    Gen.PyIRCli.formattedKevents = PyIRCli.Expected.formattedKevents ∧
    Gen.PyIRCli.formattedTraces = PyIRCli.Expected.formattedTraces ∧
    Gen.PyIRCli.formattedCallstacks = PyIRCli.Expected.formattedCallstacks ∧
    Gen.PyIRCli.formattedLogs = PyIRCli.Expected.formattedLogs ∧
    Gen.PyIRCli.notes = [] := ⟨rfl, rfl, rfl, rfl, rfl, rfl, rfl, rfl, rfl, rfl, rfl, rfl, rfl, rfl, rfl⟩

theorem cli_prog_is_expected : Gen.PyIRCli.prog = PyIRCli.Expected.prog := by
  obtain ⟨h1, _, _, _, _, _, _, _, _, h2, h3, h4, h5, h6, _⟩ := cli_source_is_expected_ir
  simp only [Gen.PyIRCli.prog, PyIRCli.Expected.prog, h1, h2, h3, h4, h5, h6]

/-- **`PyKdebugParser.__init__` of the source, interpreted, builds the parser the hand models assume**: exactly the twenty
    attributes of `freshObj`, which read as the default filter configuration (`Filters.Cfg`: no thread / process filter,
    empty class and subclass lists), the default column switches (`Format.Show`: every column but the thread id),
    colour on, no wall-clock parameter set (`_format_timestamp` prints ticks), empty tables and image lists. -/
theorem init_defaults_ir_eq_model :
    initObj Gen.PyIRCli.init [] = .ok freshObj ∧
    cfgOfObj freshObj = some ({} : Cfg) ∧ showOfObj freshObj = some ({} : Format.Show) ∧
    colorOfObj freshObj = some true ∧ wallClockUnset freshObj = true ∧ tablesEmpty freshObj = true := by
  refine ⟨?_, cfg_tracesObj {}, show_objWith _ _ _ _ _ false, color_objWith _ _ _ _ _ true, unset_objWith ..⟩
  rw [cli_source_is_expected_ir.2.2.2.2.2.2.2.2.2.1]
  exact initObj_expected

/-- **The `kevents` command of the source, interpreted** (any meaning `W` of `formatted_kevents`): on the options `g`
    (`--process` / `--color` are not options of this command) it prints
    `print_with_count(parser.formatted_kevents(dump), count)` for the parser object `keventsObj o` — `o` the option values
    in force, the declared defaults filled in (`count = -1`, `tid = None`, `show_tid = False`, no class / subclass
    value) —, whose attributes read as `configOf o` without process filter, `showOf o` (thread-id column iff
    `--show-tid`), colour as `__init__` leaves it (on), no wall-clock parameter, empty tables. -/
theorem kevents_command_ir_eq_model {δ τ : Type} (W : World δ τ) (g : Given) (hp : g.process = none) (hc : g.color = none)
    (dump : δ) :
    run Gen.PyIRCli.prog W Gen.PyIRCli.kevents g.args dump =
      pwcResult (W.formatted "formatted_kevents" (keventsObj (Opts.ofGiven g)) dump) (Opts.ofGiven g).count ∧
    cfgOfObj (keventsObj (Opts.ofGiven g)) = some (configOf (Opts.ofGiven g)) ∧
    showOfObj (keventsObj (Opts.ofGiven g)) = some (showOf (Opts.ofGiven g)) ∧
    colorOfObj (keventsObj (Opts.ofGiven g)) = some true ∧
    wallClockUnset (keventsObj (Opts.ofGiven g)) = true ∧ tablesEmpty (keventsObj (Opts.ofGiven g)) = true := by
  refine ⟨?_, ?_, show_objWith .., color_objWith .., (unset_objWith ..).1, (unset_objWith ..).2⟩
  · rw [cli_prog_is_expected, cli_source_is_expected_ir.2.2.1]; exact run_kevents_expected W g hp hc dump
  · rw [cfg_keventsObj]; simp [configOf, Opts.ofGiven, hp]

/-- `formatted_kevents` as the hand model of `Model/Format` has it: the object's filter attributes and column switches
    configure `Format.formattedKevents` (enum `qe`, code table `codes`, tables `t` as there). -/
def keventsWorld (qe : EnumDef) (codes : List (Nat × String)) (t : Format.Tables) : World (List Item) Unit :=
  { formatted := fun m o items =>
      if m = "formatted_kevents" then
        match cfgOfObj o, showOfObj o with
        | some cfg, some sh => (Format.formattedKevents cfg sh qe codes t items, none)
        | _, _ => ([], some .unmodelled)
      else ([], some .attributeError)
    parseAll := fun _ => .error .unmodelled
    jsonDumps := fun _ _ _ => .error .unmodelled }

/-- **`kevents` command = `print_with_count` of the hand model under `configOf`**: every option reaches exactly the
    attribute the model reads — `--tid` the thread filter, `-cf` / `-sf` the class / subclass lists (in the order given),
    `--show-tid` the thread-id column, `-c` the count; defaults included. -/
theorem kevents_command_ir_eq_hand_model (qe : EnumDef) (codes : List (Nat × String)) (t : Format.Tables) (g : Given)
    (hp : g.process = none) (hc : g.color = none) (items : List Item) :
    run Gen.PyIRCli.prog (keventsWorld qe codes t) Gen.PyIRCli.kevents g.args items =
      .ran (printWithCount (Format.formattedKevents (configOf (Opts.ofGiven g)) (showOf (Opts.ofGiven g)) qe codes t items)
              (Opts.ofGiven g).count) none := by
  obtain ⟨h, hcfg, hsh, _⟩ := kevents_command_ir_eq_model (keventsWorld qe codes t) g hp hc items
  rw [h]
  simp only [keventsWorld, hcfg, hsh, if_true, pwcResult, pwcOutcome, ite_self]

/-- … hence (with `kevents_eq_filter`) the lines the command prints are the formatted events the declarative predicate
    selects under the user's options, cut by `-c`. -/
theorem kevents_command_prints_selected (qe : EnumDef) (codes : List (Nat × String)) (t : Format.Tables) (g : Given)
    (hp : g.process = none) (hc : g.color = none) (items : List Item) :
    run Gen.PyIRCli.prog (keventsWorld qe codes t) Gen.PyIRCli.kevents g.args items =
      .ran (printWithCount
        (((events items).filter fun e => decide (Sel (configOf (Opts.ofGiven g)) e)).map
          (Format.formatKevent (showOf (Opts.ofGiven g)) qe codes t)) (Opts.ofGiven g).count) none := by
  rw [kevents_command_ir_eq_hand_model qe codes t g hp hc, Format.formattedKevents, kevents_eq_filter]

/-- **The three table commands of the source, interpreted**: a fresh `KdBufParser({}, {})`, the dump parsed to the end
    (`list(parser.parse(dump))`: an exception of the parser ends the command before anything is printed), then ONE print:
    `json.dumps(parser.<attr>, indent=4)` of `processes` / `kernel_extensions` / `images`. -/
theorem table_commands_ir_eq_model {δ τ : Type} (W : World δ τ) (dump : δ) :
    run Gen.PyIRCli.prog W Gen.PyIRCli.processes ({} : Given).args dump = tableResult W "processes" 4 dump ∧
    run Gen.PyIRCli.prog W Gen.PyIRCli.kexts ({} : Given).args dump = tableResult W "kernel_extensions" 4 dump ∧
    run Gen.PyIRCli.prog W Gen.PyIRCli.images ({} : Given).args dump = tableResult W "images" 4 dump := by
  obtain ⟨_, _, _, _, _, h1, h2, h3, _⟩ := cli_source_is_expected_ir
  rw [cli_prog_is_expected, h1, h2, h3]
  exact ⟨run_table_expected W _ _ dump, run_table_expected W _ _ dump, run_table_expected W _ _ dump⟩

/-- **`formatted_kevents` of the source, interpreted** (any meaning `M` of `self.kevents` / `self._format_kevent`):
    `map` of `self._format_kevent(e, codes)` over `self.kevents(kdebug)` — the caller's code table, or
    `default_trace_codes()` when none is given —, ending with the first exception of the formatter or with that of the
    event listing. -/
theorem formatted_kevents_ir_eq_model {δ ι κ : Type} (M : Methods δ ι κ) (o : Obj) (tc : Option κ) (dump : δ) :
    runFormatted M Gen.PyIRCli.formattedKevents o tc dump =
      mapGen (fun e => M.formatter "_format_kevent" o e [codesArg tc])
        (M.source "kevents" o [.kdebug] dump).1 (M.source "kevents" o [.kdebug] dump).2 := by
  rw [cli_source_is_expected_ir.2.2.2.2.2.2.2.2.2.2.1]; exact runFormatted_kevents M o tc dump

/-- `BASED_INT` of the source is `int(value, 0)` with `ValueError` turned into a usage error. -/
theorem based_int_ir_eq_model (text : String) : Gen.PyIRCli.basedInt.apply text = intBase0 text := by
  rw [cli_source_is_expected_ir.2.1]; rfl

private instance resultDecEq : DecidableEq Result := inferInstance

private def exGiven : Given := { tid := some 7, classFilters := [4, 300], subclassFilters := [0x040c, 0x0301], count := some 2 }

-- non-vacuity: the GENERATED command on the mixed stream above: thread 7, classes 4 / 300, two subclasses, two lines
example : run Gen.PyIRCli.prog (keventsWorld Gen.Enums.DgbFuncQual [] {}) Gen.PyIRCli.kevents exGiven.args stream =
    .ran ([ev 1 7 0x040c0004, ev 3 7 0x03010090].map (Format.formatKevent {} Gen.Enums.DgbFuncQual [] {})) none := by
  decide +kernel
-- … no option at all: every event, thread-id column off
example : run Gen.PyIRCli.prog (keventsWorld Gen.Enums.DgbFuncQual [] {}) Gen.PyIRCli.kevents ({} : Given).args stream =
    .ran ((events stream).map (Format.formatKevent {} Gen.Enums.DgbFuncQual [] {})) none := by decide +kernel
-- … `--show-tid -c 0 --tid -5`
example : run Gen.PyIRCli.prog (keventsWorld Gen.Enums.DgbFuncQual [] {}) Gen.PyIRCli.kevents
    ({ showTid := some true, count := some 0, tid := some (-5) } : Given).args stream = .ran [] none := by decide +kernel
-- … `--process` is not an option of `kevents`: click rejects the command line
example : run Gen.PyIRCli.prog (keventsWorld Gen.Enums.DgbFuncQual [] {}) Gen.PyIRCli.kevents
    ({ process := some "launchd" } : Given).args stream = .usage := by decide +kernel
example : (Opts.ofGiven exGiven).count = 2 ∧ configOf (Opts.ofGiven exGiven) =
    { filterTid := some 7, filterClass := [4, 300], filterSubclass := [0x040c, 0x0301] } := by decide +kernel
example : Gen.PyIRCli.basedInt.apply "0x1f" = .ok 31 ∧ Gen.PyIRCli.basedInt.apply "0o17" = .ok 15 ∧
    Gen.PyIRCli.basedInt.apply "-12" = .ok (-12) ∧ Gen.PyIRCli.basedInt.apply "010" = .error .valueError ∧
    Gen.PyIRCli.basedInt.apply "0b101" = .ok 5 ∧ Gen.PyIRCli.basedInt.apply "4x" = .error .valueError ∧
    Gen.PyIRCli.basedInt.apply "00" = .ok 0 ∧ Gen.PyIRCli.basedInt.apply "1_0" = .error .unmodelled := by decide +kernel

end KdVerif.C12
