import KdVerif.Model.ContainerV3
import KdVerif.Props.C01
import KdVerif.Proofs.ContainerV2
import KdVerif.Proofs.Dict
import KdVerif.Proofs.EndToEnd
import KdVerif.Proofs.PyIRRdKd
import KdVerif.Proofs.PyIRCn
import KdVerif.Gen.PyIRCn
/-
  C02 — a version-2 dump yields exactly its records, in order, and its thread map.

  Subject: `parse plist fromKdBuf prior data` (Model/ContainerV3.parse → Model/ContainerV2.parseV2), the model of
  `KdBufParser(threads_pids, pids_names).parse(reader)` exhausted; `prior` are the contents of the two
  shared dicts (and the parser attributes) BEFORE the call.  Specification: `Spec.encodeV2`.
  Thread names are compared as UTF-8 bytes (see Spec/ContainerV2).
-/
namespace KdVerif.C02
open KdVerif Spec Reader

/-- `set_thread_map` applied to the file's thread list, starting from EMPTY tables. -/
def threadTables (ts : List V2Thread) : Tables :=
  ts.foldl (fun t e => t.add ⟨e.tid, e.pid, e.name⟩) Tables.empty

/-- K1 hypothesis: there is no record, or the first record does not begin with a zero byte. -/
def FirstByteNonZero (f : V2File) : Prop := ∀ x, f.recs.head? = some x → x.head? ≠ some 0

theorem parse_encodeV2 {ε : Type} (plist : Bytes → Option PView) (dec : Bytes → Except PyErr ε)
    (prior : PState) (f : V2File) :
    ∃ r : Reader, r.rest = v2Body f ∧
      parse plist dec prior (encodeV2 f) =
        ⟨(parseV2 dec prior.tables r).events.map .ev, (parseV2 dec prior.tables r).err,
         (parseV2 dec prior.tables r).tables, (parseV2 dec prior.tables r).tables, prior.md,
         (parseV2 dec prior.tables r).rd⟩ := by
  have h : (Reader.ofBytes (encodeV2 f)).rest = v2Magic ++ v2Body f := by
    simp [Reader.rest, Reader.ofBytes, encodeV2, v2Body]
  obtain ⟨h1, c1⟩ := read_cont h
  refine ⟨((Reader.ofBytes (encodeV2 f)).read 4).2, c1.1, ?_⟩
  have h1' : ((Reader.ofBytes (encodeV2 f)).read Gen.Consts.RAW_VERSION_SIZE).1 = Gen.Consts.RAW_VERSION2_BYTES := h1
  unfold parse
  simp only [h1', if_true]
  rfl

/-- **C02, events (partial: K1 hypothesis).**  For every well-formed v2 file — any thread map, any
    padding length, any list of 64-byte records — whose first record does not begin with a zero
    byte, and for ANY prior contents of the shared tables: the parser delivers exactly the records'
    decodings, in file order, nothing else (no log, no error), i.e. exactly `f.recs.length` events.

    Full statement (FALSE for the real code, see `v2_pad_eats_record`; known finding K1):
      `f.WF → (parse plist fromKdBuf prior (encodeV2 f)).events = f.recs.map specDecode`
    What is missing: the greedy zero-byte skipper `_pad` cannot tell padding from a first record
    whose first byte (low byte of the timestamp) is 0. -/
theorem v2_events_partial (plist : Bytes → Option PView) (prior : PState) (f : V2File) (wf : f.WF)
    (h0 : FirstByteNonZero f) :
    let x := parse plist fromKdBuf prior (encodeV2 f)
    x.events = f.recs.map specDecode ∧ x.outs = (f.recs.map specDecode).map .ev ∧ x.err = none
      ∧ x.events.length = f.recs.length := by
  obtain ⟨r, hr, hp⟩ := parse_encodeV2 plist fromKdBuf prior f
  have hd : ∀ x ∈ f.recs, fromKdBuf x = .ok (specDecode x) := fun x hx =>
    C01.decode_eq_spec x (wf.2.2.2.2 x hx).1 (wf.2.2.2.2 x hx).2
  obtain ⟨he, herr⟩ := parseV2_events fromKdBuf specDecode prior.tables f wf hd h0 hr
  simp only [hp, events_evs, he, herr, List.length_map, and_self]

/-- **C02, tables.**  For every well-formed v2 file (NO first-byte hypothesis) and ANY prior tables,
    the tables after the parse are the file's thread map filled into EMPTY tables: nothing of the
    prior contents survives. -/
theorem v2_tables (plist : Bytes → Option PView) (prior : PState) (f : V2File) (wf : f.WF) :
    (parse plist fromKdBuf prior (encodeV2 f)).tables = threadTables f.threads := by
  obtain ⟨r, hr, hp⟩ := parse_encodeV2 plist fromKdBuf prior f
  rw [hp]
  simp only [parseV2_tables fromKdBuf prior.tables f wf hr, setThreadMap, threadTables, List.foldl_map, toEntry]

/-- … and "a later entry for the same key wins": a thread id maps to the pid of the LAST thread-map
    entry with that tid (none if there is none), a pid to the name of the LAST entry with that pid. -/
theorem v2_lookup_last_wins (ts : List V2Thread) (k : Nat) :
    dictGet k (threadTables ts).threadsPids = (ts.reverse.find? (fun t => t.tid == k)).map (·.pid) ∧
    dictGet k (threadTables ts).pidsNames = (ts.reverse.find? (fun t => t.pid == k)).map (·.name) := by
  have key : ∀ (ts : List V2Thread) (t0 : Tables),
      (ts.foldl (fun t e => t.add ⟨e.tid, e.pid, e.name⟩) t0).threadsPids =
        ts.foldl (fun d e => dictSet e.tid e.pid d) t0.threadsPids ∧
      (ts.foldl (fun t e => t.add ⟨e.tid, e.pid, e.name⟩) t0).pidsNames =
        ts.foldl (fun d e => dictSet e.pid e.name d) t0.pidsNames := by
    intro ts
    induction ts with
    | nil => intro t0; exact ⟨rfl, rfl⟩
    | cons t ts ih => intro t0; simpa [List.foldl_cons, Tables.add] using ih _
  obtain ⟨k1, k2⟩ := key ts Tables.empty
  unfold threadTables
  rw [k1, k2, dictGet_foldl (fun t : V2Thread => t.tid) (·.pid), dictGet_foldl (fun t : V2Thread => t.pid) (·.name)]
  constructor
  · cases ts.reverse.find? (fun t => t.tid == k) <;> rfl
  · cases ts.reverse.find? (fun t => t.pid == k) <;> rfl

/-- successive parses by one parser object: state (tables, attributes) threaded through. -/
def parseSeq (plist : Bytes → Option PView) (prior : PState) (files : List Bytes) : PState :=
  files.foldl (fun st d => let x := parse plist fromKdBuf st d; ⟨x.tables, x.md⟩) prior

/-- **C02, no residue over histories.**  After any sequence of parses of well-formed v2 files on one
    parser object — whatever the tables held before — the tables are exactly the thread map of the
    LAST file parsed. -/
theorem v2_tables_seq (plist : Bytes → Option PView) (prior : PState) (fs : List V2File) (f : V2File)
    (wf : f.WF) :
    (parseSeq plist prior ((fs ++ [f]).map encodeV2)).tables = threadTables f.threads := by
  unfold parseSeq
  rw [List.map_append, List.foldl_append]
  simp only [List.map_cons, List.map_nil, List.foldl_cons, List.foldl_nil]
  exact v2_tables plist _ f wf

def k1Rec : Bytes := 0 :: 1 :: List.replicate 62 0          -- timestamp 0x100
def k1File : V2File := ⟨[], 0, [k1Rec], 1, 0⟩
def k1File2 : V2File := ⟨[], 0, [List.replicate 64 0, List.replicate 64 1], 1, 0⟩

theorem k1File_wf : k1File.WF ∧ k1File2.WF := by
  unfold V2File.WF V2Thread.WF IsBytes
  decide +kernel

/-- **K1 (known finding), negative witness.**  Without the first-byte hypothesis the statement of
    `v2_events_partial` is false for the code as it is:
    (a) a well-formed file whose single record has timestamp 0x100: the skipper eats the record's
        leading zero byte, the stream is misaligned, NO event is delivered and the parse ends in
        `struct.error`;
    (b) a well-formed file whose first record is all zeros: that record is silently lost (the
        parse ends normally with one event instead of two). -/
theorem v2_pad_eats_record :
    (let x := parse (fun _ => none) fromKdBuf ⟨Tables.empty, {}⟩ (encodeV2 k1File)
     x.events = [] ∧ x.err = some .structError ∧ k1File.recs.map specDecode ≠ []) ∧
    (let x := parse (fun _ => none) fromKdBuf ⟨Tables.empty, {}⟩ (encodeV2 k1File2)
     x.events = [specDecode (List.replicate 64 1)] ∧ x.err = none ∧
       x.events ≠ k1File2.recs.map specDecode) := by
  decide +kernel

def exFile : V2File :=
  ⟨[⟨7, 100, [0x61, 0x62], [0x73, 0x72, 0x76, 0, 0xff]⟩, ⟨8, 100, [0xc3, 0xa9], []⟩, ⟨7, 200, [], [0x78]⟩], 3,
   [List.replicate 64 255, List.range 64], 1, 24000000⟩

theorem exFile_wf : exFile.WF := by
  unfold V2File.WF V2Thread.WF IsBytes
  decide +kernel

/-- Non-vacuity: a concrete file with duplicate tids and pids, a multi-byte name, padding and two records meets the
    hypotheses; polluted prior tables. -/
example :
    let x := parse (fun _ => none) fromKdBuf ⟨⟨[(7, 1), (99, 2)], [(1, [0x6f])]⟩, {}⟩ (encodeV2 exFile)
    x.events = exFile.recs.map specDecode ∧ x.tables = threadTables exFile.threads :=
  ⟨(v2_events_partial _ _ exFile exFile_wf (by intro x hx; simp [exFile] at hx; subst hx; decide)).1,
   v2_tables _ _ exFile exFile_wf⟩

example : (threadTables exFile.threads).threadsPids = [(7, 200), (8, 100)] ∧
    (threadTables exFile.threads).pidsNames = [(100, [0xc3, 0xa9]), (200, [])] := by decide

/-- The file's thread map as the trace layer receives it: `(tid, pid, name)` in file order, the name bytes decoded
    (`CString('utf8')`). -/
def fileThreadMap (f : V2File) : Declared.ThreadMap :=
  f.threads.map fun t => (t.tid, t.pid, EndToEnd.utf8 t.name)

theorem threadMapOf_entries (f : V2File) : EndToEnd.threadMapOf (f.threads.map toEntry) = fileThreadMap f := by
  simp only [EndToEnd.threadMapOf, fileThreadMap, List.map_map]
  rfl

/-- **C02 composed with C01, at the entry of the trace layer (partial: K1 hypothesis).**  For every well-formed v2 file
    — any thread map, any padding length, any list of 64-byte records — whose first record does not begin with a zero
    byte: what `PyKdebugParser.traces` / `formatted_traces` work on is exactly the file's thread map (every entry, in
    file order) and exactly the decodings of the file's records (C01's `specDecode`, in file order), and the container
    reader ends without an exception.

    Full statement without `FirstByteNonZero` is false for the code as it is (known finding K1, `v2_pad_eats_record`);
    the thread map half needs no such hypothesis: `e2e_threadmap_of_encoded`. -/
theorem e2e_dump_of_encoded (plist : Bytes → Option PView) (f : V2File) (wf : f.WF) (h0 : FirstByteNonZero f) :
    EndToEnd.dumpOf plist (encodeV2 f) =
      .ok ({ threadMap := EndToEnd.threadMapOf (f.threads.map toEntry), events := f.recs.map specDecode }, none) :=
  EndToEnd.dumpOf_encoded plist f wf h0

theorem e2e_dump_of_encoded' (plist : Bytes → Option PView) (f : V2File) (wf : f.WF) (h0 : FirstByteNonZero f) :
    EndToEnd.dumpOf plist (encodeV2 f) =
      .ok ({ threadMap := fileThreadMap f, events := f.recs.map specDecode }, none) := by
  rw [e2e_dump_of_encoded plist f wf h0, threadMapOf_entries]

/-- For every well-formed v2 file (NO first-byte hypothesis) the dump is readable and the trace layer receives the
    file's thread map. -/
theorem e2e_threadmap_of_encoded (plist : Bytes → Option PView) (f : V2File) (wf : f.WF) :
    ∃ d c, EndToEnd.dumpOf plist (encodeV2 f) = .ok (d, c) ∧ d.threadMap = fileThreadMap f := by
  obtain ⟨d, c, h, htm⟩ := EndToEnd.dumpOf_encoded_threadMap plist f wf
  exact ⟨d, c, h, by rw [htm, threadMapOf_entries]⟩

/-- **The lines of an encoded file.**  Under the same hypotheses the lines `formatted_traces` yields for the file's bytes
    are the lines of the line builder over `traces` of (the file's thread map, the decodings of the file's records), and
    the iteration ends with the exception of the trace layer only (rendering or decoding) — the container contributes
    neither an event nor an exception of its own. -/
theorem e2e_lines_of_encoded (env : Trace.Env) (obj : TracePipeline.Obj) (sh : Format.Show)
    (plist : Bytes → Option PView) (f : V2File) (wf : f.WF) (h0 : FirstByteNonZero f) :
    let res := (TracePipeline.traces env obj
      { threadMap := fileThreadMap f, events := f.recs.map specDecode }).1
    EndToEnd.formattedTraces env obj sh plist (encodeV2 f) =
      ((EndToEnd.formatAll sh res.traces).1,
       match (EndToEnd.formatAll sh res.traces).2 with
       | some e => some e
       | none => res.err) := by
  intro res
  have h := e2e_dump_of_encoded' plist f wf h0
  have h1 := EndToEnd.formattedTraces_lines env obj sh plist _ _ _ h
  have h2 := EndToEnd.formattedTraces_err env obj sh plist _ _ _ h
  refine Prod.ext h1 ?_
  rw [h2]
  show (match (EndToEnd.formatAll sh res.traces).2 with
        | some e => some e
        | none => match res.err with
          | some e => some e
          | none => none) = _
  cases (EndToEnd.formatAll sh res.traces).2 <;> cases res.err <;> rfl

/-- Non-vacuity: the example file of `Proofs/EndToEnd` (two entries for thread 7, four bytes of padding, six records)
    meets the hypotheses; its six lines. -/
example :
    EndToEnd.dumpOf EndToEnd.noPlist (encodeV2 EndToEnd.exFile) =
      .ok ({ threadMap := fileThreadMap EndToEnd.exFile, events := EndToEnd.exFile.recs.map specDecode }, none) ∧
    fileThreadMap EndToEnd.exFile = [(7, 41, "old"), (7, 42, "launchd")] :=
  ⟨e2e_dump_of_encoded' _ _ EndToEnd.exFile_wf EndToEnd.exFile_first, by decide +kernel⟩

example : EndToEnd.formattedTraces EndToEnd.exEnv {} {} EndToEnd.noPlist (encodeV2 EndToEnd.exFile) =
    (["1 launchd(42)                       Process exit name: x",
      "2 launchd(42)                       New thread 9 of parent: 50",
      "3 (50)                              Process exit name: y",
      "4 launchd(42)                       New thread of parent: new",
      "5 new(50)                           Process exit name: z",
      "6 Error: tid 8                      Process exit name: {"], none) := by
  decide +kernel

/-- K1 end to end: the file `k1File2` (first record all zeros) is well formed, the dump is readable, the thread map is
    right, but the trace layer receives ONE event instead of two. -/
example : (EndToEnd.dumpOf EndToEnd.noPlist (encodeV2 k1File2)).toOption.map (fun p => p.1.events.length) = some 1 := by
  decide +kernel

/-! ### Translation tie: the source text of `parse`, `parse_v2` and `set_thread_map`

  `tools/gen_pyir_rd.py` translates `kd_buf_parser.py` (pure `ast`) into the Python-subset IR of `Model/PyIRRd` on every
  run (`Gen/PyIRRd.lean`); `PyIRRd.exec` is a big-step interpreter over the model's positional reader (same read calls,
  same counters), with the `construct` parsers as primitives and `from_kd_buf` as a parameter. -/

/-- **The translated source is the program the refinement lemmas were proved for** (`Spec/PyIRRdExpected`, quoting the
    Python), and the translator met nothing outside the subset.  The program includes the constructor
    `KdBufParser.__init__` (`prog.init`; `C03.kd_init_ir_eq_model`). -/
theorem source_is_expected_ir : Gen.PyIRRd.prog = PyIRRd.Expected.prog ∧ Gen.PyIRRd.notes = [] := by decide +kernel

/-- **`set_thread_map`, interpreted, is `setThreadMap`**: both tables are cleared first (no residue of an earlier
    parse, whatever they held), then filled in file order, a later entry of a tid / pid overwriting an earlier one. -/
theorem set_thread_map_ir_eq_model (l : List ThreadEntry) (t : Tables) :
    PyIRRd.execTm l Gen.PyIRRd.prog.setThreadMap t = .ok (setThreadMap t l) := by
  rw [source_is_expected_ir.1]; exact PyIRRd.execTm_expected l t

/-- **`parse`, interpreted**: four bytes are read, the version-2 magic selects `parse_v2`, the version-3 magic
    `parse_v3`, anything else is the `KeyError` of the dict lookup (`none`). -/
theorem parse_dispatch_ir_eq_model (data : Bytes) :
    PyIRRd.runDispatch Gen.PyIRRd.prog.parse data =
      .ok ((if ((Reader.ofBytes data).read Gen.Consts.RAW_VERSION_SIZE).1 = Gen.Consts.RAW_VERSION2_BYTES then some .parseV2
            else if ((Reader.ofBytes data).read Gen.Consts.RAW_VERSION_SIZE).1 = Gen.Consts.RAW_VERSION3_BYTES then some .parseV3
            else none),
           ((Reader.ofBytes data).read Gen.Consts.RAW_VERSION_SIZE).2) := by
  rw [source_is_expected_ir.1]; exact PyIRRd.runDispatch_expected data

/-- **`parse_v2`, interpreted, is `parseV2`** — for EVERY reader state (any bytes, well-formed or not) and any prior
    table contents: the same events in the same order, the same final exception, the same tables, the same reader
    position and read counters (so the interpreted source makes exactly the model's `read` calls). -/
theorem parse_v2_ir_eq_model (plist : Bytes → Option PView) (prior : Tables) (hdr : Option (List Nat × Bytes))
    (r : Reader) (g : r.pos ≤ r.data.length) :
    (PyIRRd.runGen (Gen.PyIRRd.prog.params fromKdBuf plist) Gen.PyIRRd.prog.parseV2 prior hdr r).events =
        (parseV2 fromKdBuf prior r).events ∧
    (PyIRRd.runGen (Gen.PyIRRd.prog.params fromKdBuf plist) Gen.PyIRRd.prog.parseV2 prior hdr r).err =
        (parseV2 fromKdBuf prior r).err ∧
    (PyIRRd.runGen (Gen.PyIRRd.prog.params fromKdBuf plist) Gen.PyIRRd.prog.parseV2 prior hdr r).tables =
        (parseV2 fromKdBuf prior r).tables ∧
    (PyIRRd.runGen (Gen.PyIRRd.prog.params fromKdBuf plist) Gen.PyIRRd.prog.parseV2 prior hdr r).rd =
        (parseV2 fromKdBuf prior r).rd := by
  rw [source_is_expected_ir.1]
  obtain ⟨a, b, c, d, _⟩ := PyIRRd.runGen_parseV2 fromKdBuf plist PyIRRd.kd_rejectsShort PyIRRd.kd_noHang prior hdr r g
  exact ⟨a, b, c, d⟩

/-- **The subject of every C02 theorem is the interpreted source**: `parse plist fromKdBuf prior data` (what
    `v2_events_partial`, `v2_tables`, `e2e_…` speak about) equals the translated `parse` / `parse_v2` / `parse_v3` /
    `seek_until` / `set_thread_map` run by the interpreter (all of them translated whole). -/
theorem parse_is_interpreted_source (plist : Bytes → Option PView) (prior : PState) (data : Bytes) :
    parse plist fromKdBuf prior data = PyIRRd.parseVia Gen.PyIRRd.prog plist fromKdBuf prior data :=
  PyIRRd.parse_eq_parseVia_gen source_is_expected_ir plist prior data

/-- non-vacuity: the generated program, interpreted, reads a two-thread version-2 dump -/
example : ((PyIRRd.parseVia Gen.PyIRRd.prog EndToEnd.noPlist fromKdBuf ⟨Tables.empty, {}⟩ (encodeV2 exFile)).events.length,
           (PyIRRd.parseVia Gen.PyIRRd.prog EndToEnd.noPlist fromKdBuf ⟨Tables.empty, {}⟩ (encodeV2 exFile)).err) =
          (exFile.recs.length, none) := by decide +kernel

/-! ### translation tie of the construct DECLARATIONS (`kd_threadmap`, `kd_header_v2`; `Model/PyIRCn`)

The reader tie above keeps `kd_header_v2.parse_stream(reader)` as the primitive `headerV2`.  What `kd_header_v2` IS — the
module-level `Struct(…)` expression — is translated too (`tools/gen_pyir_cn.py` → `Gen/PyIRCn`) and run by `Con.parse`
over the same reader monad and the same combinators of `Model/Construct` (one combinator per construct class). -/

/-- **The translated declarations are the ones the lemmas were proved for** (`Spec/PyIRCnExpected`, quoting the Python):
    all five construct declarations of kd_buf_parser.py and `BplistAdapter._decode`; the translator met nothing outside
    the subset. -/
theorem decl_source_is_expected_ir : Gen.PyIRCn.module = PyIRCn.Expected.module ∧ Gen.PyIRCn.notes = [] := by decide +kernel

/-- **`kd_threadmap`, interpreted, is `threadEntry`** — for EVERY reader state: the declaration the source binds to
    `kd_threadmap`, run by `Con.parse` (whatever `plistlib.loads` is, whatever the fuel policy, in any context) and read
    as (tid, pid, process), gives the same entry or the same exception and leaves the same reader (position and read
    counters) as the hand model. -/
theorem kd_threadmap_decl_eq_model (env : PyIRCn.Env) (ctx : List (String × PyIRCn.CVal)) (r : Reader) :
    PyIRCn.project PyIRCn.CVal.toThreadEntry ((Gen.PyIRCn.module.decl "kd_threadmap").parse env ctx) r =
      threadEntry r := by
  rw [decl_source_is_expected_ir.1, PyIRCn.decl_kd_threadmap, PyIRCn.project_kd_threadmap]

/-- the parsed value carries nothing else: it IS the hand model's entry as a `Container` of three named fields. -/
theorem kd_threadmap_decl_value (env : PyIRCn.Env) (ctx : List (String × PyIRCn.CVal)) :
    (Gen.PyIRCn.module.decl "kd_threadmap").parse env ctx = PyIRCn.mapRM PyIRCn.ThreadEntry.toCVal threadEntry := by
  rw [decl_source_is_expected_ir.1, PyIRCn.decl_kd_threadmap, PyIRCn.parse_kd_threadmap]

/-- **`kd_header_v2`, interpreted, is `headerV2`** — for EVERY reader state: the declaration bound to `kd_header_v2`
    (with `kd_threadmap` resolved to the declaration above), run by `Con.parse` with the fuel `headerV2` gives its greedy
    range (`restFuel`: unread bytes + 1) and read as (number_of_treads, is_64bit, tick_frequency, threadmap, len(_pad)),
    gives the same header or the same exception and the same reader: the three paddings of 8 / 4 / 0x100 bytes as ONE
    read each, the array of `number_of_treads` entries, the greedy zero padding INCLUDING its rewind behind the last
    zero byte (the K1 behaviour lives in this declaration). -/
theorem kd_header_v2_decl_eq_model (plist : Bytes → Option PView) (ctx : List (String × PyIRCn.CVal)) (r : Reader) :
    PyIRCn.project PyIRCn.CVal.toHeaderV2
      ((Gen.PyIRCn.module.decl "kd_header_v2").parse ⟨plist, fun r => r.rest.length + 1⟩ ctx) r = headerV2 r := by
  rw [decl_source_is_expected_ir.1, PyIRCn.decl_kd_header_v2, PyIRCn.project_kd_header_v2]

/-- **`parse_v2` rests on the declaration**: the hand model `parseV2` (= the interpreted `parse_v2`, by
    `parse_v2_ir_eq_model`) with its primitive `headerV2` replaced by the interpreted `kd_header_v2`. -/
theorem parse_v2_rests_on_declarations {ε : Type} (dec : Bytes → Except PyErr ε) (plist : Bytes → Option PView)
    (prior : Tables) (r : Reader) :
    parseV2 dec prior r =
      match PyIRCn.project PyIRCn.CVal.toHeaderV2
          ((Gen.PyIRCn.module.decl "kd_header_v2").parse ⟨plist, fun r => r.rest.length + 1⟩ []) r with
      | (.error e, r') => ⟨[], some e, prior, r'⟩
      | (.ok h, r') =>
        let q := recordLoop dec (r'.rest.length / 64 + 2) r'
        ⟨q.1, q.2.1, setThreadMap prior h.threadmap, q.2.2⟩ := by
  rw [kd_header_v2_decl_eq_model]; rfl

/-- 32 bytes of a thread entry: tid, pid, a 20-byte name field -/
def exEntry (tid pid : Nat) (field : Bytes) : Bytes := [tid, 0, 0, 0, 0, 0, 0, 0] ++ [pid, 0, 0, 0] ++ field

/-- a version-2 header: two threads, three zero bytes of padding, then a non-zero byte -/
def exDeclHeader : Bytes :=
  [2, 0, 0, 0] ++ List.replicate 12 0xee ++ [1, 0, 0, 0] ++ [24, 0, 0, 0, 0, 0, 0, 0] ++ List.replicate 0x100 0xee ++
  exEntry 5 9 ([0x61, 0x62, 0] ++ List.replicate 17 0x7a) ++ exEntry 6 9 ([0xc3, 0xa9, 0] ++ List.replicate 17 0) ++
  [0, 0, 0] ++ [7, 0]

/-- non-vacuity: the generated `kd_header_v2`, interpreted, on concrete bytes — both entries, the three padding zeros
    consumed, the reader left ON the non-zero byte (position 351) after 16 read calls (the last one the failing
    `Const` element that the range rewinds) -/
example :
    (match PyIRCn.project PyIRCn.CVal.toHeaderV2
        ((Gen.PyIRCn.module.decl "kd_header_v2").parse ⟨EndToEnd.noPlist, fun r => r.rest.length + 1⟩ [])
        (Reader.ofBytes exDeclHeader) with
     | (.ok h, _) => some (h.count, h.is64, h.tick, h.threadmap)
     | (.error _, _) => none) =
    some (2, 1, 24, [⟨5, 9, [0x61, 0x62]⟩, ⟨6, 9, [0xc3, 0xa9]⟩]) := by decide +kernel

example :
    (match PyIRCn.project PyIRCn.CVal.toHeaderV2
        ((Gen.PyIRCn.module.decl "kd_header_v2").parse ⟨EndToEnd.noPlist, fun r => r.rest.length + 1⟩ [])
        (Reader.ofBytes exDeclHeader) with
     | (.ok h, r) => some (h.pad, r.pos, r.calls, r.got)
     | (.error _, _) => none) = some (3, 351, 16, 352) := by decide +kernel

/-- non-vacuity: a name field without NUL is the StreamError of `NullTerminated`, after the three reads of the entry -/
example :
    (match PyIRCn.project PyIRCn.CVal.toThreadEntry ((Gen.PyIRCn.module.decl "kd_threadmap").parse ⟨EndToEnd.noPlist, fun _ => 0⟩ [])
        (Reader.ofBytes (exEntry 5 9 (List.replicate 20 0x41) ++ [1, 2, 3])) with
     | (x, r) => (PyIRCn.outcome x, r.pos, r.calls)) = ((none, some .streamError), 32, 3) := by decide +kernel

/-- non-vacuity: a name that is not UTF-8 (a lone 0xff) is the model's error for StringError -/
example :
    (match PyIRCn.project PyIRCn.CVal.toThreadEntry ((Gen.PyIRCn.module.decl "kd_threadmap").parse ⟨EndToEnd.noPlist, fun _ => 0⟩ [])
        (Reader.ofBytes (exEntry 5 9 ([0xff, 0] ++ List.replicate 18 0))) with
     | (x, r) => (PyIRCn.outcome x, r.pos, r.calls)) = ((none, some .streamError), 32, 3) := by decide +kernel

/-- … and a well-formed entry is read -/
example :
    (PyIRCn.project PyIRCn.CVal.toThreadEntry ((Gen.PyIRCn.module.decl "kd_threadmap").parse ⟨EndToEnd.noPlist, fun _ => 0⟩ [])
        (Reader.ofBytes (exEntry 5 9 ([0x61, 0] ++ List.replicate 18 0xff)))).1.toOption = some ⟨5, 9, [0x61]⟩ := by decide +kernel

end KdVerif.C02
