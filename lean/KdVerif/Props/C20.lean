import KdVerif.Proofs.Composite
import KdVerif.Proofs.PyIRCo
import KdVerif.Gen.PyIRCo
/-
  C20 — composite traces reflect exactly the records nested in their window.

  Subject: `Trace.handle env t name events` for the three composite handlers of Model/Trace
  (`handle_mach_vmfault` / `handle_timing_launch_executable` / `handle_event`), i.e. what
  `TracesParser.parse_event_list` returns for a delivered window `events` (C04: `events[0]` is the START record,
  `events[-1]` the END record, in between every record of the same thread and table, in order).  The code table
  (`env.codes`), the host tables and the text decoder are arbitrary; enums and generated decoders are the tables
  regenerated from the repository (`StdEnv`).  All statements hold for every window: any number and order of nested
  records of every kind, any flag word.
-/
namespace KdVerif.C20
open KdVerif KdVerif.IR KdVerif.Trace KdVerif.Composite

/-- The hard-coded id range `0x1320008 <= e.eventid <= 0x1320014`. -/
def inRange (e : Kevent) : Bool := decide (0x1320008 ≤ e.eventid ∧ e.eventid ≤ 0x1320014)

/-- `events[1:-1]`. -/
def interior (events : List Kevent) : List Kevent := (events.drop 1).dropLast

/-- The first record of `events[1:-1]` whose id lies in the range. -/
def firstReal (events : List Kevent) : Option Kevent := (interior events).find? inRange

/-- `DbgVmFaultType(x).name`; `none` = ValueError (x outside 1..11). -/
def faultName (x : Nat) : Option String := (Gen.Enums.DbgVmFaultType.ofValue (x : Int)).map (·.name)

/-- `to_vm_prot(x)`, by name. -/
def toVmProt (x : Nat) : List String :=
  if x = 0 then ["VM_PROT_NONE"] else (Gen.Enums.VmProtection.flagsOf x).map (·.name)

/-- What the first in-range record contributes. -/
inductive Real
  | absent                                          -- no record of `events[1:-1]` lies in the range
  | undecoded                                       -- its id has no name, or the name no handler: `parse_event_list` -> None
  | decoded (pid : Nat) (prot : List String)        -- one of the three RealFaultAddress* kinds, fault-type byte valid
  | badType                                         -- one of the three kinds, `DbgVmFaultType(args[1] & 0xff)` raises
  | other (name : String)                           -- the code table names it something another handler decodes
  deriving DecidableEq, Repr

def classify (env : Env) (events : List Kevent) : Real :=
  match firstReal events with
  | none => .absent
  | some r =>
    match env.codes r.eventid with
    | none => .undecoded
    | some n =>
      if n ∈ realFaultClasses then
        match faultName (arg r 1 &&& 0xff) with
        | none => .badType
        | some _ => .decoded (arg r 3) (toVmProt ((arg r 1 >>> 8) &&& 0xff))
      else if isHandled env n then .other n else .undecoded

/-- `MachVmfault.__str__` up to the result. -/
def vmHead (s e : Kevent) : String :=
  s!"MachVmfault, addr: {pyHex (arg s 1)}, is_kernel: {if arg s 2 = 0 then "False" else "True"}, result: {arg e 2}"

/-- The page-fault trace the property prescribes (`self` stands for the cases the property is silent about). -/
def vmfaultExpected (env : Env) (t : Tabs) (events : List Kevent) (self : HRes) : HRes :=
  let s := firstOf events
  let e := lastOf events
  if arg e 2 ≠ 0 then
    .ok (some (mk "MACH_vmfault" events (vmHead s e) (.vmfault (arg e 2) none none none)), t)
  else
    match faultName (arg e 3) with
    | none => .error .valueError
    | some ft =>
      match classify env events with
      | .absent | .undecoded =>
        .ok (some (mk "MACH_vmfault" events (vmHead s e ++ s!", type: {ft}") (.vmfault 0 (some ft) none none)), t)
      | .decoded pid prot =>
        .ok (some (mk "MACH_vmfault" events
              (vmHead s e ++ s!", type: {ft}, vm_prot: {" | ".intercalate prot}, pid: {pid}")
              (.vmfault 0 (some ft) (some pid) (some prot))), t)
      | .badType => .error .valueError
      | .other _ => self

theorem enumNameOfValue_faultType {env : Env} (h : StdEnv env) (x : Nat) :
    enumNameOfValue env "DbgVmFaultType" x = faultName x := by
  unfold enumNameOfValue faultName
  rw [h.tables, find_faultType]

theorem realEvents_eq (events : List Kevent) : realEvents events = (interior events).filter inRange := rfl

/-- The nested records are decoded by `parse_event_list` itself (the recursion fuel of the model is invisible):
    whatever handler the code table names for the first in-range record receives ALL in-range records of
    `events[1:-1]`; `None` from it leaves pid/protection out, an object without both attributes raises. -/
theorem vmfault_nested (env : Env) (t : Tabs) (events : List Kevent) :
    handle env t "MACH_vmfault" events = hMachVmfault (parseEventList env) env t events := by
  rw [handle_unfold, handleWith_vmfault]

/-- What `parse_event_list` makes of the in-range records, by the classification of the first of them. -/
theorem nested_classify {env : Env} (h : StdEnv env) (t : Tabs) (events : List Kevent)
    (hwf : ∀ e ∈ events, e.values.length = 4) :
    match classify env events with
    | .absent => realEvents events = []
    | .undecoded => parseEventList env t (realEvents events) = .ok (none, t)
    | .decoded pid prot => (realEvents events).isEmpty = false ∧
        ∃ out, parseEventList env t (realEvents events) = .ok (some out, t) ∧ pidProtOf out = .ok (some pid, some prot)
    | .badType => (realEvents events).isEmpty = false ∧ parseEventList env t (realEvents events) = .error .valueError
    | .other _ => True := by
  unfold classify
  cases hfr : firstReal events with
  | none => exact List.filter_eq_nil_iff.mpr (List.find?_eq_none.mp hfr)
  | some r =>
    obtain ⟨rest, hreal⟩ : ∃ rest, realEvents events = r :: rest :=
      List.head?_eq_some_iff.mp (List.head?_filter.trans hfr)
    have hr4 : r.values.length = 4 :=
      hwf r (List.mem_of_mem_drop (List.dropLast_subset _ (List.mem_of_find?_eq_some hfr)))
    rw [hreal, parseEventList_unfold]
    cases hc : env.codes r.eventid with
    | none => simp [parseEventListWith, hc]
    | some n =>
      by_cases hn : n ∈ realFaultClasses
      · -- the generated RealFaultAddress* decoder runs on `r :: rest`
        have hp := parse_realFault h (parseEventList env) t r rest n hn hc hr4
        have hprot : ∀ x, (vmProtMembers x).map (·.name) = toVmProt x := by
          intro x; unfold vmProtMembers toVmProt; split <;> rfl
        simp only [hc, hn, if_true, faultName]
        cases hm : Gen.Enums.DbgVmFaultType.ofValue ((arg r 1 &&& 255 : Nat) : Int) <;> rw [hm] at hp
        · exact ⟨rfl, hp⟩
        · exact ⟨rfl, hprot _ ▸ hp⟩
      · by_cases hh : isHandled env n = true
        · simp only [hc, hn, hh, if_true, if_false]
        · simp [parseEventListWith, hc, hn, hh]

/-- **C20, page faults.**  The trace's result is word 2 of the END record.  When it is non-zero nothing else is
    shown.  When it is 0 the fault type is the enum name of END word 3 (ValueError when it is not a member).  Pid and
    protection come from the FIRST record of `events[1:-1]` whose id lies in 0x1320008..0x1320014, provided the code
    table names it one of the three decoded kinds and its own fault-type byte (`word1 & 0xff`) is a member
    (ValueError otherwise): pid = its word 3, protection = `to_vm_prot((word1 >> 8) & 0xff)`.  They are omitted
    (None, and absent from the text) when there is no such record or the first one is of a kind without a handler
    (fix F13).  `str(trace)` shows exactly these; the context tables are untouched.  (`Real.other`: a custom code
    table makes another handler decode the in-range records — see `vmfault_other_handler`.) -/
theorem vmfault_spec (env : Env) (h : StdEnv env) (t : Tabs) (events : List Kevent)
    (hwf : ∀ e ∈ events, e.values.length = 4) :
    handle env t "MACH_vmfault" events = vmfaultExpected env t events (handle env t "MACH_vmfault" events) := by
  rw [vmfault_nested]
  unfold vmfaultExpected vmHead
  by_cases hres : arg (lastOf events) 2 = 0
  · simp only [hres, ne_eq, not_true_eq_false, if_false]
    cases hft : faultName (arg (lastOf events) 3) with
    | none => simp only [hMachVmfault, vmfaultCore, hres, ne_eq, not_true_eq_false, if_false, enumNameOfValue_faultType h, hft, Except.map]
    | some ft =>
      have key := nested_classify h t events hwf
      simp only [hMachVmfault, vmfaultCore, hres, ne_eq, not_true_eq_false, if_false, enumNameOfValue_faultType h, hft]
      cases hcl : classify env events <;> simp only [hcl] at key ⊢
      · simp only [key, List.isEmpty_nil, if_true, Except.map]
      · cases (realEvents events).isEmpty <;> simp only [key, if_true, if_false, Bool.false_eq_true, Except.map]
      · obtain ⟨hne, out, hp, hpp⟩ := key
        simp only [hne, hp, hpp, Bool.false_eq_true, if_false, Except.map]
      · simp only [key.1, key.2, Bool.false_eq_true, if_false, Except.map]
  · simp only [hMachVmfault, vmfaultCore, hres, ne_eq, not_false_eq_true, if_true, Except.map]

/-- `vmfault_spec` for result 0 when the first in-range record is of a kind without a handler. -/
theorem vmfault_plain (env : Env) (h : StdEnv env) (t : Tabs) (events : List Kevent)
    (hwf : ∀ e ∈ events, e.values.length = 4) (ft : String) (hres : arg (lastOf events) 2 = 0)
    (hft : faultName (arg (lastOf events) 3) = some ft) (hc : classify env events = .undecoded) :
    handle env t "MACH_vmfault" events =
      .ok (some (mk "MACH_vmfault" events (vmHead (firstOf events) (lastOf events) ++ s!", type: {ft}")
        (.vmfault 0 (some ft) none none)), t) := by
  rw [vmfault_spec env h t events hwf]
  simp only [vmfaultExpected, hres, hft, hc, ne_eq, not_true_eq_false, if_false]

/-- `vmfault_spec` for result 0 when the first in-range record is decoded. -/
theorem vmfault_decoded (env : Env) (h : StdEnv env) (t : Tabs) (events : List Kevent)
    (hwf : ∀ e ∈ events, e.values.length = 4) (ft : String) (pid : Nat) (prot : List String)
    (hres : arg (lastOf events) 2 = 0) (hft : faultName (arg (lastOf events) 3) = some ft)
    (hc : classify env events = .decoded pid prot) :
    handle env t "MACH_vmfault" events =
      .ok (some (mk "MACH_vmfault" events
        (vmHead (firstOf events) (lastOf events) ++ s!", type: {ft}, vm_prot: {" | ".intercalate prot}, pid: {pid}")
        (.vmfault 0 (some ft) (some pid) (some prot))), t) := by
  rw [vmfault_spec env h t events hwf]
  simp only [vmfaultExpected, hres, hft, hc, ne_eq, not_true_eq_false, if_false]

/-- `Real.other`: a handler that returns an object lacking `pid`/`caller_prot` makes the page-fault handler raise
    AttributeError (`unmodelled` stands for "AttributeError after the nested handler changed the context tables",
    which the model's error channel cannot express). -/
theorem vmfault_other_handler (env : Env) (h : StdEnv env) (t t' : Tabs) (events : List Kevent) (ft : String)
    (out : TraceOut) (hres : arg (lastOf events) 2 = 0) (hft : faultName (arg (lastOf events) 3) = some ft)
    (hne : realEvents events ≠ []) (hnested : parseEventList env t (realEvents events) = .ok (some out, t'))
    (hattr : pidProtOf out = .error .attributeError) :
    handle env t "MACH_vmfault" events = .error .attributeError ∨
    handle env t "MACH_vmfault" events = .error .unmodelled := by
  rw [vmfault_nested]
  simp only [hMachVmfault, vmfaultCore, hres, ne_eq, not_true_eq_false, if_false, enumNameOfValue_faultType h, hft,
    List.isEmpty_eq_false_iff.mpr hne, hnested, hattr, Bool.false_eq_true]
  by_cases hs : t'.same t = true
  · left; simp only [hs, if_true, Except.map]
  · right; simp only [hs, if_false, Except.map, Bool.false_eq_true]

/-- What of a handler answer is not the record list itself: handler key, `str(trace)`, payload; the tables. -/
def payload (r : Option TraceOut × Tabs) : Option (String × Except PyErr String × Extra) × Tabs :=
  (r.1.map fun o => (o.name, o.text, o.extra), r.2)

theorem window_first (s e : Kevent) (mid : List Kevent) : firstOf (s :: mid ++ [e]) = s := rfl

theorem window_last (s e : Kevent) (mid : List Kevent) : lastOf (s :: mid ++ [e]) = e := by
  rw [lastOf, List.getLast?_concat]
  rfl

theorem window_interior (s e : Kevent) (mid : List Kevent) : interior (s :: mid ++ [e]) = mid := by
  simp [interior]

/-- **C20, page faults: nothing else contributes.**  For a window `START :: mid ++ [END]` the trace (text, payload,
    exception, tables) depends on START, END and the in-range records of `mid` only: the START/END records themselves
    are never candidates (even when a custom code table puts their id into the range), and records outside the id
    range — unrelated same-thread records — may be added, removed or reordered freely. -/
theorem vmfault_ignores_outside (env : Env) (t : Tabs) (s e : Kevent) (mid₁ mid₂ : List Kevent)
    (h : mid₁.filter inRange = mid₂.filter inRange) :
    (handle env t "MACH_vmfault" (s :: mid₁ ++ [e])).map payload =
    (handle env t "MACH_vmfault" (s :: mid₂ ++ [e])).map payload := by
  rw [vmfault_nested, vmfault_nested]
  unfold hMachVmfault
  rw [window_first, window_first, window_last, window_last, realEvents_eq, realEvents_eq, window_interior,
    window_interior, h]
  cases vmfaultCore (parseEventList env) env t s e (mid₂.filter inRange) <;> rfl

/-- In particular a two-record window (START, END) has no candidate, whatever the ids. -/
theorem vmfault_start_end_not_candidates (env : Env) (s e : Kevent) : classify env [s, e] = .absent := rfl

/-- `(load_addr, uuid bytes)` of a map / shared-cache record: word 2 and the first 16 data bytes. -/
def imageOf (e : Kevent) : Nat × Bytes := (arg e 2, e.data.take 16)

/-- All nested `DYLD_uuid_map_a` records followed by all `DYLD_uuid_shared_cache_a` records, in window order. -/
def launchEntries (env : Env) (events : List Kevent) : List (Nat × Bytes) :=
  (events.filter (fun e => env.codes e.eventid == some "DYLD_uuid_map_a") ++
   events.filter (fun e => env.codes e.eventid == some "DYLD_uuid_shared_cache_a")).map imageOf

/-- **C20, launch.**  `uuid_map_a` lists every nested `DYLD_uuid_map_a` record and every nested
    `DYLD_uuid_shared_cache_a` record and nothing else (`Perm`), each with load address = word 2 and uuid = the first
    16 data bytes, in ascending order of load address (`Pairwise`), stably: for every address the entries with that
    address appear in the order "map records in window order, then shared-cache records in window order".
    (Every kernel record carries 32 data bytes; with fewer than 16 `UUID(bytes=…)` raises ValueError.) -/
theorem launch_spec (env : Env) (t : Tabs) (events : List Kevent) (hdata : ∀ e ∈ events, 16 ≤ e.data.length) :
    ∃ imgs, handle env t "DBG_DYLD_TIMING_LAUNCH_EXECUTABLE" events =
        .ok (some (mk "DBG_DYLD_TIMING_LAUNCH_EXECUTABLE" events
              s!"DBG_DYLD_TIMING_LAUNCH_EXECUTABLE, main_executable_mh: {pyHex (arg (firstOf events) 1)}"
              (.launch imgs)), t)
      ∧ imgs.Perm (launchEntries env events)
      ∧ imgs.Pairwise (fun a b => a.1 ≤ b.1)
      ∧ ∀ a, imgs.filter (fun i => i.1 == a) = (launchEntries env events).filter (fun i => i.1 == a) := by
  refine ⟨sortStable (launchEntries env events), ?_, sortStable_perm _, sortStable_sorted _,
    fun a => sortStable_filter a _⟩
  show handleWith _ env t "DBG_DYLD_TIMING_LAUNCH_EXECUTABLE" events = _
  rw [handleWith_launch]
  unfold hDyldLaunch
  dsimp only
  rw [mapM_ok _ imageOf _ (by
    intro e he
    have hd : 16 ≤ e.data.length := by
      rcases List.mem_append.mp he with he | he <;> exact hdata e (List.mem_filter.mp he).1
    rw [uuidBytes_ok e hd]; rfl)]
  rfl

/-- `parser.trace_codes.get(ev.eventid, '') == name` -/
def named (env : Env) (n : String) (e : Kevent) : Bool := (env.codes e.eventid).getD "" == n

def samplerNames (x : Nat) : List String := (Gen.Enums.SamplerAction.flagsOf x).map (·.name)
def callstackNames (x : Nat) : List String := (Gen.Enums.CallstackFlag.flagsOf x).map (·.name)

/-- The words of all `PERF_STK_UData` records of the window, chained in window order. -/
def udataWords (env : Env) (events : List Kevent) : List Nat :=
  ((events.filter (named env "PERF_STK_UData")).map (·.values)).flatten

/-- Thread info requested (bit 0 = SAMPLER_TH_INFO) and supplied: (pid, tid) of the FIRST `PERF_THD_Data` record. -/
def thInfoOf (env : Env) (events : List Kevent) : Option (Nat × Nat) :=
  if arg (firstOf events) 0 &&& 1 ≠ 0 then
    (events.find? (named env "PERF_THD_Data")).map fun r => (arg r 0, arg r 1)
  else none

/-- User stack requested (bit 3 = SAMPLER_USTACK) and announced: the first N chained words, N = word 1 of the FIRST
    `PERF_STK_UHdr` record, and the callstack flag names of its word 0. -/
def stackOf (env : Env) (events : List Kevent) : Option (List Nat × List String) :=
  if arg (firstOf events) 0 &&& 8 ≠ 0 then
    (events.find? (named env "PERF_STK_UHdr")).map fun hd =>
      ((udataWords env events).take (arg hd 1), callstackNames (arg hd 0))
  else none

theorem samplerAction_names_nodup : (Gen.Enums.SamplerAction.iter.map (·.name)).Nodup := by decide +kernel

/-- Bit 0 of the flag word is SAMPLER_TH_INFO (reflected `SamplerAction`). -/
theorem thInfo_bit (x : Nat) : (samplerNames x).contains "SAMPLER_TH_INFO" = decide (x &&& 1 ≠ 0) :=
  contains_flag_name Gen.Enums.SamplerAction ⟨"SAMPLER_TH_INFO", 1⟩ (by decide +kernel) samplerAction_names_nodup
    (by decide) x

/-- Bit 3 of the flag word is SAMPLER_USTACK (reflected `SamplerAction`). -/
theorem ustack_bit (x : Nat) : (samplerNames x).contains "SAMPLER_USTACK" = decide (x &&& 8 ≠ 0) :=
  contains_flag_name Gen.Enums.SamplerAction ⟨"SAMPLER_USTACK", 8⟩ (by decide +kernel) samplerAction_names_nodup
    (by decide) x

theorem enumNamesOf_sampler {env : Env} (h : StdEnv env) (x : Nat) : enumNamesOf env "SamplerAction" x = samplerNames x := by
  unfold enumNamesOf samplerNames; rw [h.tables, find_sampler]

theorem enumNamesOf_callstack {env : Env} (h : StdEnv env) (x : Nat) : enumNamesOf env "CallstackFlag" x = callstackNames x := by
  unfold enumNamesOf callstackNames; rw [h.tables, find_callstack]

/-- **C20, sampler.**  Thread info is present iff flag bit 0 of START word 0 is set AND a `PERF_THD_Data` record
    is in the window: then pid/tid are words 0/1 of the FIRST such record and `threads_pids[tid] = pid` is recorded;
    otherwise the tables are untouched.  The user stack is present iff bit 3 is set AND a `PERF_STK_UHdr` record is
    in the window: then the frames are the first N words of the chained `PERF_STK_UData` records (N = word 1 of the
    first header) and the flags are the callstack flag names of its word 0.  `str(trace)` ends in `frames count` exactly
    when frames are present. -/
theorem sampler_spec (env : Env) (h : StdEnv env) (t : Tabs) (events : List Kevent) :
    handle env t "PERF_Event" events =
      .ok (some (mk "PERF_Event" events
            (s!"PERF_Event, sample_what: {" | ".intercalate (samplerNames (arg (firstOf events) 0))}, actionid: {arg (firstOf events) 1}"
              ++ (match stackOf env events with
                  | some st => s!", frames count: {st.1.length}"
                  | none => ""))
            (.perf (thInfoOf env events) ((stackOf env events).map (·.1)) ((stackOf env events).map (·.2)))),
           match thInfoOf env events with
           | some (pid, tid) => { t with threadsPids := t.threadsPids.set tid pid }
           | none => t) := by
  -- the hand model asks for the head of a filtered list where the specification says `find?`
  have hf : ∀ n, events.find? (named env n) = (events.filter (namedIs env n)).head? := fun n => List.head?_filter.symm
  show handleWith _ env t "PERF_Event" events = _
  rw [handleWith_perf]
  unfold hPerfEvent thInfoOf stackOf
  simp only [enumNamesOf_sampler h, enumNamesOf_callstack h, thInfo_bit, ustack_bit, decide_eq_true_eq, hf]
  cases events.filter (namedIs env "PERF_THD_Data") <;> cases events.filter (namedIs env "PERF_STK_UHdr") <;>
    by_cases h0 : arg (firstOf events) 0 &&& 1 = 0 <;> by_cases h3 : arg (firstOf events) 0 &&& 8 = 0 <;>
    simp only [h0, h3, ne_eq, not_true_eq_false, not_false_eq_true, if_true, if_false, List.head?_nil, List.head?_cons,
      Option.map_none, Option.map_some, String.append_empty] <;> rfl

/-- Thread info present ⇔ bit 0 (SAMPLER_TH_INFO) set ∧ a `PERF_THD_Data` record in the window. -/
theorem sampler_thinfo_iff (env : Env) (events : List Kevent) :
    (thInfoOf env events).isSome ↔
      (arg (firstOf events) 0 &&& 1 ≠ 0 ∧ ∃ r ∈ events, named env "PERF_THD_Data" r = true) := by
  unfold thInfoOf
  by_cases h0 : arg (firstOf events) 0 &&& 1 = 0
  · simp [h0]
  · simp only [ne_eq, h0, not_false_eq_true, if_true, Option.isSome_map, List.find?_isSome, true_and]

/-- User stack present ⇔ bit 3 (SAMPLER_USTACK) set ∧ a `PERF_STK_UHdr` record in the window; `PERF_STK_UData`
    records alone (header-less) never make a stack. -/
theorem sampler_stack_iff (env : Env) (events : List Kevent) :
    (stackOf env events).isSome ↔
      (arg (firstOf events) 0 &&& 8 ≠ 0 ∧ ∃ r ∈ events, named env "PERF_STK_UHdr" r = true) := by
  unfold stackOf
  by_cases h0 : arg (firstOf events) 0 &&& 8 = 0
  · simp [h0]
  · simp only [ne_eq, h0, not_false_eq_true, if_true, Option.isSome_map, List.find?_isSome, true_and]

/-- Which record wins: the first `PERF_THD_Data` record of the window (`pre` holds none). -/
theorem sampler_thinfo_first (env : Env) (pre post : List Kevent) (r : Kevent)
    (hbit : arg (firstOf (pre ++ r :: post)) 0 &&& 1 ≠ 0)
    (hpre : ∀ x ∈ pre, named env "PERF_THD_Data" x = false) (hr : named env "PERF_THD_Data" r = true) :
    thInfoOf env (pre ++ r :: post) = some (arg r 0, arg r 1) := by
  unfold thInfoOf
  rw [if_pos hbit, List.find?_append, List.find?_eq_none.mpr (by simpa using hpre)]
  simp [hr]

/-- Which header wins, and what it selects: the first `PERF_STK_UHdr` record; N = its word 1. -/
theorem sampler_stack_first (env : Env) (pre post : List Kevent) (r : Kevent)
    (hbit : arg (firstOf (pre ++ r :: post)) 0 &&& 8 ≠ 0)
    (hpre : ∀ x ∈ pre, named env "PERF_STK_UHdr" x = false) (hr : named env "PERF_STK_UHdr" r = true) :
    stackOf env (pre ++ r :: post) =
      some ((udataWords env (pre ++ r :: post)).take (arg r 1), callstackNames (arg r 0)) := by
  unfold stackOf
  rw [if_pos hbit, List.find?_append, List.find?_eq_none.mpr (by simpa using hpre)]
  simp [hr]

/-- Flag-less variant: with bits 0 and 3 clear the trace carries neither, whatever records the window holds, the
    text has no `frames count` and the tables are untouched. -/
theorem sampler_flagless (env : Env) (h : StdEnv env) (t : Tabs) (events : List Kevent)
    (h0 : arg (firstOf events) 0 &&& 1 = 0) (h3 : arg (firstOf events) 0 &&& 8 = 0) :
    handle env t "PERF_Event" events =
      .ok (some (mk "PERF_Event" events
            s!"PERF_Event, sample_what: {" | ".intercalate (samplerNames (arg (firstOf events) 0))}, actionid: {arg (firstOf events) 1}"
            (.perf none none none)), t) := by
  rw [sampler_spec env h]
  simp only [thInfoOf, stackOf, h0, h3, ne_eq, not_true_eq_false, if_false, Option.map_none, String.append_empty]

/-- Header-less / record-less variant: all flags set but no `PERF_THD_Data` and no `PERF_STK_UHdr` record in the
    window — again neither (stray `PERF_STK_UData` records are ignored). -/
theorem sampler_recordless (env : Env) (h : StdEnv env) (t : Tabs) (events : List Kevent)
    (hth : ∀ x ∈ events, named env "PERF_THD_Data" x = false)
    (hhd : ∀ x ∈ events, named env "PERF_STK_UHdr" x = false) :
    handle env t "PERF_Event" events =
      .ok (some (mk "PERF_Event" events
            s!"PERF_Event, sample_what: {" | ".intercalate (samplerNames (arg (firstOf events) 0))}, actionid: {arg (firstOf events) 1}"
            (.perf none none none)), t) := by
  rw [sampler_spec env h]
  have e1 : events.find? (named env "PERF_THD_Data") = none := List.find?_eq_none.mpr (by simpa using hth)
  have e2 : events.find? (named env "PERF_STK_UHdr") = none := List.find?_eq_none.mpr (by simpa using hhd)
  simp only [thInfoOf, stackOf, e1, e2, Option.map_none, ite_self, String.append_empty]

def codes0 : Nat → Option String := fun k => List.lookup k
  [(0x1300008, "MACH_vmfault"), (0x1320008, "RealFaultAddressInternal"), (0x132000c, "RealFaultAddressPurgeable"),
   (0x1320010, "RealFaultAddressExternal"), (0x1400000, "MACH_SCHED"), (0x1f070004, "DBG_DYLD_TIMING_LAUNCH_EXECUTABLE"),
   (0x1f050000, "DYLD_uuid_map_a"), (0x1f050008, "DYLD_uuid_shared_cache_a"), (0x25000000, "PERF_Event"),
   (0x25010000, "PERF_THD_Data"), (0x25020010, "PERF_STK_UHdr"), (0x25020014, "PERF_STK_UData")]

def env0 : Env :=
  { codes := codes0, host := ⟨fun _ => none, fun _ => none, fun _ => none, fun _ => none, 0⟩,
    tables := Gen.Decoders.tables, decoders := Gen.Decoders.decoders, dec := fun _ => .ok "" }

theorem env0_std : StdEnv env0 := ⟨rfl, rfl⟩

def ev (ts eid q : Nat) (vals : List Nat) (data : Bytes := List.replicate 32 0) : Kevent :=
  { timestamp := ts, data := data, values := vals, tid := 5, debugid := eid ||| q, eventid := eid, qual := q }

/-- START, an unrelated scheduler record, a Purgeable-free pair of real-fault records (Internal wins), END. -/
def vmWin : List Kevent :=
  [ev 1 0x1300008 1 [0, 0x7000, 1, 0], ev 2 0x1400000 0 [1, 2, 3, 4],
   ev 3 0x1320008 0 [0x1000, 0x50302, 11, 22], ev 4 0x1320010 0 [0x2000, 0x50103, 33, 44],
   ev 5 0x1300008 2 [0, 0, 0, 2]]

theorem classify_vmWin : classify env0 vmWin = .decoded 22 ["VM_PROT_READ", "VM_PROT_WRITE"] := by decide +kernel

example : classify env0 vmWin = .decoded 22 ["VM_PROT_READ", "VM_PROT_WRITE"] := classify_vmWin
example : ∀ e ∈ vmWin, e.values.length = 4 := by decide

example : ∃ text, handle env0 {} "MACH_vmfault" vmWin =
    .ok (some (mk "MACH_vmfault" vmWin text
      (.vmfault 0 (some "DBG_PAGEIN_FAULT") (some 22) (some ["VM_PROT_READ", "VM_PROT_WRITE"]))), {}) :=
  ⟨_, vmfault_decoded env0 env0_std {} vmWin (by decide) _ _ _ rfl (by decide +kernel) classify_vmWin⟩

/-- The first in-range record is of the kind without a handler (F13): pid and protection are omitted although a
    decodable record follows. -/
def vmWinPurgeable : List Kevent :=
  [ev 1 0x1300008 1 [0, 0x7000, 0, 0], ev 2 0x132000c 0 [0x1000, 0x50302, 11, 22],
   ev 3 0x1320010 0 [0x2000, 0x50103, 33, 44], ev 4 0x1300008 2 [0, 0, 0, 1]]

/-- `RealFaultAddressPurgeable` names no generated decoder: the evaluation scans the whole decoder table. -/
theorem classify_vmWinPurgeable : classify env0 vmWinPurgeable = .undecoded := by decide +kernel

example : classify env0 vmWinPurgeable = .undecoded := classify_vmWinPurgeable

example : ∃ text, handle env0 {} "MACH_vmfault" vmWinPurgeable =
    .ok (some (mk "MACH_vmfault" vmWinPurgeable text (.vmfault 0 (some "DBG_ZERO_FILL_FAULT") none none)), {}) :=
  ⟨_, vmfault_plain env0 env0_std {} vmWinPurgeable (by decide) _ rfl (by decide +kernel) classify_vmWinPurgeable⟩

/-- ValueError guards are reachable: END word 3 = 77, resp. fault-type byte 0x4d of the nested record. -/
example : faultName 77 = none := by decide +kernel
example : classify env0 [ev 1 0x1300008 1 [0, 0, 0, 0], ev 2 0x1320008 0 [1, 0x34d, 3, 4], ev 3 0x1300008 2 [0, 0, 0, 1]]
    = .badType := by decide +kernel
/-- A custom code table that names an in-range id after another handler. -/
example : classify { env0 with codes := fun k => if k = 0x1320010 then some "MACH_SCHED" else codes0 k }
    [ev 1 0x1300008 1 [0, 0, 0, 0], ev 2 0x1320010 0 [1, 2, 3, 4], ev 3 0x1300008 2 [0, 0, 0, 1]] = .other "MACH_SCHED" := by
  decide +kernel

/-- `vmfault_ignores_outside` applies: the scheduler record of `vmWin` may be dropped. -/
example : (vmWin.drop 1).dropLast.filter inRange = ((vmWin.drop 1).dropLast.eraseIdx 0).filter inRange := by decide

def u (b : Nat) : Bytes := List.replicate 16 b ++ List.replicate 16 0

/-- Launch: two map records and two shared-cache records, equal and out-of-order addresses, an unrelated record. -/
def launchWin : List Kevent :=
  [ev 1 0x1f070004 1 [0, 0x10000, 0, 0], ev 2 0x1f050008 0 [0, 0, 0x2000, 7] (u 1), ev 3 0x1f050000 0 [0, 0, 0x3000, 7] (u 2),
   ev 4 0x1400000 0 [1, 2, 3, 4] (u 9), ev 5 0x1f050000 0 [0, 0, 0x2000, 7] (u 3), ev 6 0x1f050008 0 [0, 0, 0x1000, 7] (u 4),
   ev 7 0x1f070004 2 [0, 0, 0, 0]]

theorem launchEntries_launchWin : launchEntries env0 launchWin =
    [(0x3000, List.replicate 16 2), (0x2000, List.replicate 16 3), (0x2000, List.replicate 16 1), (0x1000, List.replicate 16 4)] := by
  decide +kernel

example : ∀ e ∈ launchWin, 16 ≤ e.data.length := by decide +kernel
example : ∃ imgs, handle env0 {} "DBG_DYLD_TIMING_LAUNCH_EXECUTABLE" launchWin =
      .ok (some (mk "DBG_DYLD_TIMING_LAUNCH_EXECUTABLE" launchWin
            s!"DBG_DYLD_TIMING_LAUNCH_EXECUTABLE, main_executable_mh: {pyHex (arg (firstOf launchWin) 1)}" (.launch imgs)), {})
    ∧ imgs.length = 4 := by
  obtain ⟨imgs, h1, h2, _⟩ := launch_spec env0 {} launchWin (by decide)
  exact ⟨imgs, h1, by rw [h2.length_eq, launchEntries_launchWin]; rfl⟩
example : launchEntries env0 launchWin =
    [(0x3000, List.replicate 16 2), (0x2000, List.replicate 16 3), (0x2000, List.replicate 16 1), (0x1000, List.replicate 16 4)] :=
  launchEntries_launchWin
example : sortStable (launchEntries env0 launchWin) =
    [(0x1000, List.replicate 16 4), (0x2000, List.replicate 16 3), (0x2000, List.replicate 16 1), (0x3000, List.replicate 16 2)] := by
  rw [launchEntries_launchWin]
  decide +kernel

/-- Sampler: all four flag/record situations occur. -/
def sampleWin (flags : Nat) : List Kevent :=
  [ev 1 0x25000000 1 [flags, 1, 0, 0], ev 2 0x25010000 0 [10, 100, 0, 1], ev 3 0x25010000 0 [11, 101, 0, 1],
   ev 4 0x25020010 0 [5, 6, 0, 0], ev 5 0x25020014 0 [1, 2, 3, 4], ev 6 0x1400000 0 [9, 9, 9, 9],
   ev 7 0x25020014 0 [5, 6, 7, 8], ev 8 0x25000000 2 [flags, 1, 0, 0]]

example : thInfoOf env0 (sampleWin 9) = some (10, 100) := by decide +kernel
example : stackOf env0 (sampleWin 9) = some ([1, 2, 3, 4, 5, 6], ["CALLSTACK_VALID", "CALLSTACK_64BIT"]) := by decide +kernel
example : thInfoOf env0 (sampleWin 8) = none ∧ (stackOf env0 (sampleWin 8)).isSome = true := by decide +kernel
example : (thInfoOf env0 (sampleWin 1)).isSome = true ∧ stackOf env0 (sampleWin 1) = none := by decide +kernel
example : thInfoOf env0 (sampleWin 0x3ff6) = none ∧ stackOf env0 (sampleWin 0x3ff6) = none := by decide +kernel
/-- header-less: bit 3 set, data records present, no header -/
example : stackOf env0 ((sampleWin 8).eraseIdx 3) = none := by decide +kernel

/-! ## Translation tie: the composite handlers are the translated source

  `tools/gen_pyir_co.py` translates the source text of perf.py (`handle_event`, `handle_thd_data` and the other three
  handlers, their dataclasses' `__str__`), of `handle_mach_vmfault` (mach.py) and of `handle_timing_launch_executable` with
  the two image handlers it calls (dyld.py) into the Python-subset IR of `Model/PyIRCo` on every run (`Gen/PyIRCo`).  The
  theorems below say that the generated terms, run by the big-step interpreter, ARE the hand-model functions the theorems
  above speak about — for every environment (code table, enum tables), every meaning of the nested `parse_event_list`,
  all tables and every non-empty window of four-word records (`Words4`: what `from_kd_buf` produces; the hand model
  totalises `values[k]` with `getD`, the interpreter raises IndexError like Python). -/

/-- **The translated source is the program the refinement lemmas were proved for** (`Spec/PyIRCoExpected`, quoting the
    Python): every handler body, every `__str__`, the `handlers` entries of the three modules — and the translator met
    nothing outside the subset. -/
theorem source_is_expected_ir :
    Gen.PyIRCo.perf = PyIRCo.Expected.perf ∧ Gen.PyIRCo.mach = PyIRCo.Expected.mach ∧
    Gen.PyIRCo.dyld = PyIRCo.Expected.dyld ∧ Gen.PyIRCo.notes = [] := by decide +kernel

section ir
open PyIRCo
variable (env : Env) (nested : NestedFn) (t : Tabs) (e : Kevent) (rest : List Kevent)

/-- **`handle_thd_data`, interpreted, is `hPerfThdData`**: `threads_pids[word 1] = word 0`, the text
    `PERF_THD_Data, pid: …, tid: …, dq_addr: 0x…, runmode: …` with the `KperfTiState` names of `word 3 & 0xffff`. -/
theorem handle_thd_data_ir_eq_model (h4 : e.values.length = 4) :
    runHandler Gen.PyIRCo.perf env nested "PERF_THD_Data" t (e :: rest) = hPerfThdData env t (e :: rest) := by
  rw [source_is_expected_ir.1]; exact run_thdData env nested t e rest h4

/-- **`handle_event`, interpreted, is `hPerfEvent`**: thread info (through the interpreted `handle_thd_data`, tables
    included) iff `SamplerAction.SAMPLER_TH_INFO in sample_what` and the window holds a `PERF_THD_Data` record; user stack
    iff `SAMPLER_USTACK` and a `PERF_STK_UHdr` record — frames = the first `nframes` words of the chained
    `handle_stk_udata(parser, [ev]).frames`, flags from the interpreted `handle_stk_uhdr`; `str()` through the translated
    `PerfEvent.__str__`; the payload read off the returned object. -/
theorem handle_event_ir_eq_model (hw : Words4 (e :: rest)) :
    runHandler Gen.PyIRCo.perf env nested "PERF_Event" t (e :: rest) = hPerfEvent env t (e :: rest) := by
  rw [source_is_expected_ir.1]; exact run_event env nested t e rest hw

/-- `sampler_spec` (and with it `sampler_thinfo_iff` … `sampler_recordless`) speaks about the translated source: the
    subject `handle env t "PERF_Event"` of those theorems is the interpreted generated handler. -/
theorem sampler_subject_is_source (hw : Words4 (e :: rest)) :
    handle env t "PERF_Event" (e :: rest) = runHandler Gen.PyIRCo.perf env nested "PERF_Event" t (e :: rest) := by
  rw [handle_event_ir_eq_model env nested t e rest hw]
  show handleWith _ env t "PERF_Event" (e :: rest) = _
  rw [handleWith_perf]

/-- **`handle_mach_vmfault`, interpreted, is `hMachVmfault`** — whatever `parser.parse_event_list` means (`nested`):
    result = END word 2; for result 0 the fault type `DbgVmFaultType(END word 3)` (ValueError outside the enum, before
    anything else happens), then `nested` on the records of `events[1:-1]` with `0x1320008 <= eventid <= 0x1320014` if
    there are any; `None` from it leaves pid / protection out, otherwise they are `.pid` / `.caller_prot` of what it
    returned (`pidProtOf`); an exception of `nested` or of the attribute reads is the handler's (an attribute error after
    `nested` changed the tables: `.unmodelled`, as in the hand model); `str()` through the translated
    `MachVmfault.__str__`. -/
theorem handle_mach_vmfault_ir_eq_model (hw : Words4 (e :: rest)) :
    runHandler Gen.PyIRCo.mach env nested "MACH_vmfault" t (e :: rest) = hMachVmfault nested env t (e :: rest) := by
  rw [source_is_expected_ir.2.1]; exact run_vmfault env nested t e rest hw

/-- `vmfault_spec`, `vmfault_ignores_outside`, `vmfault_other_handler` speak about the translated source: their subject
    `handle env t "MACH_vmfault"` is the interpreted generated handler with `parse_event_list` as the nested call. -/
theorem vmfault_subject_is_source (hw : Words4 (e :: rest)) :
    handle env t "MACH_vmfault" (e :: rest) =
      runHandler Gen.PyIRCo.mach env (parseEventList env) "MACH_vmfault" t (e :: rest) := by
  rw [handle_mach_vmfault_ir_eq_model env _ t e rest hw, vmfault_nested]

/-- **`handle_timing_launch_executable`, interpreted, is `hDyldLaunch`**: `uuid_map_a` = the interpreted
    `handle_uuid_map_a(parser, [e])` of every record named `DYLD_uuid_map_a`, then `handle_uuid_shared_cache_a(parser, [e])`
    of every record named `DYLD_uuid_shared_cache_a` (window order; `UUID(bytes=data[:16])` raises ValueError on a short
    record, the first one in that order), `sorted(…, key=lambda x: x.load_addr)` (stable); main_executable_mh = START word 1;
    `str()` through the translated `__str__`; tables untouched. -/
theorem handle_timing_launch_executable_ir_eq_model (hw : Words4 (e :: rest)) :
    runHandler Gen.PyIRCo.dyld env nested "DBG_DYLD_TIMING_LAUNCH_EXECUTABLE" t (e :: rest) = hDyldLaunch env t (e :: rest) := by
  rw [source_is_expected_ir.2.2.1]; exact run_launch env nested t e rest hw

/-- `launch_spec` speaks about the translated source. -/
theorem launch_subject_is_source (hw : Words4 (e :: rest)) :
    handle env t "DBG_DYLD_TIMING_LAUNCH_EXECUTABLE" (e :: rest) =
      runHandler Gen.PyIRCo.dyld env nested "DBG_DYLD_TIMING_LAUNCH_EXECUTABLE" t (e :: rest) := by
  rw [handle_timing_launch_executable_ir_eq_model env nested t e rest hw]
  show handleWith _ env t "DBG_DYLD_TIMING_LAUNCH_EXECUTABLE" (e :: rest) = _
  rw [handleWith_launch]

/-- **The whole parser with the four composite handlers taken from the source** (`PERF_Event`, `PERF_THD_Data`,
    `MACH_vmfault`, `DBG_DYLD_TIMING_LAUNCH_EXECUTABLE` interpreted from the generated programs, nested
    `parse_event_list` calls included) is `Trace.run`: same traces, same exception, same final state — from every state
    whose open windows hold four-word records, on every stream of four-word records. -/
theorem run_ir_eq_model (s : PState) (es : List Kevent)
    (hs : PInv (fun x => x.values.length = 4) s.pairing) (hw : Words4 es) :
    runVia Gen.PyIRCo.progs env s es = Trace.run env s es := by
  have h : Gen.PyIRCo.progs = PyIRCo.Expected.progs := by
    show (⟨Gen.PyIRCo.perf, Gen.PyIRCo.mach, Gen.PyIRCo.dyld⟩ : Programs) = ⟨_, _, _⟩
    rw [source_is_expected_ir.1, source_is_expected_ir.2.1, source_is_expected_ir.2.2.1]
  rw [h]; exact runVia_eq env es s hs hw

end ir

/-- Enum members are compared by (class, name) in the interpreter (`SamplerAction.SAMPLER_TH_INFO in e.sample_what`): exact
    because no two members of the reflected `SamplerAction` share a value (no aliases). -/
theorem sampler_action_has_no_alias : (Gen.Enums.SamplerAction.members.map (·.value)).Nodup := by decide

example : PyIRCo.Words4 launchWin := by decide
example : PInv (fun x => x.values.length = 4) Pairing.PState.empty := PInv_empty _

/-- the generated launch handler on `launchWin`: four images, ascending, equal addresses in "maps first" order -/
example :
    (PyIRCo.runHandler Gen.PyIRCo.dyld env0 (fun t _ => .ok (none, t)) "DBG_DYLD_TIMING_LAUNCH_EXECUTABLE" {}
        launchWin).toOption.map (fun r => r.1.map fun o => (o.text.toOption, match o.extra with | .launch i => i | _ => [])) =
      some (some (some "DBG_DYLD_TIMING_LAUNCH_EXECUTABLE, main_executable_mh: 0x10000",
        [(0x1000, List.replicate 16 4), (0x2000, List.replicate 16 3), (0x2000, List.replicate 16 1),
         (0x3000, List.replicate 16 2)])) := by decide +kernel

example : PyIRCo.Words4 vmWin := by decide

/-- the generated `handle_mach_vmfault` on `vmWin`, the nested records decoded by the model's `parse_event_list` (the
    generated `RealFaultAddressInternal` decoder): pid 22, protection READ | WRITE of the FIRST in-range record -/
example :
    (PyIRCo.runHandler Gen.PyIRCo.mach env0 (parseEventList env0) "MACH_vmfault" {} vmWin).toOption.map
        (fun r => r.1.map (·.text.toOption)) =
      some (some (some ("MachVmfault, addr: 0x7000, is_kernel: True, result: 0, type: DBG_PAGEIN_FAULT, " ++
        "vm_prot: VM_PROT_READ | VM_PROT_WRITE, pid: 22"))) := by
  have hs : handle env0 {} "MACH_vmfault" vmWin =
      PyIRCo.runHandler Gen.PyIRCo.mach env0 (parseEventList env0) "MACH_vmfault" {} vmWin :=
    vmfault_subject_is_source env0 {} _ _ (by decide)
  rw [← hs, vmfault_decoded env0 env0_std {} vmWin (by decide) "DBG_PAGEIN_FAULT" _ _ rfl (by decide +kernel) classify_vmWin]
  decide +kernel

/-- … and on `vmWinPurgeable` (first in-range record of a kind without handler): pid / protection omitted -/
example :
    (PyIRCo.runHandler Gen.PyIRCo.mach env0 (parseEventList env0) "MACH_vmfault" {} vmWinPurgeable).toOption.map
        (fun r => r.1.map (·.text.toOption)) =
      some (some (some "MachVmfault, addr: 0x7000, is_kernel: False, result: 0, type: DBG_ZERO_FILL_FAULT")) := by
  have hs : handle env0 {} "MACH_vmfault" vmWinPurgeable =
      PyIRCo.runHandler Gen.PyIRCo.mach env0 (parseEventList env0) "MACH_vmfault" {} vmWinPurgeable :=
    vmfault_subject_is_source env0 {} _ _ (by decide)
  rw [← hs, vmfault_plain env0 env0_std {} vmWinPurgeable (by decide) "DBG_ZERO_FILL_FAULT" rfl (by decide +kernel)
    classify_vmWinPurgeable]
  decide +kernel

example : PyIRCo.Words4 (sampleWin 9) := by decide

/-- the generated `handle_event` on the sample window with flags TH_INFO | USTACK: thread info of the FIRST `PERF_THD_Data`
    record, six frames, `threads_pids[100] = 10` -/
example :
    (PyIRCo.runHandler Gen.PyIRCo.perf env0 (fun t _ => .ok (none, t)) "PERF_Event" {} (sampleWin 9)).toOption.map
        (fun r => (r.1.map (·.text.toOption), r.2.threadsPids)) =
      some (some (some "PERF_Event, sample_what: SAMPLER_TH_INFO | SAMPLER_USTACK, actionid: 1, frames count: 6"),
        [(100, 10)]) := by decide +kernel

/-- the generated `handle_thd_data` -/
example :
    (PyIRCo.runHandler Gen.PyIRCo.perf env0 (fun t _ => .ok (none, t)) "PERF_THD_Data" {}
        [ev 2 0x25010000 0 [10, 100, 0x20, 5]]).toOption.map (fun r => (r.1.map (·.text.toOption), r.2.threadsPids)) =
      some (some (some "PERF_THD_Data, pid: 10, tid: 100, dq_addr: 0x20, runmode: KPERF_TI_RUNNING | KPERF_TI_WAIT"),
        [(100, 10)]) := by decide +kernel

end KdVerif.C20
